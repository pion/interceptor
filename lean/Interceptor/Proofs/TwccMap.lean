/-
C05 helper lemmas about the arrival-time map: capacity and window bounds and `get` after each
operation (`addPacket_spec`, `removeOld_spec`: the map clauses of `map_refines`, Props/C05.lean).
-/
import Interceptor.Model.Twcc
namespace Interceptor.Twcc.ArrivalMap

/-- the doubling loop from `2^k`, for a size `n ≤ 2^j` and with fuel enough to reach `2^j`, ends at a power of
two `≥ n` that is the start or at most `2^j` (this is what keeps the result `≤ 2^15` for `n ≤ 2^15`). -/
theorem growCap_spec (fuel k j : Nat) (n : Int) (hn : n ≤ ((2 ^ j : Nat) : Int)) (hj : j ≤ k + fuel) :
    ∃ k', k ≤ k' ∧ k' ≤ max k j ∧ growCap fuel (2 ^ k) n = 2 ^ k' ∧ n ≤ ((2 ^ k' : Nat) : Int) := by
  induction fuel generalizing k with
  | zero =>
    have : 2 ^ j ≤ 2 ^ k := Nat.pow_le_pow_right (by decide) hj
    exact ⟨k, Nat.le_refl _, Nat.le_max_left _ _, rfl, by omega⟩
  | succ fuel ih =>
    unfold growCap
    by_cases hlt : ((2 ^ k : Nat) : Int) < n
    · have hkj : k < j := (Nat.pow_lt_pow_iff_right (by decide)).mp (show 2 ^ k < 2 ^ j by omega)
      obtain ⟨k', h1, h2, h3, h4⟩ := ih (k + 1) (by omega)
      rw [if_pos hlt, ← Nat.pow_succ]
      exact ⟨k', by omega, by omega, h3, h4⟩
    · rw [if_neg hlt]
      exact ⟨k, Nat.le_refl _, Nat.le_max_left _ _, rfl, Int.not_lt.mp hlt⟩

theorem shrinkCap_spec (fuel k : Nat) (n : Int) (hge : max n 128 ≤ ((2 ^ k : Nat) : Int)) :
    ∃ k', k' ≤ k ∧ shrinkCap fuel (2 ^ k) n = 2 ^ k' ∧ max n 128 ≤ ((2 ^ k' : Nat) : Int) := by
  induction fuel generalizing k with
  | zero => exact ⟨k, Nat.le_refl _, rfl, hge⟩
  | succ fuel ih =>
    unfold shrinkCap minCapacity
    by_cases hc : ((2 ^ k : Nat) : Int) ≥ 2 * max n ((128 : Nat) : Int)
    · simp only [hc, if_true]
      cases k with
      | zero => simp at hc; omega
      | succ k =>
        have e : 2 ^ (k + 1) / 2 = 2 ^ k := by rw [Nat.pow_succ]; omega
        rw [e]
        have e2 : ((2 ^ (k + 1) : Nat) : Int) = 2 * ((2 ^ k : Nat) : Int) := by rw [Nat.pow_succ]; push_cast; omega
        obtain ⟨k', h1, h2, h3⟩ := ih k (by rw [e2] at hc; omega)
        exact ⟨k', by omega, h2, h3⟩
    · simp only [hc, if_false]
      exact ⟨k, Nat.le_refl _, rfl, hge⟩

/-- raw slot read (no window check). -/
def rd (buf : Array Int) (c : Nat) (x : Int) : Int := buf.getD (slot c x) 0

theorem get_def (m : ArrivalMap) (x : Int) :
    m.get x = if x < m.beginSN ∨ x ≥ m.endSN then -1 else rd m.buf m.cap x := rfl

theorem clamp_of_mem (m : ArrivalMap) (s : Int) (h1 : m.beginSN ≤ s) (h2 : s ≤ m.endSN) : m.clamp s = s := by
  unfold clamp
  rw [if_neg (by omega), if_neg (by omega)]

theorem slot_lt (c : Nat) (hc : 0 < c) (x : Int) : slot c x < c := by
  unfold slot
  have h1 := Int.emod_nonneg x (b := (c : Int)) (by omega)
  have h2 := Int.emod_lt_of_pos x (b := (c : Int)) (by omega)
  omega

theorem slot_inj (c : Nat) (hc : 0 < c) (x y : Int) (h1 : x - y < c) (h2 : y - x < c)
    (h : slot c x = slot c y) : x = y := by
  unfold slot at h
  have hx := Int.emod_nonneg x (b := (c : Int)) (by omega)
  have hy := Int.emod_nonneg y (b := (c : Int)) (by omega)
  exact eq_of_emod_eq_of_near (by omega) h1 h2

/-- a write at `y` read back at `x`, the two less than a buffer length apart (`slot_inj`). -/
theorem rd_set (buf : Array Int) (c : Nat) (hs : buf.size = c) (hc : 0 < c) (y v x : Int)
    (h1 : x - y < c) (h2 : y - x < c) :
    rd (buf.setIfInBounds (slot c y) v) c x = if x = y then v else rd buf c x := by
  unfold rd
  have hy := slot_lt c hc y
  simp only [Array.getD_eq_getD_getElem?, Array.getElem?_setIfInBounds, hs, hy, if_true]
  by_cases h : x = y
  · subst h; simp
  · have h' : ¬ slot c y = slot c x := fun e => h (slot_inj c hc x y h1 h2 e.symm)
    simp [h, h']

/-- generic "write `f` over `[s, s+n)`" loop; both loops of the map are instances. -/
def writeLoop (c : Nat) (f : Int → Int) : Nat → Int → Array Int → Array Int
  | 0, _, b => b
  | n + 1, s, b => writeLoop c f n (s + 1) (b.setIfInBounds (slot c s) (f s))

theorem reallocLoop_eq (m : ArrivalMap) (nc n : Nat) (sn : Int) (nb : Array Int) :
    reallocLoop m nc n sn nb = writeLoop nc m.get n sn nb := by
  induction n generalizing sn nb with
  | zero => rfl
  | succ n ih => simp [reallocLoop, writeLoop, ih]

theorem setNRLoop_eq (c n : Nat) (sn : Int) (b : Array Int) :
    setNRLoop c n sn b = writeLoop c (fun _ => -1) n sn b := by
  induction n generalizing sn b with
  | zero => rfl
  | succ n ih => simp [setNRLoop, writeLoop, ih]

theorem writeLoop_size (c : Nat) (f : Int → Int) (n : Nat) (s : Int) (b : Array Int) :
    (writeLoop c f n s b).size = b.size := by
  induction n generalizing s b with
  | zero => rfl
  | succ n ih => simp [writeLoop, ih]

/-- the loop seen from any `x` that is less than a buffer length away from every number written:
inside `[s, s+n)` it reads `f x`, elsewhere what was there. -/
theorem rd_writeLoop (c : Nat) (f : Int → Int) (hc : 0 < c) (n : Nat) (s : Int) (b : Array Int)
    (hs : b.size = c) (x : Int) (h1 : s + n - c ≤ x) (h2 : x < s + c) :
    rd (writeLoop c f n s b) c x = if s ≤ x ∧ x < s + n then f x else rd b c x := by
  induction n generalizing s b with
  | zero => rw [writeLoop, if_neg (by omega)]
  | succ n ih =>
    rw [writeLoop, ih (s + 1) _ (by simp [hs]) (by omega) (by omega),
      rd_set b c hs hc s (f s) x (by omega) (by omega)]
    by_cases hx : x = s
    · subst hx; rw [if_neg (by omega), if_pos rfl, if_pos (by omega)]
    · rw [if_neg hx]
      by_cases hr : s + 1 ≤ x ∧ x < s + 1 + n
      · rw [if_pos hr, if_pos (by omega)]
      · rw [if_neg hr, if_neg (by omega)]

@[simp] theorem cap_reallocate (m : ArrivalMap) (nc : Nat) : (m.reallocate nc).cap = nc := by
  simp [reallocate, cap, reallocLoop_eq, writeLoop_size]

@[simp] theorem cap_set (m : ArrivalMap) (sn t : Int) : (m.set sn t).cap = m.cap := by
  simp [set, cap]

@[simp] theorem cap_setNotReceived (m : ArrivalMap) (s e : Int) : (m.setNotReceived s e).cap = m.cap := by
  simp [setNotReceived, cap, setNRLoop_eq, writeLoop_size]

/-! ### `get` after each primitive operation, for a window that fits the buffer -/

theorem get_set (m : ArrivalMap) (hc : 0 < m.cap) (hf : m.endSN - m.beginSN ≤ (m.cap : Int)) (y v x : Int)
    (hy : m.beginSN ≤ y ∧ y < m.endSN) : (m.set y v).get x = if x = y then v else m.get x := by
  rw [get_def, get_def, cap_set]
  show (if x < m.beginSN ∨ x ≥ m.endSN then -1 else rd (m.buf.setIfInBounds (slot m.cap y) v) m.cap x) = _
  by_cases hx : x < m.beginSN ∨ x ≥ m.endSN
  · rw [if_pos hx, if_neg (by omega), if_pos hx]
  · rw [if_neg hx, if_neg hx, rd_set m.buf m.cap rfl hc y v x (by omega) (by omega)]

theorem get_setNotReceived (m : ArrivalMap) (hc : 0 < m.cap) (hf : m.endSN - m.beginSN ≤ (m.cap : Int))
    (s e x : Int) (hs : m.beginSN ≤ s) (hse : s ≤ e) (he : e ≤ m.endSN) :
    (m.setNotReceived s e).get x = if s ≤ x ∧ x < e then -1 else m.get x := by
  rw [get_def, get_def, cap_setNotReceived]
  show (if x < m.beginSN ∨ x ≥ m.endSN then -1 else rd (setNRLoop m.cap (e - s).toNat s m.buf) m.cap x) = _
  by_cases hx : x < m.beginSN ∨ x ≥ m.endSN
  · rw [if_pos hx, if_neg (by omega), if_pos hx]
  · have hn : s + ((e - s).toNat : Int) = e := by omega
    rw [if_neg hx, if_neg hx, setNRLoop_eq, rd_writeLoop m.cap _ hc _ s m.buf rfl x (by omega) (by omega), hn]

theorem get_reallocate (m : ArrivalMap) (nc : Nat) (hnc : 0 < nc)
    (hfit : m.endSN - m.beginSN ≤ (nc : Int)) (x : Int) : (m.reallocate nc).get x = m.get x := by
  rw [get_def, cap_reallocate]
  show (if x < m.beginSN ∨ x ≥ m.endSN then -1 else
    rd (reallocLoop m nc (m.endSN - m.beginSN).toNat m.beginSN (Array.replicate nc 0)) nc x) = _
  by_cases hx : x < m.beginSN ∨ x ≥ m.endSN
  · rw [if_pos hx, get_def, if_pos hx]
  · rw [if_neg hx, reallocLoop_eq, rd_writeLoop nc _ hnc _ _ _ (by simp) x (by omega) (by omega), if_pos (by omega)]

theorem get_raiseBegin (m : ArrivalMap) (b x : Int) (hb : m.beginSN ≤ b) :
    ({ m with beginSN := b } : ArrivalMap).get x = if b ≤ x then m.get x else -1 := by
  rw [get_def, get_def]
  show (if x < b ∨ x ≥ m.endSN then -1 else rd m.buf m.cap x) = _
  by_cases h1 : b ≤ x
  · rw [if_pos h1]
    by_cases h2 : x ≥ m.endSN
    · rw [if_pos (Or.inr h2), if_pos (Or.inr h2)]
    · rw [if_neg (by omega), if_neg (by omega)]
  · rw [if_neg h1, if_pos (by omega)]

/-- what a window `[b, e)` of the same buffer shows of a number the old window covered, or neither covers. -/
theorem get_rewindow (m : ArrivalMap) (b e x : Int)
    (hx : (m.beginSN ≤ x ∧ x < m.endSN ∧ b ≤ x ∧ x < e) ∨ ((x < m.beginSN ∨ x ≥ m.endSN) ∧ (x < b ∨ x ≥ e))) :
    ({ m with beginSN := b, endSN := e } : ArrivalMap).get x = m.get x := by
  rw [get_def, get_def]
  show (if x < b ∨ x ≥ e then -1 else rd m.buf m.cap x) = _
  rcases hx with hx | hx
  · rw [if_neg (by omega), if_neg (by omega)]
  · rw [if_pos hx.2, if_pos hx.1]

/-- capacity is a power of two in [128, 65536]. -/
def CapOK (m : ArrivalMap) : Prop := ∃ k, 7 ≤ k ∧ k ≤ 16 ∧ m.cap = 2 ^ k

structure WF (m : ArrivalMap) : Prop where
  pow : CapOK m
  order : m.beginSN ≤ m.endSN
  window : m.endSN - m.beginSN ≤ 32768
  fits : m.endSN - m.beginSN ≤ (m.cap : Int)

theorem CapOK.pos {m : ArrivalMap} (h : CapOK m) : 0 < m.cap := by
  obtain ⟨k, _, _, e⟩ := h
  rw [e]; exact Nat.two_pow_pos k

theorem CapOK.ge {m : ArrivalMap} (h : CapOK m) : 128 ≤ m.cap := by
  obtain ⟨k, h7, _, e⟩ := h
  rw [e]
  exact Nat.pow_le_pow_right (n := 2) (by decide) h7

theorem CapOK.le {m : ArrivalMap} (h : CapOK m) : m.cap ≤ 65536 := by
  obtain ⟨k, _, h16, e⟩ := h
  rw [e]
  exact Nat.pow_le_pow_right (n := 2) (by decide) h16

theorem CapOK.of_cap {m m' : ArrivalMap} (h : CapOK m) (e : m'.cap = m.cap) : CapOK m' := by
  obtain ⟨k, a, b, hk⟩ := h
  exact ⟨k, a, b, e.trans hk⟩

theorem adjustToSize_ends (m : ArrivalMap) (n : Int) :
    (m.adjustToSize n).beginSN = m.beginSN ∧ (m.adjustToSize n).endSN = m.endSN := by
  simp only [adjustToSize]
  split <;> split <;> exact ⟨rfl, rfl⟩

/-- `adjustToSize n` for `n ≤ 2^15` keeps the capacity a power of two between `2^7` and any bound `2^K ≥ 2^15` it was
under, makes it `≥ n`, and keeps the contents if the window fits in `n`. -/
theorem adjustToSize_cap (m : ArrivalMap) (k K : Nat) (k7 : 7 ≤ k) (kK : k ≤ K) (hK : 15 ≤ K) (ke : m.cap = 2 ^ k)
    (n : Int) (h2 : n ≤ 32768) :
    ∃ k', 7 ≤ k' ∧ k' ≤ K ∧ (m.adjustToSize n).cap = 2 ^ k' ∧ n ≤ ((2 ^ k' : Nat) : Int) ∧
      (m.endSN - m.beginSN ≤ n → ∀ x, (m.adjustToSize n).get x = m.get x) := by
  have step1 : ∃ m1 : ArrivalMap, m1 = (if n > (m.cap : Int) then m.reallocate (growCap 64 m.cap n) else m) ∧
      ∃ k1, 7 ≤ k1 ∧ k1 ≤ K ∧ m1.cap = 2 ^ k1 ∧ n ≤ ((2 ^ k1 : Nat) : Int) ∧
        m1.endSN - m1.beginSN = m.endSN - m.beginSN ∧
        (m.endSN - m.beginSN ≤ n → ∀ x, m1.get x = m.get x) := by
    refine ⟨_, rfl, ?_⟩
    by_cases hg : n > (m.cap : Int)
    · rw [if_pos hg]
      -- 64 is the fuel `adjustToSize` gives `growCap`
      obtain ⟨k', a1, a2, a3, a4⟩ := growCap_spec 64 k 15 n h2 (by omega)
      rw [ke, a3]
      exact ⟨k', by omega, by omega, cap_reallocate m (2 ^ k'), a4, rfl,
        fun h1 x => get_reallocate m (2 ^ k') (Nat.two_pow_pos k') (by omega) x⟩
    · rw [if_neg hg]
      exact ⟨k, k7, kK, ke, by rw [← ke]; omega, rfl, fun _ _ => rfl⟩
  obtain ⟨m1, e1, k1, k17, k1K, ke1, n1, w1, g1⟩ := step1
  unfold adjustToSize
  simp only []
  rw [← e1]
  by_cases hsh : (m1.cap : Int) > max (minCapacity : Int) (n * 4)
  · rw [if_pos hsh]
    have h128 : (2 : Nat) ^ 7 ≤ 2 ^ k1 := Nat.pow_le_pow_right (by decide) k17
    have e7 : (2 : Nat) ^ 7 = 128 := by decide
    clear hsh
    obtain ⟨k', a1, a2, a3⟩ := shrinkCap_spec 64 k1 n (by omega)
    rw [ke1, a2]
    obtain ⟨hn', h7⟩ : n ≤ ((2 ^ k' : Nat) : Int) ∧ 2 ^ 7 ≤ 2 ^ k' := by omega
    -- `a3` speaks of the two `max`, which `omega` need not see again
    clear a3
    refine ⟨k', (Nat.pow_le_pow_iff_right (by decide)).mp h7, by omega, cap_reallocate m1 (2 ^ k'), hn', fun h1 x => ?_⟩
    rw [get_reallocate m1 (2 ^ k') (Nat.two_pow_pos k') (by omega) x, g1 h1]
  · rw [if_neg hsh]
    exact ⟨k1, k17, k1K, ke1, n1, g1⟩

theorem adjustToSize_spec (m : ArrivalMap) (hp : CapOK m) (n : Int) (h : m.endSN - m.beginSN ≤ n ∧ n ≤ 32768) :
    CapOK (m.adjustToSize n) ∧ n ≤ ((m.adjustToSize n).cap : Int) ∧
    (m.adjustToSize n).beginSN = m.beginSN ∧ (m.adjustToSize n).endSN = m.endSN ∧
    ∀ x, (m.adjustToSize n).get x = m.get x := by
  obtain ⟨k, k7, k16, ke⟩ := hp
  obtain ⟨k', a, b, c, d, g⟩ := adjustToSize_cap m k 16 k7 k16 (by decide) ke n h.2
  exact ⟨⟨k', a, b, c⟩, by rw [c]; exact d, (adjustToSize_ends m n).1, (adjustToSize_ends m n).2, g h.1⟩

/-- the lower end raised to `b` and the buffer adjusted to a size `n` that holds what is left: how
`RemoveOldPackets` ends, and how `AddPacket` begins when the window grows upwards. -/
theorem raise_adjust_spec (m : ArrivalMap) (h : WF m) (b n : Int)
    (hb : m.beginSN ≤ b ∧ b ≤ m.endSN ∧ m.endSN - b ≤ n ∧ n ≤ 32768) :
    WF (({ m with beginSN := b } : ArrivalMap).adjustToSize n) ∧
    n ≤ ((({ m with beginSN := b } : ArrivalMap).adjustToSize n).cap : Int) ∧
    (({ m with beginSN := b } : ArrivalMap).adjustToSize n).beginSN = b ∧
    (({ m with beginSN := b } : ArrivalMap).adjustToSize n).endSN = m.endSN ∧
    ∀ x, (({ m with beginSN := b } : ArrivalMap).adjustToSize n).get x = if b ≤ x then m.get x else -1 := by
  obtain ⟨p, hn, (hb1 : _ = b), (he1 : _ = m.endSN), g⟩ :=
    adjustToSize_spec ({ m with beginSN := b } : ArrivalMap) h.pow n ⟨hb.2.2.1, hb.2.2.2⟩
  generalize ({ m with beginSN := b } : ArrivalMap).adjustToSize n = r at p hn hb1 he1 g ⊢
  exact ⟨⟨p, by omega, by omega, by omega⟩, hn, hb1, he1, fun x => by rw [g, get_raiseBegin m b x hb.1]⟩

theorem addPacket_empty (m : ArrivalMap) (sn t : Int) (h0 : m.cap = 0) :
    m.addPacket sn t = ({ m.reallocate minCapacity with beginSN := sn, endSN := sn + 1 } : ArrivalMap).set sn t := by
  unfold addPacket; rw [if_pos h0]

theorem addPacket_inside (m : ArrivalMap) (sn t : Int) (h0 : m.cap ≠ 0) (hin : sn ≥ m.beginSN ∧ sn < m.endSN) :
    m.addPacket sn t = m.set sn t := by
  unfold addPacket; rw [if_neg h0, if_pos hin]

theorem addPacket_ignored (m : ArrivalMap) (sn t : Int) (h0 : m.cap ≠ 0) (hlt : sn < m.beginSN)
    (hbig : m.endSN - sn > 32768) : m.addPacket sn t = m := by
  unfold addPacket maxNumberOfPackets; rw [if_neg h0, if_neg (by omega), if_pos hlt]; exact if_pos hbig

theorem addPacket_below (m : ArrivalMap) (sn t : Int) (h0 : m.cap ≠ 0) (hlt : sn < m.beginSN)
    (hsz : ¬ m.endSN - sn > 32768) :
    m.addPacket sn t = { ((m.adjustToSize (m.endSN - sn)).set sn t).setNotReceived (sn + 1)
      (m.adjustToSize (m.endSN - sn)).beginSN with beginSN := sn } := by
  unfold addPacket maxNumberOfPackets; rw [if_neg h0, if_neg (by omega), if_pos hlt]; exact if_neg hsz

theorem addPacket_far (m : ArrivalMap) (sn t : Int) (h0 : m.cap ≠ 0) (hin : ¬ (sn ≥ m.beginSN ∧ sn < m.endSN))
    (hlt : ¬ sn < m.beginSN) (hfar : sn + 1 ≥ m.endSN + 32768) :
    m.addPacket sn t = ({ m with beginSN := sn, endSN := sn + 1 } : ArrivalMap).set sn t := by
  unfold addPacket maxNumberOfPackets; rw [if_neg h0, if_neg hin, if_neg hlt]; exact if_pos hfar

/-- the window grows upwards; `b` is the new lower end (the oldest numbers go if it would exceed 2^15). -/
theorem addPacket_near (m : ArrivalMap) (sn t : Int) (h0 : m.cap ≠ 0) (hin : ¬ (sn ≥ m.beginSN ∧ sn < m.endSN))
    (hlt : ¬ sn < m.beginSN) (hnear : ¬ sn + 1 ≥ m.endSN + 32768) (b : Int)
    (hb : b = max m.beginSN (sn + 1 - 32768)) :
    m.addPacket sn t =
      ({ (({ m with beginSN := b } : ArrivalMap).adjustToSize (sn + 1 - b)).setNotReceived
          (({ m with beginSN := b } : ArrivalMap).adjustToSize (sn + 1 - b)).endSN sn
        with endSN := sn + 1 } : ArrivalMap).set sn t := by
  have e : (if m.beginSN < sn + 1 - 32768 then ({ m with beginSN := sn + 1 - 32768 } : ArrivalMap) else m)
      = { m with beginSN := b } := by
    by_cases h : m.beginSN < sn + 1 - 32768
    · rw [if_pos h, hb, Int.max_eq_right (Int.le_of_lt h)]
    · rw [if_neg h, hb, Int.max_eq_left (Int.not_lt.mp h)]
  unfold addPacket maxNumberOfPackets
  rw [if_neg h0, if_neg hin, if_neg hlt]
  refine (if_neg hnear).trans ?_
  rw [e]

/-- a fresh one-number window `[sn, sn+1)` over the old buffer. -/
theorem restart_spec (m : ArrivalMap) (hp : CapOK m) (sn t : Int) :
    WF (({ m with beginSN := sn, endSN := sn + 1 } : ArrivalMap).set sn t) ∧
    ∀ x, (({ m with beginSN := sn, endSN := sn + 1 } : ArrivalMap).set sn t).get x = if x = sn then t else -1 := by
  have hge := hp.ge
  have hf : sn + 1 - sn ≤ (m.cap : Int) := by omega
  refine ⟨⟨hp.of_cap (cap_set _ sn t), ?_, ?_, by rw [cap_set]; exact hf⟩, fun x => ?_⟩
  · show sn ≤ sn + 1; omega
  · show sn + 1 - sn ≤ 32768; omega
  · rw [get_set ({ m with beginSN := sn, endSN := sn + 1 } : ArrivalMap) hp.pos hf sn t x
      ⟨Int.le_refl _, Int.lt_succ sn⟩]
    by_cases hx : x = sn
    · rw [if_pos hx, if_pos hx]
    · rw [if_neg hx, if_neg hx, get_def, if_pos (by show x < sn ∨ x ≥ sn + 1; omega)]

/-- the window extended downwards to `sn`, in a buffer that holds `[sn, end)`. -/
theorem extendDown_spec (m : ArrivalMap) (hp : CapOK m) (sn t : Int)
    (h : sn < m.beginSN ∧ m.beginSN ≤ m.endSN ∧ m.endSN - sn ≤ (m.cap : Int) ∧ m.endSN - sn ≤ 32768) :
    WF ({ (m.set sn t).setNotReceived (sn + 1) m.beginSN with beginSN := sn } : ArrivalMap) ∧
    ∀ x, ({ (m.set sn t).setNotReceived (sn + 1) m.beginSN with beginSN := sn } : ArrivalMap).get x =
      if x = sn then t else m.get x := by
  obtain ⟨hlt, hbe, hfit, hw⟩ := h
  have hc := hp.pos
  have hw' : (({ m with beginSN := sn } : ArrivalMap).set sn t).cap = m.cap := cap_set _ sn t
  have e : ({ (m.set sn t).setNotReceived (sn + 1) m.beginSN with beginSN := sn } : ArrivalMap) =
      (({ m with beginSN := sn } : ArrivalMap).set sn t).setNotReceived (sn + 1) m.beginSN := rfl
  have hcap : ((({ m with beginSN := sn } : ArrivalMap).set sn t).setNotReceived (sn + 1) m.beginSN).cap = m.cap := by
    rw [cap_setNotReceived, hw']
  rw [e]
  refine ⟨⟨hp.of_cap hcap, ?_, hw, by rw [hcap]; exact hfit⟩, fun x => ?_⟩
  · show sn ≤ m.endSN; omega
  rw [get_setNotReceived (({ m with beginSN := sn } : ArrivalMap).set sn t) (by rw [hw']; exact hc)
      (by rw [hw']; exact hfit) (sn + 1) m.beginSN x (by show sn ≤ sn + 1; omega) (by omega) hbe,
    get_set ({ m with beginSN := sn } : ArrivalMap) hc hfit sn t x ⟨Int.le_refl _, by show sn < m.endSN; omega⟩]
  by_cases hx : x = sn
  · rw [if_neg (by omega), if_pos hx, if_pos hx]
  · rw [if_neg hx, if_neg hx]
    by_cases hgap : sn + 1 ≤ x ∧ x < m.beginSN
    · rw [if_pos hgap, get_def, if_pos (Or.inl hgap.2)]
    · rw [if_neg hgap]
      exact get_rewindow m sn m.endSN x (by omega)

/-- the window extended upwards to `sn`, in a buffer that holds `[begin, sn]`. -/
theorem extendUp_spec (m : ArrivalMap) (hp : CapOK m) (sn t : Int)
    (h : m.endSN ≤ sn ∧ m.beginSN ≤ m.endSN ∧ sn + 1 - m.beginSN ≤ (m.cap : Int) ∧ sn + 1 - m.beginSN ≤ 32768) :
    WF (({ m.setNotReceived m.endSN sn with endSN := sn + 1 } : ArrivalMap).set sn t) ∧
    ∀ x, (({ m.setNotReceived m.endSN sn with endSN := sn + 1 } : ArrivalMap).set sn t).get x =
      if x = sn then t else m.get x := by
  obtain ⟨hge, hbe, hfit, hw⟩ := h
  have hc := hp.pos
  have hw' : (({ m with endSN := sn + 1 } : ArrivalMap).setNotReceived m.endSN sn).cap = m.cap :=
    cap_setNotReceived _ _ _
  have e : ({ m.setNotReceived m.endSN sn with endSN := sn + 1 } : ArrivalMap) =
      ({ m with endSN := sn + 1 } : ArrivalMap).setNotReceived m.endSN sn := rfl
  have hcap : ((({ m with endSN := sn + 1 } : ArrivalMap).setNotReceived m.endSN sn).set sn t).cap = m.cap := by
    rw [cap_set, hw']
  rw [e]
  refine ⟨⟨hp.of_cap hcap, ?_, hw, by rw [hcap]; exact hfit⟩, fun x => ?_⟩
  · show m.beginSN ≤ sn + 1; omega
  rw [get_set (({ m with endSN := sn + 1 } : ArrivalMap).setNotReceived m.endSN sn) (by rw [hw']; exact hc)
      (by rw [hw']; exact hfit) sn t x ⟨by show m.beginSN ≤ sn; omega, by show sn < sn + 1; omega⟩]
  by_cases hx : x = sn
  · rw [if_pos hx, if_pos hx]
  · rw [if_neg hx, if_neg hx,
      get_setNotReceived ({ m with endSN := sn + 1 } : ArrivalMap) hc hfit m.endSN sn x hbe hge
        (by show sn ≤ sn + 1; omega)]
    by_cases hgap : m.endSN ≤ x ∧ x < sn
    · rw [if_pos hgap, get_def, if_pos (Or.inr hgap.1)]
    · rw [if_neg hgap]
      exact get_rewindow m m.beginSN (sn + 1) x (by omega)

/-- the first packet ever. -/
theorem addPacket_first (m : ArrivalMap) (h0 : m.cap = 0) (sn t : Int) :
    WF (m.addPacket sn t) ∧ (m.addPacket sn t).beginSN = sn ∧ (m.addPacket sn t).endSN = sn + 1 ∧
    ∀ x, (m.addPacket sn t).get x = if x = sn then t else -1 := by
  rw [addPacket_empty m sn t h0]
  obtain ⟨w, g⟩ := restart_spec (m.reallocate minCapacity) ⟨7, by omega, by omega, cap_reallocate m 128⟩ sn t
  exact ⟨w, rfl, rfl, g⟩

/-- lower end of the window after `AddPacket sn` (when the packet is accepted). -/
def newBegin (m : ArrivalMap) (sn : Int) : Int :=
  if m.beginSN ≤ sn ∧ sn < m.endSN then m.beginSN
  else if sn < m.beginSN then sn
  else if sn + 1 ≥ m.endSN + 32768 then sn
  else max m.beginSN (sn + 1 - 32768)

theorem newBegin_ge (m : ArrivalMap) (sn : Int) : min m.beginSN sn ≤ newBegin m sn := by
  unfold newBegin
  by_cases h1 : m.beginSN ≤ sn ∧ sn < m.endSN
  · rw [if_pos h1]; exact Int.min_le_left _ _
  · rw [if_neg h1]
    by_cases h2 : sn < m.beginSN
    · rw [if_pos h2]; exact Int.min_le_right _ _
    · rw [if_neg h2]
      by_cases h3 : sn + 1 ≥ m.endSN + 32768
      · rw [if_pos h3]; exact Int.min_le_right _ _
      · rw [if_neg h3]; exact Int.le_trans (Int.min_le_left _ _) (Int.le_max_left _ _)

/-- `AddPacket` on an allocated map, as a statement about the function `get` and the window. -/
theorem addPacket_spec (m : ArrivalMap) (h : WF m) (sn t : Int) :
    WF (m.addPacket sn t) ∧
    (if sn < m.beginSN ∧ m.endSN - sn > 32768 then m.addPacket sn t = m
     else (m.addPacket sn t).beginSN = newBegin m sn ∧ (m.addPacket sn t).endSN = max m.endSN (sn + 1) ∧
      ∀ x, (m.addPacket sn t).get x =
        if x = sn then t else if newBegin m sn ≤ x ∧ x < max m.endSN (sn + 1) then m.get x else -1) := by
  have hpos := h.pow.pos
  have h0 : m.cap ≠ 0 := by omega
  have ho := h.order
  have hw := h.window
  have hf := h.fits
  -- outside `[lo, hi)`, which contains the old window, the old map reads absent
  have hout : ∀ lo hi x, lo ≤ m.beginSN ∨ lo ≤ x → m.endSN ≤ hi →
      m.get x = if lo ≤ x ∧ x < hi then m.get x else -1 := by
    intro lo hi x h1 h2
    by_cases hr : lo ≤ x ∧ x < hi
    · rw [if_pos hr]
    · rw [if_neg hr, get_def, if_pos (by omega)]
  by_cases hig : sn < m.beginSN ∧ m.endSN - sn > 32768
  · rw [if_pos hig, addPacket_ignored m sn t h0 hig.1 hig.2]
    exact ⟨h, rfl⟩
  rw [if_neg hig]
  -- in each case the new window `[newBegin m sn, max m.endSN (sn + 1))` is named first
  by_cases hin : sn ≥ m.beginSN ∧ sn < m.endSN
  · rw [addPacket_inside m sn t h0 hin, show newBegin m sn = m.beginSN from if_pos ⟨hin.1, hin.2⟩,
      Int.max_eq_left (show sn + 1 ≤ m.endSN by omega)]
    refine ⟨⟨h.pow.of_cap (cap_set m sn t), ho, hw, by rw [cap_set]; exact hf⟩, rfl, rfl, fun x => ?_⟩
    rw [get_set m hpos hf sn t x hin, ← hout _ _ x (Or.inl (Int.le_refl _)) (Int.le_refl _)]
  · have hnb : newBegin m sn = if sn < m.beginSN then sn else if sn + 1 ≥ m.endSN + 32768 then sn
        else max m.beginSN (sn + 1 - 32768) := if_neg (by omega)
    rw [hnb]
    -- `newBegin` is now the nested `if`; each case below fixes one branch before its arithmetic
    clear hnb
    by_cases hlt : sn < m.beginSN
    · rw [if_pos hlt, Int.max_eq_left (show sn + 1 ≤ m.endSN by omega),
        addPacket_below m sn t h0 hlt (fun hbig => hig ⟨hlt, hbig⟩)]
      have hsz : m.endSN - sn ≤ 32768 := by omega
      clear hig hin
      obtain ⟨p1, n1, b1, e1, g1⟩ := adjustToSize_spec m h.pow (m.endSN - sn) (by omega)
      generalize m.adjustToSize (m.endSN - sn) = m1 at p1 n1 b1 e1 g1 ⊢
      obtain ⟨w, g⟩ := extendDown_spec m1 p1 sn t (by omega)
      refine ⟨w, rfl, e1, fun x => ?_⟩
      rw [g x, g1, ← hout _ _ x (Or.inl (Int.le_of_lt hlt)) (Int.le_refl _)]
    · have hge : m.endSN ≤ sn := by omega
      rw [if_neg hlt, Int.max_eq_right (show m.endSN ≤ sn + 1 by omega)]
      by_cases hfar : sn + 1 ≥ m.endSN + 32768
      · rw [if_pos hfar, addPacket_far m sn t h0 hin hlt hfar]
        clear hig hin
        obtain ⟨w, g⟩ := restart_spec m h.pow sn t
        refine ⟨w, rfl, rfl, fun x => ?_⟩
        rw [g x]
        by_cases hx : x = sn
        · rw [if_pos hx, if_pos hx]
        · rw [if_neg hx, if_neg hx, if_neg (by omega)]
      · rw [if_neg hfar, addPacket_near m sn t h0 hin hlt hfar _ rfl]
        clear hig hin
        generalize hb : max m.beginSN (sn + 1 - 32768) = b
        have hb1 : m.beginSN ≤ b ∧ b ≤ m.endSN ∧ m.endSN - b ≤ sn + 1 - b ∧ sn + 1 - b ≤ 32768 := by omega
        clear hb
        obtain ⟨w2, n2, b2, e2, g2⟩ := raise_adjust_spec m h b (sn + 1 - b) hb1
        generalize ({ m with beginSN := b } : ArrivalMap).adjustToSize (sn + 1 - b) = m2 at w2 n2 b2 e2 g2 ⊢
        obtain ⟨w, g⟩ := extendUp_spec m2 w2.pow sn t (by omega)
        refine ⟨w, b2, rfl, fun x => ?_⟩
        rw [g x, g2]
        by_cases hx : x = sn
        · rw [if_pos hx, if_pos hx]
        · rw [if_neg hx, if_neg hx]
          by_cases hr : b ≤ x
          · rw [if_pos hr, ← hout b _ x (Or.inr hr) (by omega)]
          · rw [if_neg hr, if_neg (by omega)]

theorem removeLoop_spec (fuel : Nat) (m : ArrivalMap) (checkTo limit : Int)
    (hfuel : checkTo - m.beginSN ≤ fuel) (hct : checkTo ≤ m.endSN) :
    (removeLoop fuel m checkTo limit).buf = m.buf ∧ (removeLoop fuel m checkTo limit).endSN = m.endSN ∧
    m.beginSN ≤ (removeLoop fuel m checkTo limit).beginSN ∧
    (removeLoop fuel m checkTo limit).beginSN ≤ max m.beginSN checkTo ∧
    (∀ x, m.beginSN ≤ x → x < (removeLoop fuel m checkTo limit).beginSN → m.get x ≤ limit) ∧
    ((removeLoop fuel m checkTo limit).beginSN < checkTo →
      m.get (removeLoop fuel m checkTo limit).beginSN > limit) := by
  induction fuel generalizing m with
  | zero =>
    simp only [removeLoop]
    exact ⟨trivial, trivial, Int.le_refl _, by omega, fun x a b => by omega, fun a => by omega⟩
  | succ fuel ih =>
    unfold removeLoop
    by_cases hc : m.beginSN < checkTo ∧ m.get m.beginSN ≤ limit
    · rw [if_pos hc]
      obtain ⟨i1, i2, (i3 : m.beginSN + 1 ≤ _), (i4 : _ ≤ max (m.beginSN + 1) checkTo), i5, i6⟩ :=
        ih ({ m with beginSN := m.beginSN + 1 } : ArrivalMap)
          (by show checkTo - (m.beginSN + 1) ≤ (fuel : Int); omega) hct
      have hget : ∀ x, m.beginSN + 1 ≤ x → ({ m with beginSN := m.beginSN + 1 } : ArrivalMap).get x = m.get x :=
        fun x hx => by rw [get_raiseBegin m _ x (by omega), if_pos hx]
      refine ⟨i1, i2, by omega, by omega, fun x hx1 hx2 => ?_, fun hlt => ?_⟩
      · by_cases hx : x = m.beginSN
        · rw [hx]; exact hc.2
        · rw [← hget x (by omega)]; exact i5 x (by show m.beginSN + 1 ≤ x; omega) hx2
      · rw [← hget _ i3]; exact i6 hlt
    · rw [if_neg hc]
      exact ⟨rfl, rfl, Int.le_refl _, by omega, fun x a b => by omega, fun a => by omega⟩

theorem eq_raise {r m : ArrivalMap} (h1 : r.buf = m.buf) (h2 : r.endSN = m.endSN) :
    r = { m with beginSN := r.beginSN } := by
  cases r; cases m
  simp only at h1 h2
  subst h1; subst h2; rfl

/-- `RemoveOldPackets`: the window loses a prefix; inside the new window nothing changes; every
dropped number was below `sn` and was not received or not younger than `limit`; the loop stops at
the first younger one. -/
theorem removeOld_spec (m : ArrivalMap) (h : WF m) (sn limit : Int) :
    WF (m.removeOld sn limit) ∧ (m.removeOld sn limit).endSN = m.endSN ∧
    m.beginSN ≤ (m.removeOld sn limit).beginSN ∧
    (m.removeOld sn limit).beginSN ≤ max m.beginSN (min sn m.endSN) ∧
    (∀ x, (m.removeOld sn limit).get x = if (m.removeOld sn limit).beginSN ≤ x then m.get x else -1) ∧
    (∀ x, m.beginSN ≤ x → x < (m.removeOld sn limit).beginSN → m.get x ≤ limit) ∧
    ((m.removeOld sn limit).beginSN < min sn m.endSN → m.get (m.removeOld sn limit).beginSN > limit) := by
  have ho := h.order
  have hw := h.window
  have hf := h.fits
  obtain ⟨i1, i2, i3, i4, i5, i6⟩ := removeLoop_spec (min sn m.endSN - m.beginSN).toNat m (min sn m.endSN) limit
    (by omega) (by omega)
  have hr : m.removeOld sn limit =
      ({ m with beginSN := (removeLoop (min sn m.endSN - m.beginSN).toNat m (min sn m.endSN) limit).beginSN }
        : ArrivalMap).adjustToSize
        (m.endSN - (removeLoop (min sn m.endSN - m.beginSN).toNat m (min sn m.endSN) limit).beginSN) := by
    have e := eq_raise i1 i2
    unfold removeOld
    simp only []
    rw [e]
  rw [hr]
  generalize (removeLoop (min sn m.endSN - m.beginSN).toNat m (min sn m.endSN) limit).beginSN = b at i3 i4 i5 i6 ⊢
  obtain ⟨w, -, b2, e2, g2⟩ := raise_adjust_spec m h b (m.endSN - b) (by omega)
  generalize ({ m with beginSN := b } : ArrivalMap).adjustToSize (m.endSN - b) = r at w b2 e2 g2 ⊢
  rw [b2]
  exact ⟨w, e2, i3, i4, g2, i5, i6⟩

end Interceptor.Twcc.ArrivalMap
