/-
The sender-stream model under one more packet, for Props/C07, Props/C07Src and Facts/FnSenderGenerate: what
`processRTP` can change (`processRTP_frame`), the reference candidates of a history extended by a packet (`acceptedFrom_snoc`), and the
state invariant behind `first_of_frame` (`FrameInv`, `frameInv_step`).
-/
import Interceptor.Spec.SenderReport
set_option linter.unusedVariables false
namespace Interceptor.SenderReport
open Interceptor Interceptor.F64 Interceptor.GoTime Interceptor.SenderReport.Spec

/-- what `processRTP` can change: the reference (timestamp, arrival time, sequence number); both counters
advance. -/
theorem processRTP_frame (s : Stream) (p : Pkt) :
    ∃ ts t sn, processRTP s p =
        { s with lastTs := ts, lastTime := t, lastSN := sn, packetCount := (s.packetCount + 1) % M32,
                 octetCount := (s.octetCount + p.len) % M32 } ∧
      (t = s.lastTime ∨ t = some p.now) := by
  unfold processRTP
  dsimp only
  split
  · split
    · exact ⟨_, _, _, rfl, .inr rfl⟩
    · exact ⟨_, _, _, rfl, .inl rfl⟩
  · exact ⟨_, _, _, rfl, .inl rfl⟩

theorem run_const (s : Stream) (ps : List Pkt) :
    (run s ps).ssrc = s.ssrc ∧ (run s ps).rate = s.rate ∧ (run s ps).useLatest = s.useLatest := by
  induction ps generalizing s with
  | nil => exact ⟨rfl, rfl, rfl⟩
  | cons p ps ih =>
    obtain ⟨ts, t, sn, e, _⟩ := processRTP_frame s p
    show (run (processRTP s p) ps).ssrc = _ ∧ (run (processRTP s p) ps).rate = _ ∧ (run (processRTP s p) ps).useLatest = _
    have h := ih (processRTP s p)
    rw [e] at h ⊢
    exact h

theorem run_useLatest (s : Stream) (ps : List Pkt) : (run s ps).useLatest = s.useLatest := (run_const s ps).2.2

/-- the last reference candidate's sequence number, `sn` if there is none. -/
def lastSeq (sn : Nat) (acc : List Pkt) : Nat := (acc.getLast?.map (·.seq)).getD sn

theorem lastSeq_cons (sn : Nat) (q : Pkt) (acc : List Pkt) : lastSeq sn (q :: acc) = lastSeq q.seq acc := by
  unfold lastSeq
  cases acc with
  | nil => simp
  | cons a as => rw [List.getLast?_cons_cons, List.getLast?_eq_some_getLast (l := a :: as) (by simp)]; simp

theorem lastSeq_snoc (sn : Nat) (acc : List Pkt) (p : Pkt) : lastSeq sn (acc ++ [p]) = p.seq := by
  simp [lastSeq]

theorem acceptedFrom_snoc (l : Bool) (sn : Nat) (ps : List Pkt) (p : Pkt) :
    acceptedFrom l sn (ps ++ [p]) = acceptedFrom l sn ps ++
      (if l || isNewer16 p.seq (lastSeq sn (acceptedFrom l sn ps)) then [p] else []) := by
  induction ps generalizing sn with
  | nil => simp [acceptedFrom, lastSeq]
  | cons q qs ih =>
    simp only [List.cons_append, acceptedFrom]
    split
    · rw [ih, lastSeq_cons]; simp
    · rw [ih]

/-- the state invariant behind `first_of_frame`: the reference is the first packet of the
trailing run of candidates sharing one timestamp. -/
def FrameInv (s : Stream) (acc : List Pkt) : Prop :=
  ∃ pre q rest, acc = pre ++ q :: rest ∧ (∀ r ∈ rest, r.ts = q.ts) ∧
    (∀ x, pre.getLast? = some x → x.ts ≠ q.ts) ∧
    s.lastTs = q.ts ∧ s.lastTime = some q.now ∧ s.lastSN = lastSeq 0 acc

/-- past the first packet `accepts` is the half-range test against the reference sequence number
(every packet passes with use-latest-packet). -/
theorem accepts_eq_newer (s : Stream) (sn : Nat) (hc : s.packetCount ≠ 0) :
    accepts s sn = (s.useLatest || isNewer16 sn s.lastSN) := by
  have hc' : (s.packetCount == 0) = false := by simpa using hc
  unfold accepts isNewer16
  simp only [hc', Bool.or_false]

theorem frameInv_step (s : Stream) (acc : List Pkt) (p : Pkt) (hc : s.packetCount ≠ 0)
    (h : FrameInv s acc) :
    FrameInv (processRTP s p)
      (acc ++ (if s.useLatest || isNewer16 p.seq (lastSeq 0 acc) then [p] else [])) := by
  obtain ⟨pre, q, rest, hacc, hrest, hpre, hts, htime, hsn⟩ := h
  unfold processRTP
  rw [accepts_eq_newer s p.seq hc, hsn]
  by_cases hA : (s.useLatest || isNewer16 p.seq (lastSeq 0 acc)) = true
  · simp only [hA, if_true]
    by_cases hT : p.ts = s.lastTs
    · -- same frame: the run grows
      have : ¬ (p.ts ≠ s.lastTs ∨ s.packetCount = 0) := by simp [hT, hc]
      simp only [this, if_false]
      refine ⟨pre, q, rest ++ [p], by simp [hacc], ?_, hpre, hts, htime, ?_⟩
      · intro r hr
        rcases List.mem_append.mp hr with h | h
        · exact hrest r h
        · simp at h; rw [h, hT, hts]
      · rw [lastSeq_snoc]
    · -- new frame: the run restarts at p
      have : (p.ts ≠ s.lastTs ∨ s.packetCount = 0) := Or.inl hT
      simp only [this, if_true]
      refine ⟨acc, p, [], by simp, by simp, ?_, rfl, rfl, (lastSeq_snoc 0 acc p).symm⟩
      intro x hx
      have hx' : x.ts = q.ts := by
        rw [hacc, List.getLast?_append, List.getLast?_eq_some_getLast (l := q :: rest) (by simp)] at hx
        simp only [Option.some_or, Option.some.injEq] at hx
        have hm : x ∈ q :: rest := hx ▸ List.getLast_mem _
        rcases List.mem_cons.mp hm with h | h
        · rw [h]
        · exact hrest x h
      rw [hx', ← hts]; exact fun h => hT h.symm
  · simp only [hA]
    simp only [Bool.false_eq_true, if_false, List.append_nil]
    exact ⟨pre, q, rest, hacc, hrest, hpre, hts, htime, hsn⟩

/-- `processRTP` of the code without the F-09 repair: the reference time moves only when the RTP timestamp
differs, with no first-packet test. -/
def processRTPUnrepaired (s : Stream) (p : Pkt) : Stream :=
  let s1 :=
    if accepts s p.seq then
      let s' := { s with lastSN := p.seq }
      if p.ts ≠ s.lastTs then { s' with lastTs := p.ts, lastTime := some p.now } else s'
    else s
  { s1 with packetCount := (s.packetCount + 1) % M32, octetCount := (s.octetCount + p.len) % M32 }

end Interceptor.SenderReport
