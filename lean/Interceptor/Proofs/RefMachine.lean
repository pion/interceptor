/-
The counting invariant of the reference-count machine (Model/RefMachine.lean): it holds initially, every step
keeps it, hence it holds in every reachable state (`inv_reachable`, used by Props/C04 `refcount_safe`).
-/
import Interceptor.Model.RefMachine
namespace Interceptor.RefMachine

/-- `count = [in ring] + [in a writer's hand] + #in-flight`; freed only at count 0; ids not yet
allocated are untouched. -/
structure Inv (s : St) : Prop where
  count : ∀ id, s.cnt id = s.ring.count id + s.hand.count id + s.inflight.count id
  freed : ∀ id, s.freed id = true → s.cnt id = 0
  fresh : ∀ id, s.next ≤ id → s.cnt id = 0 ∧ s.freed id = false

theorem inv_init : Inv init := ⟨by intro id; simp [init], by intro id; simp [init], by intro id; simp [init]⟩

theorem count_erase_add {l : List Nat} {a : Nat} (h : a ∈ l) (b : Nat) :
    (l.erase a).count b + (if b = a then 1 else 0) = l.count b := by
  by_cases e : b = a
  · subst e; have := List.count_pos_iff.2 h; simp [List.count_erase_self]; omega
  · simp [List.count_erase_of_ne e, e]

theorem count_cons_add (l : List Nat) (a b : Nat) :
    (a :: l).count b = l.count b + if b = a then 1 else 0 := by
  rw [List.count_cons]
  by_cases e : b = a
  · simp [e]
  · simp [e, Ne.symm e]

theorem count_pos' {l : List Nat} {a : Nat} (h : a ∈ l) : 1 ≤ l.count a := List.count_pos_iff.2 h

/-- `Release` of a reference the lists do not account for: the common part of `drop`, `evict`
and `release`, each of which first takes `id` out of one list. -/
theorem inv_rel {s : St} {id : Nat}
    (count : ∀ j, s.cnt j = s.ring.count j + s.hand.count j + s.inflight.count j + if j = id then 1 else 0)
    (freed : ∀ j, s.freed j = true → s.cnt j = 0)
    (fresh : ∀ j, s.next ≤ j → s.cnt j = 0 ∧ s.freed j = false) : Inv (rel s id) := by
  have hid := count id
  rw [if_pos rfl] at hid
  refine ⟨fun j => ?_, fun j hj => ?_, fun j hj => ?_⟩
  · have := count j
    by_cases e : j = id
    · subst e; simp [rel]; omega
    · simpa [rel, e] using this
  · by_cases e : j = id
    · subst e
      simp only [rel, if_true, Bool.or_eq_true, beq_iff_eq] at hj ⊢
      rcases hj with hj | hj
      · exact hj
      · have := freed j hj; omega
    · simp only [rel, e, if_false] at hj ⊢
      exact freed j hj
  · have hne : j ≠ id := by
      intro c; subst c
      have := (fresh j hj).1; omega
    simpa [rel, hne] using fresh j hj

theorem inv_step {s t : St} (hi : Inv s) (st : Step s t) : Inv t := by
  cases st with
  | new =>
    have hf := hi.fresh s.next (Nat.le_refl _)
    have hc := hi.count s.next
    refine ⟨?_, ?_, ?_⟩
    · intro id
      have := hi.count id
      rw [count_cons_add]
      by_cases e : id = s.next
      · subst e; simp only [if_true]; omega
      · simp only [e, if_false]; omega
    · intro id h
      by_cases e : id = s.next
      · subst e; simp [hf.2] at h
      · simp [e]; exact hi.freed id h
    · intro id h
      have : id ≠ s.next := by intro c; subst c; simp at h; omega
      simp [this]; exact hi.fresh id (by simp at h; omega)
  | store id h =>
    refine ⟨fun j => ?_, hi.freed, hi.fresh⟩
    have := hi.count j
    have := count_erase_add h j
    rw [count_cons_add]
    dsimp only; omega
  | drop id h =>
    refine inv_rel (fun j => ?_) hi.freed hi.fresh
    have := hi.count j
    have := count_erase_add h j
    dsimp only; omega
  | evict id h =>
    refine inv_rel (fun j => ?_) hi.freed hi.fresh
    have := hi.count j
    have := count_erase_add h j
    dsimp only; omega
  | get id h hc =>
    refine ⟨?_, ?_, ?_⟩
    · intro j
      have := hi.count j
      rw [count_cons_add]
      by_cases e : j = id
      · subst e; simp only [if_true]; omega
      · simp only [e, if_false]; omega
    · intro j hj
      by_cases e : j = id
      · subst e; have := hi.freed j hj; exact absurd this hc
      · simp [e]; exact hi.freed j hj
    · intro j hj
      have hne : j ≠ id := by
        intro c; subst c
        exact hc (hi.fresh j hj).1
      simp [hne]; exact hi.fresh j hj
  | write id h => exact hi
  | release id h =>
    refine inv_rel (fun j => ?_) hi.freed hi.fresh
    have := hi.count j
    have := count_erase_add h j
    dsimp only; omega

theorem inv_reachable {s : St} (h : Reachable s) : Inv s := by
  induction h with
  | init => exact inv_init
  | step _ st ih => exact inv_step ih st

end Interceptor.RefMachine
