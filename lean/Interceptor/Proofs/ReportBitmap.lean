/-
The packed `[]uint64` receive history of pkg/report/receiver_stream.go against the model's `Array Bool`
(Model/ReceiverReport.lean): the abstraction relation `bitsRel` in the form `FnReceiverReport.Rel` uses it
(an instance of `GoSem.Packed`, Base/GoBitmap.lean), and the generated `setReceived` / `delReceived` /
`getReceived` (Gen/Fn_report.lean) against `setBit` / `getBit` for a uint16 sequence number, from the
theorems of Facts/FnReportBitmap.lean.  Core Lean only.
-/
import Interceptor.Facts.FnReportBitmap
namespace Interceptor.ReportBitmap
open Interceptor.Gen.Fn Interceptor.GoSem Interceptor.ReceiverReport
open Interceptor.Facts.FnReportBitmap (BRel)

def isWord (w : Int) : Prop := 0 ≤ w ∧ w < 18446744073709551616

/-- 128 uint64 words (`make([]uint64, 128)`). -/
def wordsOk (ws : List Int) : Prop := ws.length = 128 ∧ ∀ k, k < 128 → isWord (ws.getD k 0)

/-- abstraction relation: position `p` of the model's `Array Bool` is bit `p % 64` of word `p / 64`. -/
def bitsRel (ws : List Int) (b : Array Bool) : Prop :=
  wordsOk ws ∧ b.size = 8192 ∧ ∀ p, p < 8192 → b.getD p false = (ws.getD (p / 64) 0).toNat.testBit (p % 64)

/-- `bitsRel` is the packed-bitmap abstraction of Base/GoBitmap at the 128 words of `newReceiverStream`. -/
theorem bitsRel_iff (ws : List Int) (b : Array Bool) : bitsRel ws b ↔ ws.length = 128 ∧ Packed ws b := by
  constructor
  · intro ⟨⟨hl, hw⟩, hs, hb⟩
    refine ⟨hl, by omega, fun i hi => ?_, fun p hp => ?_⟩
    · rw [idx_natCast]; exact hw i (by omega)
    · rw [idx_natCast]; exact (hb p (by omega)).symm
  · intro ⟨hl, hs, hw, hb⟩
    refine ⟨⟨hl, fun k hk => ?_⟩, by omega, fun p hp => ?_⟩
    · rw [← idx_natCast]; exact hw k (by omega)
    · rw [← idx_natCast]; exact (hb p (by omega)).symm

/-- with `size = 128` it is the relation `BRel` of Facts/FnReportBitmap. -/
theorem brel_iff (g : S_report_receiverStream) (b : Array Bool) :
    BRel g b ↔ g.size = 128 ∧ bitsRel g.packets b := by
  rw [bitsRel_iff]
  constructor
  · intro h; exact ⟨h.size, h.words, h.packed⟩
  · intro ⟨hsz, hl, hp⟩
    refine ⟨hsz, ?_, hp⟩
    have := hp.size
    unfold W; omega

/-- ★ the constructor establishes the relation: `make([]uint64, 128)` represents the all-false history. -/
theorem bitsRel_new : bitsRel (mkSlice 128) (Array.replicate W false) :=
  (bitsRel_iff _ _).2 ⟨List.length_replicate, Packed.zero 128⟩

/-- ★ `setReceived` as written in the source changes only `packets`, and the new slice represents the
model's `setBit … true`. -/
theorem setReceived_src_eq_model (g : S_report_receiverStream) (b : Array Bool) (hsz : g.size = 128)
    (r : bitsRel g.packets b) (seq : Int) (hs : 0 ≤ seq ∧ seq < 65536) :
    ∃ ws, report_receiverStream_setReceived g seq = { g with packets := ws } ∧
      bitsRel ws (setBit b seq.toNat true) := by
  obtain ⟨hr, he⟩ := Facts.FnReportBitmap.setReceived_src_eq_model ((brel_iff g b).2 ⟨hsz, r⟩) seq.toNat
  rw [Int.toNat_of_nonneg hs.1] at hr he
  exact ⟨_, he, ((brel_iff _ _).1 hr).2⟩

/-- ★ `delReceived` as written in the source changes only `packets`, and the new slice represents the
model's `setBit … false`. -/
theorem delReceived_src_eq_model (g : S_report_receiverStream) (b : Array Bool) (hsz : g.size = 128)
    (r : bitsRel g.packets b) (seq : Int) (hs : 0 ≤ seq ∧ seq < 65536) :
    ∃ ws, report_receiverStream_delReceived g seq = { g with packets := ws } ∧
      bitsRel ws (setBit b seq.toNat false) := by
  obtain ⟨hr, he⟩ := Facts.FnReportBitmap.delReceived_src_eq_model ((brel_iff g b).2 ⟨hsz, r⟩) seq.toNat
  rw [Int.toNat_of_nonneg hs.1] at hr he
  exact ⟨_, he, ((brel_iff _ _).1 hr).2⟩

/-- ★ `getReceived` as written in the source equals the model's `getBit`. -/
theorem getReceived_src_eq_model (g : S_report_receiverStream) (b : Array Bool) (hsz : g.size = 128)
    (r : bitsRel g.packets b) (seq : Int) (hs : 0 ≤ seq ∧ seq < 65536) :
    report_receiverStream_getReceived g seq = getBit b seq.toNat := by
  have h := Facts.FnReportBitmap.getReceived_src_eq_model ((brel_iff g b).2 ⟨hsz, r⟩) seq.toNat
  rwa [Int.toNat_of_nonneg hs.1] at h

/-! satisfiability of the hypotheses on a concrete state: the freshly constructed stream, and the stream
after `setReceived(65535)` (bit 63 of word 127 set). -/

example : ({ size := 128, packets := mkSlice 128 } : S_report_receiverStream).size = 128 ∧
    bitsRel ({ size := 128, packets := mkSlice 128 } : S_report_receiverStream).packets (Array.replicate W false) :=
  ⟨rfl, bitsRel_new⟩

example : ∃ g b, g.size = 128 ∧ bitsRel g.packets b ∧ report_receiverStream_getReceived g 65535 = true := by
  obtain ⟨ws, he, hb⟩ := setReceived_src_eq_model { size := 128, packets := mkSlice 128 } _ rfl bitsRel_new 65535
    (by omega)
  refine ⟨({ size := 128, packets := ws } : S_report_receiverStream),
    setBit (Array.replicate W false) (65535 : Int).toNat true, rfl, hb, ?_⟩
  rw [getReceived_src_eq_model _ _ rfl hb 65535 (by omega)]
  unfold getBit setBit
  rw [Array.getD_eq_getD_getElem?, Array.getElem?_setIfInBounds, if_pos rfl, Array.size_replicate,
    if_pos (Nat.mod_lt _ (by decide))]
  rfl

end Interceptor.ReportBitmap
