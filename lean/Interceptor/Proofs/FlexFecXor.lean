/-
Helper lemmas for C14: xor of zero-extended byte strings (pointwise law, lengths), xor-sums over
a cover list with one element removed, the running xor of the encoder.  Core Lean only.
-/
import Interceptor.Proofs.FlexFecBits
import Interceptor.Spec.FlexFecDecode
namespace Interceptor.FlexFec
open Interceptor.FlexFecSpec (xorBytes)

def xsum (l : List Nat) : Nat := l.foldr (· ^^^ ·) 0

@[simp] theorem xsum_nil : xsum [] = 0 := rfl
@[simp] theorem xsum_cons (a : Nat) (l : List Nat) : xsum (a :: l) = a ^^^ xsum l := rfl

theorem xorBytes_eq_xorInto : ∀ (a b : Bytes), xorBytes a b = xorInto a b := by
  intro a
  induction a with
  | nil => intro b; cases b <;> simp [xorBytes, xorInto]
  | cons x xs ih => intro b; cases b <;> simp [xorBytes, xorInto, ih]

theorem xorInto_getD : ∀ (d s : Bytes) (i : Nat), (xorInto d s).getD i 0 = d.getD i 0 ^^^ s.getD i 0 := by
  intro d
  induction d with
  | nil => intro s i; cases s <;> simp [xorInto]
  | cons x xs ih =>
    intro s i
    cases s with
    | nil => simp [xorInto]
    | cons y ys =>
      cases i with
      | zero => simp [xorInto]
      | succ i => simpa [xorInto] using ih ys i

theorem xorInto_length : ∀ (d s : Bytes), (xorInto d s).length = max d.length s.length := by
  intro d
  induction d with
  | nil => intro s; cases s <;> simp [xorInto]
  | cons x xs ih =>
    intro s
    cases s with
    | nil => simp [xorInto]
    | cons y ys => simp [xorInto, ih ys]

theorem foldl_xorInto_getD (g : Bytes → Bytes) (i : Nat) : ∀ (ps : List Bytes) (init : Bytes),
    (ps.foldl (fun acc p => xorInto acc (g p)) init).getD i 0
      = init.getD i 0 ^^^ xsum (ps.map fun p => (g p).getD i 0) := by
  intro ps
  induction ps with
  | nil => intro init; simp
  | cons p ps ih =>
    intro init
    simp only [List.foldl_cons, List.map_cons, xsum_cons]
    rw [ih, xorInto_getD, Nat.xor_assoc]

theorem foldl_xorInto_length_init (g : Bytes → Bytes) : ∀ (ps : List Bytes) (init : Bytes),
    init.length ≤ (ps.foldl (fun acc p => xorInto acc (g p)) init).length := by
  intro ps
  induction ps with
  | nil => intro init; simp
  | cons p ps ih =>
    intro init
    simp only [List.foldl_cons]
    have := ih (xorInto init (g p))
    rw [xorInto_length] at this
    omega

theorem foldl_xorInto_length_mem (g : Bytes → Bytes) : ∀ (ps : List Bytes) (init : Bytes) (q : Bytes),
    q ∈ ps → (g q).length ≤ (ps.foldl (fun acc p => xorInto acc (g p)) init).length := by
  intro ps
  induction ps with
  | nil => intro init q h; simp at h
  | cons p ps ih =>
    intro init q h
    simp only [List.foldl_cons]
    rcases List.mem_cons.1 h with e | e
    · subst e
      have := foldl_xorInto_length_init g ps (xorInto init (g q))
      rw [xorInto_length] at this
      omega
    · exact ih _ q e

theorem foldl_xorInto_length_eq (g : Bytes → Bytes) : ∀ (ps : List Bytes) (init : Bytes),
    (∀ q ∈ ps, (g q).length ≤ init.length) →
    (ps.foldl (fun acc p => xorInto acc (g p)) init).length = init.length := by
  intro ps
  induction ps with
  | nil => intro init _; simp
  | cons p ps ih =>
    intro init h
    simp only [List.foldl_cons]
    have hp := h p (by simp)
    have e : (xorInto init (g p)).length = init.length := by rw [xorInto_length]; omega
    rw [ih _ (fun q hq => by rw [e]; exact h q (by simp [hq])), e]

theorem xsum_remove (g : Nat → Nat) (j : Nat) : ∀ (l : List Nat), l.Nodup → j ∈ l →
    xsum (l.map g) = g j ^^^ xsum ((l.filter (· != j)).map g) := by
  intro l
  induction l with
  | nil => intro _ h; simp at h
  | cons a l ih =>
    intro hnd hmem
    have hnd' := List.nodup_cons.1 hnd
    by_cases e : a = j
    · subst e
      have : l.filter (· != a) = l := by
        apply List.filter_eq_self.2
        intro x hx
        have : x ≠ a := fun h => hnd'.1 (h ▸ hx)
        simp [this]
      simp [this]
    · have hm : j ∈ l := by
        rcases List.mem_cons.1 hmem with h | h
        · exact absurd h.symm e
        · exact h
      have hb : (a != j) = true := by simp [e]
      simp only [List.map_cons, xsum_cons, List.filter_cons, hb, if_true]
      rw [ih hnd'.2 hm, ← Nat.xor_assoc, ← Nat.xor_assoc, Nat.xor_comm (g a) (g j)]

theorem take_eq_of_getD : ∀ (l' l : List Nat), l'.length ≤ l.length →
    (∀ i, i < l'.length → l.getD i 0 = l'.getD i 0) → l.take l'.length = l' := by
  intro l'
  induction l' with
  | nil => intro l _ _; simp
  | cons a l' ih =>
    intro l hlen h
    cases l with
    | nil => simp at hlen
    | cons b l =>
      have h0 := h 0 (by simp)
      simp at h0
      simp only [List.length_cons, List.take_succ_cons, h0]
      congr 1
      apply ih l (by simpa using hlen)
      intro i hi
      have := h (i + 1) (by simpa using hi)
      simpa using this


/-- the eight header bytes of the running xor, as `fecPayload` lays them out. -/
def Acc.hdr (a : Acc) : Bytes := [a.h0, a.h1, a.l2, a.l3, a.t4, a.t5, a.t6, a.t7]

/-- the draft's 64-bit string of a packet (§6.3.2) byte by byte; it is `FlexFecSpec.bitString p` once `p` has
its eight bytes (`bitString_eq`). -/
def fields (p : Bytes) : Bytes :=
  [p.getD 0 0, p.getD 1 0, (p.length - 12) / 256 % 256, (p.length - 12) % 256,
   p.getD 4 0, p.getD 5 0, p.getD 6 0, p.getD 7 0]

/-- bytes 1..7 of the header are xored in as they stand (byte 0 also loses its two version bits). -/
theorem step_hdr_tail (a : Acc) (p : Bytes) : (a.step p).hdr.tail = xorInto a.hdr.tail (fields p).tail := by
  have e2 : ∀ y : Nat, (y % 65536) >>> 8 = y / 256 % 256 := fun y => by
    rw [Nat.shiftRight_eq_div_pow]; exact Nat.mod_mul_right_div_self y 256 256
  have e3 : ∀ y : Nat, y % 65536 % 256 = y % 256 := fun y => Nat.mod_mul_right_mod y 256 256
  show [a.h1 ^^^ p.getD 1 0, a.l2 ^^^ ((p.length - 12) % 65536) >>> 8, a.l3 ^^^ (p.length - 12) % 65536 % 256,
    a.t4 ^^^ p.getD 4 0, a.t5 ^^^ p.getD 5 0, a.t6 ^^^ p.getD 6 0, a.t7 ^^^ p.getD 7 0] = _
  rw [e2, e3]
  rfl

theorem foldl_step_hdr_tail : ∀ (ps : List Bytes) (a : Acc),
    (ps.foldl Acc.step a).hdr.tail = ps.foldl (fun r p => xorInto r (fields p).tail) a.hdr.tail := by
  intro ps
  induction ps with
  | nil => intro a; rfl
  | cons p ps ih => intro a; simp only [List.foldl_cons]; rw [ih, step_hdr_tail]

theorem foldl_step_rep : ∀ (ps : List Bytes) (a : Acc),
    (ps.foldl Acc.step a).rep = ps.foldl (fun r p => xorInto r (p.drop 12)) a.rep := by
  intro ps
  induction ps with
  | nil => intro a; rfl
  | cons p ps ih => intro a; simp only [List.foldl_cons]; rw [ih]; rfl

theorem foldl_step_h0 : ∀ (ps : List Bytes) (a : Acc),
    (ps.foldl Acc.step a).h0 % 64 = (a.h0 ^^^ xsum (ps.map (·.getD 0 0))) % 64 := by
  intro ps
  induction ps with
  | nil => intro a; simp
  | cons p ps ih =>
    intro a
    simp only [List.foldl_cons, List.map_cons, xsum_cons]
    rw [ih]
    have e : (a.step p).h0 = (a.h0 ^^^ p.getD 0 0) % 64 := by
      show (a.h0 ^^^ p.getD 0 0) &&& 63 = _
      exact Nat.and_two_pow_sub_one_eq_mod _ 6
    have e64 : (64 : Nat) = 2 ^ 6 := rfl
    rw [e, e64, Nat.xor_mod_two_pow, Nat.mod_mod, ← Nat.xor_mod_two_pow, Nat.xor_assoc]

end Interceptor.FlexFec
