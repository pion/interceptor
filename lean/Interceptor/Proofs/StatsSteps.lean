/-
The recorder's operations (Model/Stats.lean), each characterised once: what it writes, as a record
update of the state it is given.  The state falls into parts by who writes them; a view that reads
none of the parts an operation writes is left alone by it (`Part.Writes.frame`).
-/
import Interceptor.Model.Stats
import Interceptor.Spec.Stats
namespace Interceptor.Stats
open Interceptor.Stats.Spec Interceptor.F64

/-- what `PacketsLost` is computed from. -/
structure LossView where
  unwr : Unwrapper.State
  seqInit : Bool
  first : Int
  highest : Int
  pr : Nat
  lost : Int

def lossOf (st : IStats) : LossView :=
  { unwr := st.unwr, seqInit := st.seqInit, first := st.firstSeq, highest := st.highestSeq, pr := st.inPR,
    lost := st.inLost }

/-- the sequence-number half of `recordIncomingRTP`, on the loss view. -/
def lossStep (v : LossView) (seq : Nat) : LossView :=
  let sn := (Unwrapper.unwrap v.unwr seq).2
  let first := if v.seqInit then v.first else sn
  let highest := if sn > v.highest then sn else v.highest
  { unwr := (Unwrapper.unwrap v.unwr seq).1, seqInit := true, first := first, highest := highest, pr := v.pr + 1,
    lost := highest - first + 1 - ((v.pr + 1 : Nat) : Int) }

/-- record the measurements one after the other. -/
def rttApply (v : RttFigures) (hits : List Int) : RttFigures :=
  hits.foldl (fun v x => { rtt := x, total := wrap64 (v.total + x), n := v.n + 1 }) v

theorem foldl_frame {α β γ : Type} (f : α → β → α) (g : α → γ) (h : ∀ a b, g (f a b) = g a)
    (l : List β) (a : α) : g (l.foldl f a) = g a := by
  induction l generalizing a with
  | nil => rfl
  | cons b l ih => rw [List.foldl_cons, ih, h]

/-- A part of the state, given by what overwrites it: `put st v` is `st` with the part taken from `v`. -/
structure Part where
  put : IStats → IStats → IStats
  put_self : ∀ st, put st st = st
  put_put : ∀ st v w, put (put st v) w = put st w

/-- `f` writes nothing outside the part `P`. -/
def Part.Writes (P : Part) (f : IStats → IStats) : Prop := ∀ st, f st = P.put st (f st)

/-- ... so a view that does not read `P` is the same before and after. -/
theorem Part.Writes.frame {P : Part} {f : IStats → IStats} (hf : P.Writes f) {γ : Type} (g : IStats → γ)
    (hg : ∀ st v, g (P.put st v) = g st) (st : IStats) : g (f st) = g st :=
  (congrArg g (hf st)).trans (hg st _)

theorem Part.Writes.id (P : Part) : P.Writes fun st => st := fun st => (P.put_self st).symm

theorem Part.Writes.foldl {P : Part} {β : Type} {f : IStats → β → IStats} (hf : ∀ b, P.Writes (f · b))
    (l : List β) : P.Writes (l.foldl f) := by
  intro st
  induction l generalizing st with
  | nil => exact (P.put_self st).symm
  | cons b l ih => exact (ih (f st b)).trans ((congrArg (P.put · _) (hf b st)).trans (P.put_put ..))

/-- the parts, by who writes them: incoming RTP, outgoing RTP, outgoing RTCP, and of incoming RTCP the
reception report blocks, the DLRR sub-reports and the packet itself. -/
def rtpInPart : Part where
  put st v := { st with
    unwr := v.unwr, seqInit := v.seqInit, firstSeq := v.firstSeq, highestSeq := v.highestSeq, arrInit := v.arrInit
    lastArrival := v.lastArrival, lastArrivalRTP := v.lastArrivalRTP, lastTransit := v.lastTransit, inPR := v.inPR
    inLost := v.inLost, inJitter := v.inJitter, inLastTs := v.inLastTs, inHB := v.inHB, inB := v.inB }
  put_self _ := rfl
  put_put _ _ _ := rfl

def rtpOutPart : Part where
  put st v := { st with
    remFirstInit := v.remFirstInit, remFirst := v.remFirst, outPS := v.outPS, outBS := v.outBS, outHB := v.outHB }
  put_self _ := rfl
  put_put _ _ _ := rfl

def rtcpOutPart : Part where
  put st v := { st with
    lastSRs := v.lastSRs, lastRRTs := v.lastRRTs, inFIR := v.inFIR, inPLI := v.inPLI, inNACK := v.inNACK }
  put_self _ := rfl
  put_put _ _ _ := rfl

def riPart : Part where
  put st v := { st with
    riPR := v.riPR, riLost := v.riLost, riJitter := v.riJitter, riRTT := v.riRTT, riTotRTT := v.riTotRTT
    riFL := v.riFL, riN := v.riN }
  put_self _ := rfl
  put_put _ _ _ := rfl

def roRttPart : Part where
  put st v := { st with roRTT := v.roRTT, roTotRTT := v.roTotRTT, roN := v.roN }
  put_self _ := rfl
  put_put _ _ _ := rfl

def inPktPart : Part where
  put st v := { st with
    outNACK := v.outNACK, outFIR := v.outFIR, outPLI := v.outPLI, roPS := v.roPS, roBS := v.roBS, roTs := v.roTs
    roReports := v.roReports }
  put_self _ := rfl
  put_put _ _ _ := rfl

theorem recordIncomingRTP_eq (s : Nat) (rate : Rat) (now : Int) (st : IStats) (p : Rtp) (h : p.ssrc = s) :
    recordIncomingRTP s rate st now p =
      let v := lossStep (lossOf st) p.seq
      let transit : Int :=
        (((st.lastArrivalRTP + toUint32 (mul (durSeconds (now - st.lastArrival)) rate)) % 4294967296 : Nat) : Int)
          - (p.ts : Int)
      let d := transit - st.lastTransit
      { st with
        unwr := v.unwr, seqInit := true, firstSeq := v.first, highestSeq := v.highest, inPR := v.pr, inLost := v.lost
        arrInit := true, lastArrival := now, lastArrivalRTP := p.ts
        lastTransit := if st.arrInit then transit else st.lastTransit
        inJitter := if st.arrInit then
            add st.inJitter (mul (1 / 16) (sub (div (ofInt (if d < 0 then -d else d)) rate) st.inJitter))
          else st.inJitter
        inLastTs := some now, inHB := st.inHB + p.hs, inB := st.inB + p.len } := by
  have hb : ((p.hs : Int) + ((p.len : Int) - (p.hs : Int))).toNat = p.len := by omega
  unfold recordIncomingRTP lossStep lossOf
  rw [if_neg (Decidable.not_not.2 h)]
  -- a variable in place of the unwrapper's result: the `let (u', sn) := ..` then reduces without unfolding it
  generalize Unwrapper.unwrap st.unwr p.seq = us
  obtain ⟨u', sn⟩ := us
  cases st.seqInit <;> simp only [Bool.not_false, Bool.not_true, Bool.false_eq_true, if_true, if_false]
  all_goals by_cases hh : sn > st.highestSeq <;> simp only [hh, if_true, if_false]
  all_goals cases st.arrInit <;>
    simp only [hb, Bool.not_false, Bool.not_true, Bool.false_eq_true, if_true, if_false] <;> rfl

theorem recordIncomingRTP_skip (s : Nat) (rate : Rat) (now : Int) (st : IStats) (p : Rtp) (h : p.ssrc ≠ s) :
    recordIncomingRTP s rate st now p = st := by
  unfold recordIncomingRTP; rw [if_pos h]

theorem recordIncomingRTP_writes (s : Nat) (rate : Rat) (now : Int) (p : Rtp) :
    rtpInPart.Writes (recordIncomingRTP s rate · now p) := by
  intro st
  dsimp only
  by_cases h : p.ssrc = s
  · rw [recordIncomingRTP_eq s rate now st p h]; rfl
  · rw [recordIncomingRTP_skip s rate now st p h]; rfl

theorem recordOutgoingRTP_eq (s : Nat) (st : IStats) (p : Rtp) (h : p.ssrc = s) :
    recordOutgoingRTP s st p =
      { st with
        outPS := st.outPS + 1, outBS := st.outBS + (p.hs + p.len), outHB := st.outHB + p.hs
        remFirst := if st.remFirstInit then st.remFirst else (p.seq : Int), remFirstInit := true } := by
  unfold recordOutgoingRTP
  rw [if_neg (Decidable.not_not.2 h)]
  cases st.remFirstInit <;> simp only [Bool.not_false, Bool.not_true, Bool.false_eq_true, if_true, if_false]

theorem recordOutgoingRTP_skip (s : Nat) (st : IStats) (p : Rtp) (h : p.ssrc ≠ s) :
    recordOutgoingRTP s st p = st := by
  unfold recordOutgoingRTP; rw [if_pos h]

theorem recordOutgoingRTP_writes (s : Nat) (p : Rtp) : rtpOutPart.Writes (recordOutgoingRTP s · p) := by
  intro st
  dsimp only
  by_cases h : p.ssrc = s
  · rw [recordOutgoingRTP_eq s st p h]; rfl
  · rw [recordOutgoingRTP_skip s st p h]; rfl

theorem rrStep_skip (s : Nat) (rate : Rat) (now : Int) (st : IStats) (r : Report) (h : r.ssrc ≠ s) :
    rrStep s rate now st r = st := by
  unfold rrStep; rw [if_pos h]

theorem rrStep_eq (s : Nat) (rate : Rat) (now : Int) (st : IStats) (r : Report) (h : r.ssrc = s) :
    rrStep s rate now st r =
      let v := rttApply (remoteInboundRtt st) (hitsAt now st.lastSRs [r])
      { st with
        riPR := if st.remFirstInit then
            (max (((r.lsn / 65536 % 65536 * 65536 + r.lsn % 65536 : Nat) : Int) - st.remFirst + 1 - (r.tl : Int)) 0).toNat
          else st.riPR
        riLost := r.tl, riJitter := div (ofInt r.jit) rate, riFL := div (ofInt r.fl) 256
        riRTT := v.rtt, riTotRTT := v.total, riN := v.n } := by
  unfold rrStep hitsAt rttApply remoteInboundRtt rttOf
  rw [if_neg (Decidable.not_not.2 h)]
  cases hi : st.remFirstInit <;> by_cases hc : r.dlsr ≠ 0 ∧ r.lsr ≠ 0 <;>
    cases hf : (searchOrder st.lastSRs).find? (midMatches r.lsr) <;>
    simp only [hi, hc, hf, ne_eq, not_false_eq_true, and_self, Bool.false_eq_true, if_true, if_false, List.filterMap_cons, List.filterMap_nil,
      Option.map_some, Option.map_none, List.foldl_cons, List.foldl_nil]

theorem rrStep_writes (s : Nat) (rate : Rat) (now : Int) (r : Report) : riPart.Writes (rrStep s rate now · r) := by
  intro st
  dsimp only
  by_cases h : r.ssrc = s
  · rw [rrStep_eq s rate now st r h]; rfl
  · rw [rrStep_skip s rate now st r h]; rfl

theorem recordIncomingRR_writes (s : Nat) (rate : Rat) (now : Int) (rs : List Report) :
    riPart.Writes (recordIncomingRR s rate · rs now) :=
  Part.Writes.foldl (rrStep_writes s rate now) rs

theorem dlrrHit_writes (now : Int) (d l v : Nat) : roRttPart.Writes (dlrrHit now d l · v) := by
  intro st
  unfold dlrrHit
  split <;> rfl

theorem dlrrSubStep_writes (s : Nat) (now : Int) (x : DlrrSub) : roRttPart.Writes (dlrrSubStep s now · x) := by
  intro st
  unfold dlrrSubStep
  split
  · exact Part.Writes.foldl (dlrrHit_writes now x.dlrr x.lrr) _ st
  · rfl

theorem xrInBlock_writes (s : Nat) (now : Int) (b : XrBlock) : roRttPart.Writes (xrInBlock s now · b) := by
  cases b with
  | rrtr _ => exact Part.Writes.id _
  | dlrr subs => exact Part.Writes.foldl (dlrrSubStep_writes s now) subs

theorem recordIncomingXR_writes (s : Nat) (now : Int) (bs : List XrBlock) :
    roRttPart.Writes (recordIncomingXR s · bs now) :=
  Part.Writes.foldl (xrInBlock_writes s now) bs

theorem sr_dest_contains (ssrc s : Nat) (rs : List Report) :
    (rs.map (·.ssrc) ++ [ssrc]).contains s = (ssrc == s || rs.any (·.ssrc == s)) := by
  induction rs with
  | nil =>
    rw [List.map_nil, List.nil_append, List.any_nil, Bool.or_false, List.contains_cons, List.contains_nil,
      Bool.or_false, BEq.comm]
  | cons r rs ih =>
    simp only [List.map_cons, List.cons_append, List.contains_cons, ih, List.any_cons]
    rw [BEq.comm (a := s)]
    cases r.ssrc == s <;> cases ssrc == s <;> rfl

theorem inStep_skip (s : Nat) (rate : Rat) (now : Int) (st : IStats) (p : Rtcp)
    (h : p.dest.contains s = false) : inStep s rate now st p = st := by
  unfold inStep; rw [h]; rfl

theorem inStep_hit (s : Nat) (rate : Rat) (now : Int) (st : IStats) (p : Rtcp)
    (h : p.dest.contains s = true) : inStep s rate now st p = inSwitch s rate now st p := by
  unfold inStep; rw [h]; rfl

theorem not_mem_dest_of_skip {s : Nat} {p : Rtcp} (h : p.dest.contains s = false) : s ∉ p.dest := by
  simpa using h

/-- One incoming RTCP packet writes into three parts, depending on its type: the reception report blocks (`riPart`), the
DLRR sub-reports (`roRttPart`), the packet's own counters (`inPktPart`); a view that reads none of the three is left
alone.  (No union of parts is defined; hence three hypotheses.) -/
theorem inStep_frame {γ : Type} (g : IStats → γ) (hri : ∀ st v, g (riPart.put st v) = g st)
    (hro : ∀ st v, g (roRttPart.put st v) = g st) (hpk : ∀ st v, g (inPktPart.put st v) = g st)
    (s : Nat) (rate : Rat) (now : Int) (st : IStats) (p : Rtcp) : g (inStep s rate now st p) = g st := by
  cases hc : p.dest.contains s
  · rw [inStep_skip _ _ _ _ _ hc]
  · rw [inStep_hit _ _ _ _ _ hc]
    cases p with
    | nack _ media =>
      simp only [inSwitch]
      split
      · exact hpk st { st with outNACK := st.outNACK + 1 }
      · rfl
    | pli _ media =>
      simp only [inSwitch]
      split
      · exact hpk st { st with outPLI := st.outPLI + 1 }
      · rfl
    | fir _ _ _ => exact hpk st { st with outFIR := st.outFIR + 1 }
    | other _ => rfl
    | rr _ rs => exact (recordIncomingRR_writes s rate now rs).frame g hri st
    | sr _ ntp pc oc rs =>
      exact ((recordIncomingRR_writes s rate now rs).frame g hri _).trans (hpk st
        { st with roPS := pc, roBS := oc, roTs := some (Ntp.toTime ntp), roReports := st.roReports + 1 })
    | xr _ bs => exact (recordIncomingXR_writes s now bs).frame g hro st

theorem xrOutBlock_writes (b : XrBlock) : rtcpOutPart.Writes (xrOutBlock · b) := by
  cases b <;> exact fun _ => rfl

theorem outStep_writes (s : Nat) (p : Rtcp) : rtcpOutPart.Writes (outStep s · p) := by
  intro st
  cases p with
  | other _ => rfl
  | rr _ _ => rfl
  | xr _ bs => exact Part.Writes.foldl xrOutBlock_writes bs st
  | _ => simp only [outStep]; split <;> rfl

/-- RTP reaches the recorder of `s` iff it travels on stream `s` and carries SSRC `s`. -/
theorem recStep_rtpIn (s : Nat) (rate : Rat) (st : IStats) (now : Int) (via : Nat) (p : Rtp) :
    recStep s rate st (.rtpIn now via p) = if via = s ∧ p.ssrc = s then recordIncomingRTP s rate st now p else st := by
  by_cases hv : via = s
  · by_cases hp : p.ssrc = s
    · simp only [recStep, hv, hp, and_self, if_true]
    · simp only [recStep, hv, hp, and_false, if_true, if_false, recordIncomingRTP_skip s rate now st p hp]
  · simp only [recStep, hv, false_and, if_false]

theorem recStep_rtpOut (s : Nat) (rate : Rat) (st : IStats) (via : Nat) (p : Rtp) :
    recStep s rate st (.rtpOut via p) = if via = s ∧ p.ssrc = s then recordOutgoingRTP s st p else st := by
  by_cases hv : via = s
  · by_cases hp : p.ssrc = s
    · simp only [recStep, hv, hp, and_self, if_true]
    · simp only [recStep, hv, hp, and_false, if_true, if_false, recordOutgoingRTP_skip s st p hp]
  · simp only [recStep, hv, false_and, if_false]

theorem recStep_rtpIn_frame {γ : Type} (g : IStats → γ) (hg : ∀ st v, g (rtpInPart.put st v) = g st)
    (s : Nat) (rate : Rat) (st : IStats) (now : Int) (via : Nat) (p : Rtp) :
    g (recStep s rate st (.rtpIn now via p)) = g st := by
  simp only [recStep]
  split
  · exact (recordIncomingRTP_writes s rate now p).frame g hg st
  · rfl

theorem recStep_rtpOut_frame {γ : Type} (g : IStats → γ) (hg : ∀ st v, g (rtpOutPart.put st v) = g st)
    (s : Nat) (rate : Rat) (st : IStats) (via : Nat) (p : Rtp) : g (recStep s rate st (.rtpOut via p)) = g st := by
  simp only [recStep]
  split
  · exact (recordOutgoingRTP_writes s p).frame g hg st
  · rfl

theorem recStep_rtcpIn_frame {γ : Type} (g : IStats → γ) (hri : ∀ st v, g (riPart.put st v) = g st)
    (hro : ∀ st v, g (roRttPart.put st v) = g st) (hpk : ∀ st v, g (inPktPart.put st v) = g st)
    (s : Nat) (rate : Rat) (st : IStats) (now : Int) (pkts : List Rtcp) :
    g (recStep s rate st (.rtcpIn now pkts)) = g st :=
  foldl_frame _ g (inStep_frame g hri hro hpk s rate now) pkts st

theorem recStep_rtcpOut_frame {γ : Type} (g : IStats → γ) (hg : ∀ st v, g (rtcpOutPart.put st v) = g st)
    (s : Nat) (rate : Rat) (st : IStats) (pkts : List Rtcp) : g (recStep s rate st (.rtcpOut pkts)) = g st :=
  (Part.Writes.foldl (outStep_writes s) pkts).frame g hg st

end Interceptor.Stats
