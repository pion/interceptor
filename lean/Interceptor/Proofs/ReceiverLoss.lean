/-
Lemmas for Props/C06, loss accounting: the 8192-position bitmap against the spec's reception
history (extended sequence numbers), under the hypothesis `H8192`.
-/
import Interceptor.Proofs.ReceiverReport
import Interceptor.Proofs.F64Fraction
namespace Interceptor.ReceiverReport
open Interceptor Interceptor.F64 Interceptor.GoTime Interceptor.ReceiverReport.Spec

theorem setBit_size (b : Array Bool) (x : Nat) (v : Bool) : (setBit b x v).size = b.size :=
  Array.size_setIfInBounds ..

theorem getBit_setBit (b : Array Bool) (x y : Nat) (v : Bool) (hs : b.size = W) :
    getBit (setBit b x v) y = if x % W = y % W then v else getBit b y := by
  have hx : x % W < b.size := by rw [hs]; exact Nat.mod_lt _ (by decide)
  simp only [getBit, setBit, Array.getD_eq_getD_getElem?, Array.getElem?_setIfInBounds]
  split <;> simp_all

theorem getBit_replicate (y : Nat) : getBit (Array.replicate W false) y = false := by
  simp only [getBit, Array.getD_eq_getD_getElem?, Array.getElem?_replicate]
  split <;> rfl

theorem clearRange_size (b : Array Bool) (st k : Nat) : (clearRange b st k).size = b.size := by
  induction k generalizing b st with
  | zero => rfl
  | succ k ih => rw [clearRange, ih, setBit_size]

/-- extended numbers less than a window apart occupy different positions. -/
theorem getBit_setBit_ext (b : Array Bool) (hs : b.size = W) (a m : Nat) (v : Bool) (h1 : a < m + 8192)
    (h2 : m < a + 8192) :
    getBit (setBit b (a % 65536) v) (m % 65536) = if m = a then v else getBit b (m % 65536) := by
  rw [getBit_setBit _ _ _ _ hs]
  refine if_congr ?_ rfl rfl
  -- the window divides the cycle, so positions are residues of the extended numbers themselves
  rw [W, Nat.mod_mod_of_dvd a (by decide : 8192 ∣ 65536), Nat.mod_mod_of_dvd m (by decide : 8192 ∣ 65536)]
  omega

/-- the clearing loop in extended numbers: of the numbers within one window around the range
`[a, a + k)`, exactly those in the range are cleared. -/
theorem getBit_clearRange (b : Array Bool) (hs : b.size = W) (a k m : Nat) (h1 : a + k ≤ m + 8192)
    (h2 : m < a + 8192) :
    getBit (clearRange b (a % 65536) k) (m % 65536) =
      if a ≤ m ∧ m < a + k then false else getBit b (m % 65536) := by
  induction k generalizing b a with
  | zero => rw [if_neg (by omega)]; rfl
  | succ k ih =>
    rw [clearRange, add16_mod, ih _ ((setBit_size ..).trans hs) (a + 1) (by omega) (by omega),
      getBit_setBit_ext b hs a m false (by omega) h2]
    by_cases hm : m = a
    · rw [if_pos hm, if_pos (show a ≤ m ∧ m < a + (k + 1) by omega)]; split <;> rfl
    · rw [if_neg hm]; exact if_congr (by omega) rfl rfl

theorem countMissing_eq (b : Array Bool) (a k : Nat) :
    countMissing b (a % 65536) k =
      ((List.range k).filter fun j => !getBit b ((a + j) % 65536)).length := by
  induction k generalizing a with
  | zero => rfl
  | succ k ih =>
    simp only [countMissing, add16_mod, ih (a + 1), List.range_succ_eq_map, List.filter_cons, List.filter_map]
    have : ((fun j => !getBit b ((a + j) % 65536)) ∘ Nat.succ) = fun j => !getBit b ((a + 1 + j) % 65536) := by
      funext j; simp only [Function.comp, Nat.succ_eq_add_one]; congr 3; omega
    rw [this]
    cases getBit b (a % 65536) <;> simp
    omega

/-- model state vs the spec's reception history (after the first packet). -/
structure RelLoss (s : Stream) (l : Loss) : Prop where
  started : s.started = true
  size : s.bits.size = W
  hge : 65536 ≤ l.h
  last : s.last = l.h % 65536
  lastReport : s.lastReport = l.h0 % 65536
  h0le : l.h0 ≤ l.h
  span : l.h ≤ l.h0 + W
  total : s.totalLost = l.total
  tle : l.total ≤ 16777215
  hin : l.h ∈ l.recv
  rle : ∀ x ∈ l.recv, x ≤ l.h
  win : ∀ m, m ≤ l.h → l.h < m + W → getBit s.bits (m % 65536) = decide (m ∈ l.recv)

/-- before the first packet. -/
def RelLoss0 (s : Stream) : Prop :=
  s.started = false ∧ s.bits = Array.replicate W false ∧ s.totalLost = 0 ∧ s.last = 0 ∧ s.lastReport = 0

theorem relLoss_first (s : Stream) (now : Int) (seq ts : Nat) (hs : seq < 65536) (r : RelLoss0 s) :
    RelLoss (processRTP s now seq ts) (lossRtp none seq) := by
  obtain ⟨r1, r2, r3, _, _⟩ := r
  have hsz : s.bits.size = W := by rw [r2]; exact Array.size_replicate
  have e : (seq + 65536) % 65536 = seq := by rw [Nat.add_mod_right, Nat.mod_eq_of_lt hs]
  have e1 : sub16 seq 1 = (seq + 65535) % 65536 := by
    unfold sub16; rw [Nat.mod_eq_of_lt (by decide : 1 < 65536), Nat.add_sub_assoc (by decide : 1 ≤ 65536)]
  rw [processRTP_first s now seq ts r1]
  refine
    { started := rfl
      size := (setBit_size ..).trans hsz
      hge := Nat.le_add_left ..
      last := e.symm
      lastReport := e1
      h0le := by dsimp only [lossRtp]; omega
      span := by dsimp only [lossRtp, W]; omega
      total := r3
      tle := Nat.zero_le _
      hin := List.mem_singleton_self _
      rle := fun x hx => Nat.le_of_eq (List.mem_singleton.mp hx)
      win := fun m h1 h2 => ?_ }
  dsimp only [lossRtp, W] at h1 h2 ⊢
  rw [← e, getBit_setBit_ext _ hsz _ m true (by omega) (by omega), e, r2, getBit_replicate]
  by_cases hm : m = seq + 65536 <;> simp [hm]

theorem lossRtp_ahead (l : Loss) (seq : Nat) (ha : ahead l.h seq = true) :
    lossRtp (some l) seq =
      { l with h := l.h + sub16 seq (l.h % 65536), recv := (l.h + sub16 seq (l.h % 65536)) :: l.recv } := by
  simp only [lossRtp, highest, extend, ha, if_true]

theorem lossRtp_old (l : Loss) (seq : Nat) (ha : ¬ ahead l.h seq = true) :
    lossRtp (some l) seq = { l with recv := (l.h - sub16 (l.h % 65536) seq) :: l.recv } := by
  simp only [lossRtp, highest, extend, ha, Bool.false_eq_true, if_false]

/-- a packet ahead of the highest: the window moves up to it, the numbers it passes are cleared
(they have not been received), and what stays in the window is untouched because the open
interval spans at most 8192 numbers. -/
theorem relLoss_ahead (s : Stream) (l : Loss) (now : Int) (seq ts : Nat) (hs : seq < 65536)
    (r : RelLoss s l) (ha : ahead l.h seq = true) (hH : l.h + sub16 seq (l.h % 65536) - l.h0 ≤ 8192) :
    RelLoss (processRTP s now seq ts) (lossRtp (some l) seq) := by
  obtain ⟨m1, _⟩ := fwd16 l.h seq hs
  have hd := (ahead_iff _ _).mp ha
  have h0le := r.h0le
  have hspan : l.h ≤ l.h0 + 8192 := r.span
  rw [lossRtp_ahead l seq ha, processRTP_adv s now seq ts r.started ((adv_iff_ahead r.last seq).mpr ha),
    r.last, add16_mod]
  generalize sub16 seq (l.h % 65536) = d at *
  subst m1
  have hsz := (setBit_size s.bits ((l.h + d) % 65536) true).trans r.size
  refine
    { r with
      size := (clearRange_size ..).trans hsz
      hge := Nat.le_trans r.hge (Nat.le_add_right ..)
      last := rfl
      h0le := Nat.le_trans h0le (Nat.le_add_right ..)
      span := by dsimp only [W]; omega
      hin := List.mem_cons_self
      rle := fun x hx => ?_
      win := fun m h1 h2 => ?_ }
  · rcases List.mem_cons.mp hx with h | h
    · exact Nat.le_of_eq h
    · exact Nat.le_trans (r.rle x h) (Nat.le_add_right ..)
  · dsimp only [W] at h1 h2 ⊢
    rw [getBit_clearRange _ hsz (l.h + 1) (d - 1) m (by omega) (by omega),
      getBit_setBit_ext _ r.size (l.h + d) m true (by omega) (by omega)]
    by_cases hm : m ≤ l.h
    · rw [if_neg (by omega), if_neg (by omega), r.win m hm (by dsimp only [W]; omega)]
      simp [show m ≠ l.h + d by omega]
    · have hr : m ∉ l.recv := fun hx => hm (r.rle m hx)
      by_cases hm' : m = l.h + d
      · rw [if_neg (by omega), if_pos hm']; simp [hm']
      · rw [if_pos (by omega)]; simp [hr, hm']

/-- an older (or duplicate) packet less than 8192 behind the highest: only its own position is set. -/
theorem relLoss_old (s : Stream) (l : Loss) (now : Int) (seq ts : Nat) (hs : seq < 65536)
    (r : RelLoss s l) (ha : ¬ ahead l.h seq = true) (hH : sub16 (l.h % 65536) seq < 8192) :
    RelLoss (processRTP s now seq ts) (lossRtp (some l) seq) := by
  have m1 := bwd16 l.h seq hs r.hge
  rw [lossRtp_old l seq ha,
    processRTP_old s now seq ts r.started (fun x => ha ((adv_iff_ahead r.last seq).mp x))]
  generalize sub16 (l.h % 65536) seq = d at *
  subst m1
  refine
    { r with
      size := (setBit_size ..).trans r.size
      hin := List.mem_cons_of_mem _ r.hin
      rle := fun x hx => ?_
      win := fun m h1 h2 => ?_ }
  · rcases List.mem_cons.mp hx with h | h
    · exact Nat.le_trans (Nat.le_of_eq h) (Nat.sub_le ..)
    · exact r.rle x h
  · dsimp only [W] at h1 h2 ⊢
    rw [getBit_setBit_ext _ r.size (l.h - d) m true (by omega) (by omega), r.win m h1 h2]
    by_cases hm : m = l.h - d <;> simp [hm]

theorem relLoss_rtp (s : Stream) (l : Loss) (now : Int) (seq ts : Nat) (hs : seq < 65536)
    (r : RelLoss s l)
    (hH : if ahead l.h seq then extend l.h seq - l.h0 ≤ 8192 else sub16 (l.h % 65536) seq < 8192) :
    RelLoss (processRTP s now seq ts) (lossRtp (some l) seq) := by
  by_cases ha : ahead l.h seq = true
  · exact relLoss_ahead s l now seq ts hs r ha (by rwa [if_pos ha, extend, if_pos ha] at hH)
  · exact relLoss_old s l now seq ts hs r ha (by rwa [if_neg ha] at hH)

theorem relLoss_expected (s : Stream) (l : Loss) (r : RelLoss s l) : expectedInterval s = l.h - l.h0 := by
  obtain ⟨d, hd⟩ := Nat.exists_eq_add_of_le r.h0le
  have h2 : l.h ≤ l.h0 + 8192 := r.span
  rw [expectedInterval, r.last, r.lastReport, hd, Nat.add_sub_cancel_left]
  exact sub16_mod_mod l.h0 d (by omega)

theorem relLoss_lost (s : Stream) (l : Loss) (r : RelLoss s l) :
    lostInterval s = lostIn l.h0 l.h l.recv := by
  have h1 := r.h0le
  have h2 : l.h ≤ l.h0 + 8192 := r.span
  rw [lostInterval_eq, relLoss_expected s l r, r.lastReport, add16_mod, countMissing_eq, lostIn]
  cases he : l.h - l.h0 with
  | zero => rfl
  | succ e =>
    -- the last number of the interval, `l.h`, has been received
    have hlast : List.filter (fun k => decide (l.h0 + 1 + k ∉ l.recv)) [e] = [] := by
      simp [show l.h0 + 1 + e = l.h by omega, r.hin]
    rw [Nat.add_sub_cancel, List.range_succ, List.filter_append, hlast, List.append_nil]
    congr 1
    apply List.filter_congr
    intro j hj
    have hj' : j < e := List.mem_range.mp hj
    rw [r.win (l.h0 + 1 + j) (by omega) (by simp only [W]; omega)]
    simp

/-- the fraction field over an interval of `e < 65536` expected numbers of which at most `e − 1` are lost (the last
one has been received): 0 for the empty interval, the floor otherwise. -/
theorem fractionLost_interval (lost e : Nat) (hle : lost ≤ e - 1) (he : e < 65536) :
    fractionLost lost e = if e = 0 then 0 else lost * 256 / e := by
  by_cases h0 : e = 0
  · rw [if_pos h0, h0]; rfl
  · rw [if_neg h0]; exact fractionLost_eq_floor lost e (by omega) (by omega) (by omega)

theorem relLoss_report (s : Stream) (l : Loss) (now : Int) (r : RelLoss s l) :
    let lost := lostIn l.h0 l.h l.recv
    let e := l.h - l.h0
    (generateReport s now).1.fraction = (if e = 0 then 0 else lost * 256 / e) ∧
    (generateReport s now).1.totalLost = min 16777215 (l.total + lost) ∧
    RelLoss (generateReport s now).2 { l with h0 := l.h, total := min 16777215 (l.total + lost) } := by
  intro lost e
  have he : expectedInterval s = e := relLoss_expected s l r
  have hl : lostInterval s = lost := relLoss_lost s l r
  have ht : (generateReport s now).1.totalLost = min 16777215 (l.total + lost) := by
    rw [report_total s now (r.total ▸ r.tle), hl, r.total]
  refine ⟨?_, ht, ?_⟩
  · rw [report_fraction]
    have hle := lostInterval_le s
    have hlt : expectedInterval s < 65536 := sub16_lt _ _
    rw [he, hl] at hle
    rw [he] at hlt
    rw [he, hl]
    exact fractionLost_interval lost e hle hlt
  · rw [generateReport_snd, ht]
    exact { r with
      lastReport := r.last
      h0le := Nat.le_refl _
      span := Nat.le_add_right ..
      total := rfl
      tle := Nat.min_le_left .. }

/-- the loss observables of a report. -/
def lossObs (r : RR) : Nat × Nat := (r.fraction, r.totalLost)
/-- the same two of a spec report `(expected, lost, fraction, cumulative)`. -/
def specObs (x : Nat × Nat × Nat × Nat) : Nat × Nat := (x.2.2.1, x.2.2.2)

theorem loss_run_started (s : Stream) (l : Loss) (evs : List Ev) (hwf : ∀ e ∈ evs, e.wf)
    (hH : H8192 (some l) evs) (r : RelLoss s l) :
    (runEv s evs).map lossObs = (lossReports (some l) evs).map specObs := by
  induction evs generalizing s l with
  | nil => rfl
  | cons e es ih =>
    obtain ⟨hw, hwf'⟩ := List.forall_mem_cons.mp hwf
    cases e with
    | rtp now seq ts =>
      exact ih _ _ hwf' hH.2 (relLoss_rtp s l now seq ts hw.1 r hH.1)
    -- `processSR` writes only `lsr`/`lsrTime`, which `RelLoss` does not read: rebuilding the structure lets every field
    -- of `r` be checked against `processSR s now ntp` by unfolding
    | sr now ntp => exact ih _ _ hwf' hH { r with started := r.started }
    | report now =>
      obtain ⟨g1, g2, g3⟩ := relLoss_report s l now r
      simp only [runEv, stepEv, lossReports, List.map_cons]
      rw [ih _ _ hwf' hH g3]
      simp only [lossObs, specObs, g1, g2]

theorem loss_run0 (s : Stream) (evs : List Ev) (hwf : ∀ e ∈ evs, e.wf)
    (hH : H8192 none evs) (r : RelLoss0 s) :
    (runEv s evs).map lossObs = (lossReports none evs).map specObs := by
  induction evs generalizing s with
  | nil => rfl
  | cons e es ih =>
    obtain ⟨hw, hwf'⟩ := List.forall_mem_cons.mp hwf
    cases e with
    | rtp now seq ts =>
      exact loss_run_started _ _ es hwf' hH (relLoss_first s now seq ts hw.1 r)
    | sr now ntp => exact ih (processSR s now ntp) hwf' hH r
    | report now =>
      obtain ⟨r1, r2, r3, r4, r5⟩ := r
      have hlost : lostInterval s = 0 := by rw [lostInterval, r4, r5, if_pos rfl]
      have ht : (generateReport s now).1.totalLost = 0 := by
        rw [report_total s now (by omega), r3, hlost]; rfl
      have hf : (generateReport s now).1.fraction = 0 := by
        rw [report_fraction, expectedInterval, r4, r5]; rfl
      simp only [runEv, stepEv, lossReports, List.map_cons]
      rw [ih (generateReport s now).2 hwf' hH (by rw [generateReport_snd, ht]; exact ⟨r1, r2, rfl, r4, r4⟩)]
      simp only [lossObs, specObs, hf, ht]

end Interceptor.ReceiverReport
