/-
What Props/C08 needs besides Proofs/Rfc8888: the size accounting of `size_bound` (`metricsAfter_len_le` and
`buildAll_sum` for any even budget, hence `buildAll_fits`; `perStream_eq` for the budget `BuildReport` passes); `add` as
`addU` on the unwrapped, non-negative number (`add_unwrapped`, with C20's `unwrap_nonneg`); and the history of its
non-vacuity examples (`exampleHist`).
-/
import Interceptor.Proofs.Rfc8888
import Interceptor.Props.C20
namespace Interceptor.Rfc8888

theorem nonNeg_append (h2 h1 : List Ev) (hn : NonNeg (h2 ++ h1)) : NonNeg h1 := by
  induction h2 with
  | nil => exact hn
  | cons e h2 ih => cases e <;> exact ih hn.2

theorem metricsAfter_len_le (l : StreamLog) (ref b : Int) (hb : 0 ≤ b) :
    ((metricsAfter l ref b).2.metrics.length : Int) ≤ b := by
  by_cases he : l.log = []
  · rw [metricsAfter_empty l ref b he]; exact hb
  · rw [metricsAfter_eq l ref b he]
    simp only [emit_length]
    unfold rangeBegin; omega

/-- `perStream` without Go's truncating division: `q` metric blocks in all (`2·q` bytes fit beside the headers when
the headers fit at all), `p` per stream with `k·p ≤ q`, rounded down to even. -/
theorem perStream_eq (maxSize : Int) (k : Nat) :
    ∃ q p : Int, 0 ≤ q ∧ (0 ≤ maxSize - 12 - 8 * (k : Int) → 2 * q ≤ maxSize - 12 - 8 * (k : Int)) ∧
      0 ≤ p ∧ (k : Int) * p ≤ q ∧ perStream maxSize k = p - p % 2 := by
  dsimp only [perStream]
  have hx : 0 ≤ maxSize - 12 - 8 * (k : Int) →
      2 * max (Int.tdiv (maxSize - 12 - 8 * (k : Int)) 2) 0 ≤ maxSize - 12 - 8 * (k : Int) := fun h => by
    rw [Int.tdiv_eq_ediv_of_nonneg h]; omega
  have h0 : 0 ≤ max (Int.tdiv (maxSize - 12 - 8 * (k : Int)) 2) 0 := Int.le_max_right _ _
  generalize max (Int.tdiv (maxSize - 12 - 8 * (k : Int)) 2) 0 = q at hx h0 ⊢
  have hp : 0 ≤ q / (k : Int) := Int.ediv_nonneg h0 (Int.natCast_nonneg k)
  have hk : (k : Int) * (q / k) ≤ q := by
    by_cases hk : (k : Int) = 0
    · rw [hk, Int.zero_mul]; exact h0
    · exact Int.mul_ediv_self_le hk
  rw [Int.tdiv_eq_ediv_of_nonneg h0, Int.tmod_eq_emod_of_nonneg hp]
  exact ⟨q, q / k, h0, hx, hp, hk, rfl⟩

theorem perStream_nonneg (maxSize : Int) (k : Nat) : 0 ≤ perStream maxSize k ∧ perStream maxSize k % 2 = 0 := by
  obtain ⟨q, p, _, _, hp, _, e⟩ := perStream_eq maxSize k
  rw [e]; omega

/-- `k` blocks of 8 header bytes and `perStream` two-byte metric blocks fit what the 12 bytes of the report header
leave: `k·p ≤ q` and `2·q ≤ maxSize − 12 − 8·k`, and rounding `p` down to even only helps. -/
theorem perStream_fits (maxSize : Int) (k : Nat) (h : 12 + 8 * (k : Int) ≤ maxSize) :
    (k : Int) * (8 + 2 * perStream maxSize k) ≤ maxSize - 12 := by
  obtain ⟨q, p, _, hq, hp, hk, e⟩ := perStream_eq maxSize k
  have hq := hq (by omega)
  rw [e, Int.mul_add, Int.mul_left_comm, Int.mul_sub]
  have h3 : 0 ≤ (k : Int) * (p % 2) := Int.mul_nonneg (Int.natCast_nonneg k) (by omega)
  omega

/-- pion/rtcp pads the number of metric blocks of a report block to an even number; an even budget absorbs that. -/
theorem padded_le (n : Nat) (p : Int) (h : (n : Int) ≤ p) (hev : p % 2 = 0) : ((n + n % 2 : Nat) : Int) ≤ p := by
  omega

theorem buildAll_sum (now p : Int) (hp : 0 ≤ p) (hev : p % 2 = 0) (ss : List (Nat × StreamLog)) :
    (((buildAll now p ss).2.map blockLen).sum : Int) ≤ (ss.length : Int) * (8 + 2 * p) := by
  induction ss with
  | nil => simp [buildAll]
  | cons a ss ih =>
    obtain ⟨k, l⟩ := a
    have hl := padded_le _ p (metricsAfter_len_le l now p hp) hev
    simp only [buildAll, List.map_cons, List.sum_cons, List.length_cons, blockLen]
    rw [Int.natCast_add (ss.length) 1, Int.add_mul]
    omega

/-- The size limit for any per-stream budget: a report built with an even budget `p ≥ 0` for which `k` blocks of
`8 + 2·p` bytes fit beside the 12 bytes of header and timestamp does not exceed `maxSize`. -/
theorem buildAll_fits (now p maxSize : Int) (hp : 0 ≤ p) (hev : p % 2 = 0) (ss : List (Nat × StreamLog)) (ts : Nat)
    (hfit : (ss.length : Int) * (8 + 2 * p) ≤ maxSize - 12) :
    (marshalledLen ⟨ts, (buildAll now p ss).2⟩ : Int) ≤ maxSize := by
  have := buildAll_sum now p hp hev ss
  show ((12 + ((buildAll now p ss).2.map blockLen).sum : Nat) : Int) ≤ maxSize
  omega

/-- a history with loss (11 missing), a duplicate of 10 (later, other ECN) and reordering. -/
def exampleHist : List Ev :=
  [.add 9 12 0, .report 8 10, .add 7 10 3, .add 5 13 0, .add 3 10 1]

theorem exampleHist_nonNeg : NonNeg exampleHist := by
  simp only [exampleHist, NonNeg]; decide

theorem add_unwrapped (l : StreamLog) (ts : Int) (sn ecn : Nat) (hsn : sn < 65536)
    (hs : ∀ x, l.seq = some x → 0 ≤ x) :
    ∃ u : Int, 0 ≤ u ∧ add l ts sn ecn = addU { l with seq := some u } ts u ecn ∧
      (add l ts sn ecn).seq = some u := by
  unfold add
  cases hq : l.seq with
  | none =>
    refine ⟨(sn : Int), by omega, ?_, ?_⟩
    · simp only [Unwrapper.unwrap]
    · simp only [Unwrapper.unwrap, addU_seq]
  | some last =>
    refine ⟨Unwrapper.step last sn, Unwrapper.unwrap_nonneg last sn (hs last hq) hsn, ?_, ?_⟩
    · simp only [Unwrapper.unwrap]
    · simp only [Unwrapper.unwrap, addU_seq]

end Interceptor.Rfc8888
