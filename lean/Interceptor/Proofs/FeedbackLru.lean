/- the 250-entry history of cc.FeedbackAdapter: unique keys, move-to-front on re-add, survival of
the most recent entries (C09.T6) -/
import Interceptor.Model.FeedbackAdapter
namespace Interceptor.FeedbackAdapter

/-- no two entries share a (SSRC, sequence number) key — what the Go map index guarantees. -/
def KeysUnique (h : Hist) : Prop := h.Pairwise (fun a b => ¬ (a.ssrc = b.ssrc ∧ a.seq = b.seq))

theorem sameKey_iff (ssrc seq : Nat) (a : Ack) : sameKey ssrc seq a = true ↔ a.ssrc = ssrc ∧ a.seq = seq := by
  simp [sameKey]

theorem eraseP_no_key (h : Hist) (hu : KeysUnique h) (ssrc seq : Nat) :
    ∀ b ∈ h.eraseP (sameKey ssrc seq), sameKey ssrc seq b = false := by
  induction h with
  | nil => intro b hb; simp at hb
  | cons x xs ih =>
    intro b hb
    have hux : KeysUnique xs := (List.pairwise_cons.mp hu).2
    have hx := (List.pairwise_cons.mp hu).1
    by_cases hp : sameKey ssrc seq x = true
    · rw [List.eraseP_cons_of_pos hp] at hb
      have hk := (sameKey_iff _ _ _).mp hp
      have := hx b hb
      cases hsb : sameKey ssrc seq b with
      | false => rfl
      | true =>
        have hkb := (sameKey_iff _ _ _).mp hsb
        exact absurd ⟨hk.1.trans hkb.1.symm, hk.2.trans hkb.2.symm⟩ this
    · rw [List.eraseP_cons_of_neg hp] at hb
      rcases List.mem_cons.mp hb with rfl | hb
      · simpa using hp
      · exact ih hux b hb

/-- re-adding a key that is present: MoveToFront with the new record. -/
theorem add_of_mem (h : Hist) (a : Ack) (hex : h.any (sameKey a.ssrc a.seq) = true) :
    add h a = a :: h.eraseP (sameKey a.ssrc a.seq) := by
  unfold add; rw [if_pos hex]

/-- adding a new key: PushFront, then `removeOldest` if the list has outgrown the limit. -/
theorem add_of_not_mem (h : Hist) (a : Ack) (hnew : ¬ h.any (sameKey a.ssrc a.seq) = true) :
    add h a = if (a :: h).length > lruSize then (a :: h).dropLast else a :: h := by
  unfold add; rw [if_neg hnew]

theorem length_add_of_mem (h : Hist) (a : Ack) (hex : h.any (sameKey a.ssrc a.seq) = true) :
    (add h a).length = h.length := by
  rw [add_of_mem h a hex, List.length_cons, List.length_eraseP, if_pos hex]
  cases h with
  | nil => cases hex
  | cons _ _ => rfl

theorem add_eq_cons (h : Hist) (a : Ack) : ∃ t, add h a = a :: t := by
  by_cases hex : h.any (sameKey a.ssrc a.seq) = true
  · exact ⟨_, add_of_mem h a hex⟩
  · rw [add_of_not_mem h a hex]
    split
    · rename_i hlen
      cases h with
      | nil => exact absurd hlen (show ¬ 1 > lruSize by decide)
      | cons x xs => exact ⟨_, rfl⟩
    · exact ⟨_, rfl⟩

theorem add_keysUnique (h : Hist) (a : Ack) (hu : KeysUnique h) : KeysUnique (add h a) := by
  by_cases hex : h.any (sameKey a.ssrc a.seq) = true
  · rw [add_of_mem h a hex]
    refine List.pairwise_cons.mpr ⟨?_, List.Pairwise.sublist (List.eraseP_sublist) hu⟩
    intro b hb hk
    have := eraseP_no_key h hu a.ssrc a.seq b hb
    rw [(sameKey_iff _ _ _).mpr ⟨hk.1.symm, hk.2.symm⟩] at this
    cases this
  · have hcons : KeysUnique (a :: h) := by
      refine List.pairwise_cons.mpr ⟨?_, hu⟩
      intro b hb hk
      exact hex (List.any_eq_true.mpr ⟨b, hb, (sameKey_iff _ _ _).mpr ⟨hk.1.symm, hk.2.symm⟩⟩)
    rw [add_of_not_mem h a hex]
    split
    · exact List.Pairwise.sublist (List.dropLast_sublist _) hcons
    · exact hcons

theorem add_length_le (h : Hist) (a : Ack) (hl : h.length ≤ lruSize) : (add h a).length ≤ lruSize := by
  by_cases hex : h.any (sameKey a.ssrc a.seq) = true
  · rw [length_add_of_mem h a hex]; exact hl
  · rw [add_of_not_mem h a hex]
    split
    · rw [List.length_dropLast, List.length_cons]; exact hl
    · rename_i hle; exact Nat.le_of_not_gt hle

theorem get_of_mem (h : Hist) (hu : KeysUnique h) (a : Ack) (ha : a ∈ h) : get h a.ssrc a.seq = some a := by
  induction h with
  | nil => cases ha
  | cons x xs ih =>
    unfold get
    by_cases hx : x = a
    · subst hx; simp [sameKey]
    · have hax : a ∈ xs := by
        rcases List.mem_cons.mp ha with h1 | h1
        · exact absurd h1.symm hx
        · exact h1
      have hne := (List.pairwise_cons.mp hu).1 a hax
      have hs : sameKey a.ssrc a.seq x = false := by
        cases hsx : sameKey a.ssrc a.seq x with
        | false => rfl
        | true => exact absurd ((sameKey_iff _ _ _).mp hsx) hne
      rw [List.find?_cons, hs]
      exact ih (List.pairwise_cons.mp hu).2 hax

theorem mem_take_eraseP (p : Ack → Bool) (a : Ack) (hpa : p a = false) :
    ∀ (h : Hist) (n : Nat), a ∈ h.take n → a ∈ (h.eraseP p).take n := by
  intro h
  induction h with
  | nil => intro n ha; simp at ha
  | cons x xs ih =>
    intro n ha
    cases n with
    | zero => simp at ha
    | succ m =>
      simp only [List.take_succ_cons, List.mem_cons] at ha
      by_cases hp : p x = true
      · rw [List.eraseP_cons_of_pos hp]
        rcases ha with rfl | ha
        · rw [hpa] at hp; cases hp
        · have e : List.take m xs = List.take m (List.take (m + 1) xs) := by
            rw [List.take_take, Nat.min_eq_left (by omega)]
          rw [e] at ha; exact List.mem_of_mem_take ha
      · rw [List.eraseP_cons_of_neg hp, List.take_succ_cons]
        rcases ha with rfl | ha
        · exact List.mem_cons_self ..
        · exact List.mem_cons_of_mem _ (ih m ha)

/-- one more `add` of a DIFFERENT key pushes an entry of the first `k` places at most one place
down, as long as it stays inside the 250 places. -/
theorem add_keeps_recent (h : Hist) (a b : Ack) (k : Nat) (ha : a ∈ h.take k) (hk : k + 1 ≤ lruSize)
    (hl : h.length ≤ lruSize) (hne : sameKey b.ssrc b.seq a = false) : a ∈ (add h b).take (k + 1) := by
  by_cases hex : h.any (sameKey b.ssrc b.seq) = true
  · rw [add_of_mem h b hex, List.take_succ_cons]
    exact List.mem_cons_of_mem _ (mem_take_eraseP _ a hne h k ha)
  · have hmem : a ∈ (b :: h).take (k + 1) := by
      rw [List.take_succ_cons]; exact List.mem_cons_of_mem _ ha
    rw [add_of_not_mem h b hex]
    split
    · -- the dropped last place is beyond place `k + 1`
      rename_i hlen
      rw [List.dropLast_eq_take, List.take_take]
      have : min (k + 1) ((b :: h).length - 1) = k + 1 := by
        simp only [List.length_cons] at hlen ⊢
        unfold lruSize at *; omega
      rw [this]; exact hmem
    · exact hmem

theorem foldl_add_keeps_recent (a : Ack) (bs : List Ack) : ∀ (h : Hist) (k : Nat),
    a ∈ h.take k → k + bs.length ≤ lruSize → KeysUnique h → h.length ≤ lruSize →
    (∀ b ∈ bs, sameKey b.ssrc b.seq a = false) →
    a ∈ bs.foldl add h ∧ KeysUnique (bs.foldl add h) ∧ (bs.foldl add h).length ≤ lruSize := by
  induction bs with
  | nil => intro h k ha _ hu hl _; exact ⟨List.mem_of_mem_take ha, hu, hl⟩
  | cons b bs ih =>
    intro h k ha hk hu hl hne
    simp only [List.length_cons] at hk
    simp only [List.foldl_cons]
    exact ih (add h b) (k + 1)
      (add_keeps_recent h a b k ha (by omega) hl (hne b (List.mem_cons_self ..)))
      (by omega) (add_keysUnique h b hu) (add_length_le h b hl)
      (fun x hx => hne x (List.mem_cons_of_mem _ hx))

end Interceptor.FeedbackAdapter
