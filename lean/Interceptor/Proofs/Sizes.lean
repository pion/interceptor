/- C12: the length of the feedback adapter's history under `add` (`min_add_min` is the arithmetic of a capped counter),
the slot count of the nack ring, the FlexFEC batch buffer, and what a fold of `Unbind`s leaves of a per-stream table
(`fold_unbind_del`). -/
import Interceptor.Model.Sizes
import Interceptor.Proofs.FeedbackLru
namespace Interceptor.Sizes
open Interceptor

/-- a key not yet in the history is pushed in front; the oldest entry goes when the history is full. -/
theorem adapter_add_fresh (h : FeedbackAdapter.Hist) (a : FeedbackAdapter.Ack) (hl : h.length ≤ FeedbackAdapter.lruSize)
    (hf : ∀ x ∈ h, FeedbackAdapter.sameKey a.ssrc a.seq x = false) :
    (FeedbackAdapter.add h a).length = min (h.length + 1) FeedbackAdapter.lruSize ∧
      ∀ x ∈ FeedbackAdapter.add h a, x = a ∨ x ∈ h := by
  have hany : ¬ h.any (FeedbackAdapter.sameKey a.ssrc a.seq) = true := by
    rw [List.any_eq_true]
    exact fun ⟨x, hx, hk⟩ => absurd ((hf x hx).symm.trans hk) Bool.false_ne_true
  rw [FeedbackAdapter.add_of_not_mem h a hany]
  split
  · next hgt =>
    -- the history was full
    have hfull : FeedbackAdapter.lruSize ≤ h.length := Nat.le_of_lt_succ hgt
    rw [List.length_dropLast, List.length_cons, Nat.add_sub_cancel, Nat.min_eq_right (Nat.le_succ_of_le hfull)]
    exact ⟨Nat.le_antisymm hl hfull, fun x hx => List.mem_cons.mp (List.dropLast_subset _ hx)⟩
  · next hle =>
    rw [List.length_cons, Nat.min_eq_left (Nat.le_of_not_gt (List.length_cons ▸ hle))]
    exact ⟨rfl, fun x hx => List.mem_cons.mp hx⟩

/-- a counter capped at `n` that is raised twice is capped once (by rewriting: `omega` is slow on nested `min`). -/
theorem min_add_min (x b n : Nat) : min (min x n + b) n = min (x + b) n := by
  rw [← Nat.add_min_add_right, Nat.min_assoc, Nat.min_eq_right (Nat.le_add_right n b)]

/-- pairwise distinct keys, none of them in the history: every `add` pushes, so the length grows by one per
packet until it reaches the LRU size. -/
theorem adapter_fold_fresh (l : List FeedbackAdapter.Ack) : ∀ (h : FeedbackAdapter.Hist),
    h.length ≤ FeedbackAdapter.lruSize → l.Pairwise (fun a b => FeedbackAdapter.sameKey b.ssrc b.seq a = false) →
    (∀ b ∈ l, ∀ x ∈ h, FeedbackAdapter.sameKey b.ssrc b.seq x = false) →
    (l.foldl FeedbackAdapter.add h).length = min (h.length + l.length) FeedbackAdapter.lruSize := by
  induction l with
  | nil => intro h hl _ _; exact (Nat.min_eq_left hl).symm
  | cons a l ih =>
    intro h hl hp hf
    obtain ⟨hlen, hmem⟩ := adapter_add_fresh h a hl (hf a List.mem_cons_self)
    rw [List.pairwise_cons] at hp
    rw [List.foldl_cons, ih _ (hlen ▸ Nat.min_le_right _ _) hp.2, hlen, List.length_cons, min_add_min,
      Nat.add_right_comm, Nat.add_assoc]
    · intro b hb x hx
      rcases hmem x hx with rfl | hx
      · exact hp.1 b hb
      · exact hf b (List.mem_cons_of_mem _ hb) x hx

theorem clearRange_size (size : Nat) (n : Nat) : ∀ (slots : Array Bool) (i : Nat),
    (clearRange size slots i n).size = slots.size := by
  induction n with
  | zero => intro slots i; rfl
  | succ n ih => intro slots i; simp only [clearRange]; rw [ih]; simp

theorem ring_add_slots (r : Ring) (seq : Nat) : (r.add seq).slots.size = r.slots.size ∧ (r.add seq).size = r.size := by
  unfold Ring.add
  split
  · simp
  · simp only
    split
    · exact ⟨rfl, rfl⟩
    · split
      · simp [clearRange_size]
      · split
        · exact ⟨rfl, rfl⟩
        · simp

theorem ring_used_le (r : Ring) : r.used ≤ r.slots.size := by
  unfold Ring.used
  have := List.countP_le_length (p := (· = true)) (l := r.slots.toList)
  simpa using this

theorem fec_write_lt (s : FlexFec.Icpt) (p : FlexFec.Bytes) (h : s.buffer.length < s.numMedia) :
    (s.write p).1.buffer.length < (s.write p).1.numMedia ∧ (s.write p).1.numMedia = s.numMedia := by
  unfold FlexFec.Icpt.write
  by_cases ha : (!s.active) = true
  · rw [if_pos ha]; exact ⟨h, rfl⟩
  · rw [if_neg ha]
    by_cases hs : (FlexFec.ssrcOf p != s.mediaSsrc) = true
    · rw [if_pos hs]; exact ⟨h, rfl⟩
    · rw [if_neg hs]
      by_cases he : (s.buffer ++ [p]).length = s.numMedia
      · simp only [he, if_true, List.length_nil]; exact ⟨by omega, trivial⟩
      · simp only [he, if_false]
        simp only [List.length_append, List.length_singleton] at he ⊢
        exact ⟨by omega, trivial⟩

/-- with `numMedia = 0` the test `len(buffer) == numMedia` never succeeds. -/
theorem fec_write_zero (s : FlexFec.Icpt) (p : FlexFec.Bytes) (h0 : s.numMedia = 0) (ha : s.active = true)
    (hs : FlexFec.ssrcOf p = s.mediaSsrc) :
    (s.write p).1.buffer.length = s.buffer.length + 1 ∧ (s.write p).1.numMedia = 0 ∧
    (s.write p).1.active = true ∧ (s.write p).1.mediaSsrc = s.mediaSsrc := by
  unfold FlexFec.Icpt.write
  simp only [ha, Bool.not_true, Bool.false_eq_true, if_false, hs, bne_self_eq_false, List.length_append,
    List.length_singleton, h0]
  rw [if_neg (by omega)]
  simp

theorem del_not_mem {α} (m : List (Nat × α)) (k : Nat) : ∀ e ∈ del m k, e.1 ≠ k := by
  intro e he
  simp only [del, List.mem_filter, bne_iff_ne, ne_eq] at he
  exact he.2

theorem del_length_le {α} (m : List (Nat × α)) (k : Nat) : (del m k).length ≤ m.length := by
  simp only [del]; exact List.length_filter_le _ _

theorem del_all {α} (ks : List Nat) : ∀ (m : List (Nat × α)), (∀ e ∈ m, e.1 ∈ ks) → ks.foldl del m = [] := by
  induction ks with
  | nil =>
    intro m h
    cases m with
    | nil => rfl
    | cons e m => have := h e (by simp); simp at this
  | cons k ks ih =>
    intro m h
    simp only [List.foldl_cons]
    apply ih
    intro e he
    have hne := del_not_mem m k e he
    have hm : e ∈ m := by
      simp only [del, List.mem_filter] at he; exact he.1
    have := h e hm
    simp only [List.mem_cons] at this
    cases this with
    | inl h1 => exact absurd h1 hne
    | inr h2 => exact h2

/-- a component built from its stream map by `mk`, on which unbinding `k` is `del · k` of that map, is
`mk []` once every bound stream has been unbound. -/
theorem fold_unbind_del {σ α} (mk : List (Nat × α) → σ) (step : σ → Nat → σ)
    (hstep : ∀ m k, step (mk m) k = mk (del m k)) (ks : List Nat) (m : List (Nat × α)) (hk : ∀ e ∈ m, e.1 ∈ ks) :
    ks.foldl step (mk m) = mk [] := by
  rw [List.foldl_hom mk (g₁ := del) (H := hstep), del_all ks m hk]

end Interceptor.Sizes
