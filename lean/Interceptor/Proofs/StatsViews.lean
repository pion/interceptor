/-
`PacketsLost` of the inbound stream (expected − received over the unwrapped sequence numbers) and the
remote loss figures (those of the last report block about the stream) as functions of the history.
-/
import Interceptor.Proofs.StatsSteps
namespace Interceptor.Stats
open Interceptor.Stats.Spec Interceptor.F64

theorem recordIncomingRTP_loss (s : Nat) (rate : Rat) (now : Int) (st : IStats) (p : Rtp) (h : p.ssrc = s) :
    lossOf (recordIncomingRTP s rate st now p) = lossStep (lossOf st) p.seq := by
  rw [recordIncomingRTP_eq s rate now st p h]; rfl

theorem fold_loss (s : Nat) (rate : Rat) (w : List Event) (st : IStats) :
    lossOf (w.foldl (recStep s rate) st) = ((received s w).map (·.seq)).foldl lossStep (lossOf st) := by
  induction w generalizing st with
  | nil => rfl
  | cons e w ih =>
    rw [List.foldl_cons, ih]
    cases e with
    | bind _ _ => rfl
    | close => rfl
    | rtcpIn now pkts =>
      rw [recStep_rtcpIn_frame lossOf (fun _ _ => rfl) (fun _ _ => rfl) (fun _ _ => rfl)]; rfl
    | rtcpOut pkts => rw [recStep_rtcpOut_frame lossOf (fun _ _ => rfl)]; rfl
    | rtpOut via p => rw [recStep_rtpOut_frame lossOf (fun _ _ => rfl)]; rfl
    | rtpIn now via p =>
      rw [recStep_rtpIn]
      simp only [received, List.filterMap_cons]
      split
      · next h => rw [recordIncomingRTP_loss s rate now st p h.2]; rfl
      · rfl

/-- `v` summarises the unwrapped numbers `us` seen so far. -/
def Summ (v : LossView) (us : List Int) : Prop :=
  v.seqInit = !us.isEmpty ∧ (∀ f rest, us = f :: rest → v.first = f) ∧ v.highest = us.foldl max 0 ∧
    v.pr = us.length ∧ v.lost = lostOf us

theorem lostOf_snoc (us : List Int) (sn : Int) :
    lostOf (us ++ [sn]) = (max (us.foldl max 0) sn - (us ++ [sn]).headD 0 + 1) - ((us.length + 1 : Nat) : Int) := by
  cases us with
  | nil => simp [lostOf]
  | cons a t => simp [lostOf, List.foldl_append]

theorem summ_step (v : LossView) (us : List Int) (x : Nat) (h : Summ v us) :
    Summ (lossStep v x) (us ++ [(Unwrapper.unwrap v.unwr x).2]) := by
  obtain ⟨h1, h2, h3, h4, h5⟩ := h
  have hmax : (if (Unwrapper.unwrap v.unwr x).2 > v.highest then (Unwrapper.unwrap v.unwr x).2 else v.highest)
      = max (us.foldl max 0) (Unwrapper.unwrap v.unwr x).2 := by
    rw [h3, Int.max_def]
    split <;> split <;> omega
  refine ⟨?_, ?_, ?_, ?_, ?_⟩
  · simp [lossStep]
  · intro f rest hf
    cases us with
    | nil =>
      simp only [List.nil_append, List.cons.injEq] at hf
      simp only [List.isEmpty_nil, Bool.not_true] at h1
      simp [lossStep, h1, hf.1]
    | cons a t =>
      simp only [List.cons_append, List.cons.injEq] at hf
      simp only [List.isEmpty_cons, Bool.not_false] at h1
      simp only [lossStep, h1, if_true]
      rw [← hf.1]
      exact h2 a t rfl
  · simp only [lossStep, List.foldl_append, List.foldl_cons, List.foldl_nil]
    exact hmax
  · simp [lossStep, h4]
  · rw [lostOf_snoc]
    simp only [lossStep]
    rw [hmax, h4]
    cases us with
    | nil =>
      simp only [List.isEmpty_nil, Bool.not_true] at h1
      simp [h1]
    | cons a t =>
      simp only [List.isEmpty_cons, Bool.not_false] at h1
      simp [h1, h2 a t rfl]

theorem summ_fold (seqs : List Nat) (v : LossView) (us : List Int) (h : Summ v us) :
    Summ (seqs.foldl lossStep v) (us ++ Unwrapper.unwrapAll v.unwr seqs) := by
  induction seqs generalizing v us with
  | nil => simpa [Unwrapper.unwrapAll] using h
  | cons x seqs ih =>
    have := ih (lossStep v x) _ (summ_step v us x h)
    simpa [Unwrapper.unwrapAll, lossStep, List.append_assoc] using this

theorem fold_lost (s : Nat) (rate : Rat) (w : List Event) :
    (w.foldl (recStep s rate) {}).inLost = lostOf (unwrapped s w) := by
  have h := fold_loss s rate w {}
  have hs : Summ (lossOf {}) [] := by
    refine ⟨rfl, ?_, rfl, rfl, rfl⟩
    intro f rest hf
    cases hf
  have := summ_fold ((received s w).map (·.seq)) (lossOf {}) [] hs
  rw [← h] at this
  exact this.2.2.2.2

theorem rrStep_remote (s : Nat) (rate : Rat) (now : Int) (st : IStats) (r : Report) :
    remoteLossOf (rrStep s rate now st r)
      = if r.ssrc == s then remoteOf rate (some r) else remoteLossOf st := by
  by_cases h : r.ssrc = s
  · rw [rrStep_eq s rate now st r h, if_pos (beq_iff_eq.2 h)]; rfl
  · rw [rrStep_skip s rate now st r h, if_neg (mt beq_iff_eq.1 h)]

/-- overwrite with each report in turn: the last one wins. -/
def overwrite (rate : Rat) (v : RemoteLoss) (rs : List Report) : RemoteLoss :=
  rs.foldl (fun _ r => remoteOf rate (some r)) v

theorem overwrite_last (rate : Rat) (v : RemoteLoss) (rs : List Report) :
    overwrite rate v rs = match rs.getLast? with
      | none => v
      | some r => remoteOf rate (some r) := by
  unfold overwrite
  induction rs generalizing v with
  | nil => rfl
  | cons r rs ih =>
    rw [List.foldl_cons, ih, List.getLast?_cons]
    cases rs.getLast? <;> rfl

theorem recordIncomingRR_remote (s : Nat) (rate : Rat) (now : Int) (rs : List Report) (st : IStats) :
    remoteLossOf (recordIncomingRR s rate st rs now)
      = overwrite rate (remoteLossOf st) (rs.filter (·.ssrc == s)) := by
  unfold recordIncomingRR overwrite
  induction rs generalizing st with
  | nil => rfl
  | cons r rs ih =>
    rw [List.foldl_cons, ih, rrStep_remote, List.filter_cons]
    cases r.ssrc == s <;> rfl

theorem no_reports_of_skip (s : Nat) (p : Rtcp) (h : p.dest.contains s = false) :
    (reportsOfPkt p).filter (·.ssrc == s) = [] := by
  rw [List.filter_eq_nil_iff]
  intro r hr hrs
  have hs : r.ssrc = s := by simpa using hrs
  -- a report block about `s` would put `s` among the destinations
  refine not_mem_dest_of_skip h ?_
  cases p with
  | sr ssrc ntp pc oc rs =>
    simp only [reportsOfPkt] at hr
    simp only [Rtcp.dest, List.mem_append, List.mem_map]
    exact Or.inl ⟨r, hr, hs⟩
  | rr ssrc rs =>
    simp only [reportsOfPkt] at hr
    simp only [Rtcp.dest, List.mem_map]
    exact ⟨r, hr, hs⟩
  | _ => simp [reportsOfPkt] at hr

theorem inStep_remote (s : Nat) (rate : Rat) (now : Int) (st : IStats) (p : Rtcp) :
    remoteLossOf (inStep s rate now st p)
      = overwrite rate (remoteLossOf st) ((reportsOfPkt p).filter (·.ssrc == s)) := by
  cases hc : p.dest.contains s
  · rw [inStep_skip _ _ _ _ _ hc, no_reports_of_skip s p hc]; rfl
  · rw [inStep_hit _ _ _ _ _ hc]
    cases p with
    | fir _ _ _ => rfl
    | other _ => rfl
    | rr _ rs => exact recordIncomingRR_remote s rate now rs st
    | sr _ _ _ _ rs =>
      simp only [inSwitch, reportsOfPkt]
      rw [recordIncomingRR_remote]
      rfl
    | xr _ bs => exact (recordIncomingXR_writes s now bs).frame remoteLossOf (fun _ _ => rfl) st
    | _ => simp only [inSwitch, reportsOfPkt]; split <;> rfl

theorem overwrite_append (rate : Rat) (v : RemoteLoss) (a b : List Report) :
    overwrite rate v (a ++ b) = overwrite rate (overwrite rate v a) b := by
  unfold overwrite
  rw [List.foldl_append]

theorem inFold_remote (s : Nat) (rate : Rat) (now : Int) (pkts : List Rtcp) (st : IStats) :
    remoteLossOf (pkts.foldl (inStep s rate now) st)
      = overwrite rate (remoteLossOf st) ((pkts.flatMap reportsOfPkt).filter (·.ssrc == s)) := by
  induction pkts generalizing st with
  | nil => rfl
  | cons p pkts ih =>
    rw [List.foldl_cons, ih, inStep_remote, List.flatMap_cons, List.filter_append, overwrite_append]

theorem fold_remote (s : Nat) (rate : Rat) (w : List Event) (st : IStats) :
    remoteLossOf (w.foldl (recStep s rate) st) = overwrite rate (remoteLossOf st) (reportsFor s w) := by
  induction w generalizing st with
  | nil => rfl
  | cons e w ih =>
    rw [List.foldl_cons, ih]
    cases e with
    | bind _ _ => rfl
    | close => rfl
    | rtcpIn now pkts =>
      simp only [recStep, recordIncomingRTCP, reportsFor, rtcpInPkts, List.flatMap_cons, List.flatMap_append,
        List.filter_append]
      rw [inFold_remote, overwrite_append]
    | rtcpOut pkts => rw [recStep_rtcpOut_frame remoteLossOf (fun _ _ => rfl)]; rfl
    | rtpOut via p => rw [recStep_rtpOut_frame remoteLossOf (fun _ _ => rfl)]; rfl
    | rtpIn now via p => rw [recStep_rtpIn_frame remoteLossOf (fun _ _ => rfl)]; rfl

theorem fold_remote_init (s : Nat) (rate : Rat) (w : List Event) :
    remoteLossOf (w.foldl (recStep s rate) {}) = remoteOf rate (reportsFor s w).getLast? := by
  rw [fold_remote, overwrite_last]
  cases (reportsFor s w).getLast? <;> rfl

end Interceptor.Stats
