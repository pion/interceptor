/-
Lemmas for Props/C06 (receiver reports): the equations of the model steps, the arithmetic of
extended sequence numbers, and the simulation relations between the model state and the spec
accumulators for the extended highest, LSR/DLSR, jitter and cumulative-lost fields.
-/
import Interceptor.Spec.ReceiverReport
namespace Interceptor.ReceiverReport
open Interceptor Interceptor.F64 Interceptor.GoTime Interceptor.ReceiverReport.Spec

/-- well-formed events: field widths of the RTP header. -/
def Ev.wf : Ev → Prop
  | .rtp _ seq ts => seq < 65536 ∧ ts < M32
  | _ => True

section
variable (s : Stream) (now : Int) (seq ts : Nat)

theorem processRTP_first (h : s.started = false) :
    processRTP s now seq ts =
      { s with started := true, bits := setBit s.bits seq true, last := seq, lastReport := sub16 seq 1,
               lastTs := ts, lastTime := some now } := by
  simp [processRTP, h]

/-- the branch condition of `processRTP` on a started stream: `seq` is ahead of `last` in half-range order. -/
def adv (s : Stream) (seq : Nat) : Prop := 0 < sub16 seq s.last ∧ sub16 seq s.last < 32768

theorem processRTP_adv (h : s.started = true) (ha : adv s seq) :
    processRTP s now seq ts =
      { s with cycles := if seq < s.last then (s.cycles + 1) % 65536 else s.cycles,
               bits := clearRange (setBit s.bits seq true) (add16 s.last 1) (sub16 seq s.last - 1),
               last := seq,
               jitter := jitterStep s.jitter (jitterD s.rate (GoTime.sub now s.lastTime) ts s.lastTs),
               lastTs := ts, lastTime := some now } := by
  unfold adv at ha
  simp only [processRTP, h, Bool.not_true, Bool.false_eq_true, if_false, ha, and_self, if_true]

theorem processRTP_old (h : s.started = true) (ha : ¬ adv s seq) :
    processRTP s now seq ts =
      { s with bits := setBit s.bits seq true,
               jitter := jitterStep s.jitter (jitterD s.rate (GoTime.sub now s.lastTime) ts s.lastTs),
               lastTs := ts, lastTime := some now } := by
  unfold adv at ha
  simp only [processRTP, h, Bool.not_true, Bool.false_eq_true, if_false, ha]

theorem processRTP_started (h : s.started = true) :
    ∃ bits cycles last, processRTP s now seq ts =
      { s with bits, cycles, last,
               jitter := jitterStep s.jitter (jitterD s.rate (GoTime.sub now s.lastTime) ts s.lastTs),
               lastTs := ts, lastTime := some now } := by
  by_cases ha : adv s seq
  · exact ⟨_, _, _, processRTP_adv s now seq ts h ha⟩
  · exact ⟨_, _, _, processRTP_old s now seq ts h ha⟩

/-- what `processRTP` can change: the fields it writes, and that `last` / `lastReport` are the packet's or the old
ones. -/
theorem processRTP_frame :
    ∃ started bits cycles last lastReport jitter, processRTP s now seq ts =
        { s with started, bits, cycles, last, lastReport, jitter, lastTs := ts, lastTime := some now } ∧
      (last = seq ∨ last = s.last) ∧ (lastReport = sub16 seq 1 ∨ lastReport = s.lastReport) := by
  cases h : s.started with
  | false => exact ⟨_, _, _, _, _, _, processRTP_first s now seq ts h, .inl rfl, .inl rfl⟩
  | true =>
    by_cases ha : adv s seq
    · exact ⟨_, _, _, _, _, _, processRTP_adv s now seq ts h ha, .inl rfl, .inr rfl⟩
    · exact ⟨_, _, _, _, _, _, processRTP_old s now seq ts h ha, .inr rfl, .inr rfl⟩

theorem processRTP_totalLost : (processRTP s now seq ts).totalLost = s.totalLost := by
  obtain ⟨_, _, _, _, _, _, e, _⟩ := processRTP_frame s now seq ts
  rw [e]

theorem processRTP_rate : (processRTP s now seq ts).rate = s.rate := by
  obtain ⟨_, _, _, _, _, _, e, _⟩ := processRTP_frame s now seq ts
  rw [e]

end

theorem generateReport_snd (s : Stream) (now : Int) :
    (generateReport s now).2 =
      { s with totalLost := (generateReport s now).1.totalLost, lastReport := s.last } := rfl

theorem countMissing_le (b : Array Bool) (st n : Nat) : countMissing b st n ≤ n := by
  induction n generalizing st with
  | zero => exact Nat.le_refl 0
  | succ n ih => rw [countMissing]; have := ih (add16 st 1); split <;> omega

/-- the guard `last = lastReport` of `lostInterval` is redundant: the loop then runs `0 - 1 = 0` times. -/
theorem lostInterval_eq (s : Stream) :
    lostInterval s = countMissing s.bits (add16 s.lastReport 1) (expectedInterval s - 1) := by
  unfold lostInterval
  split
  next h => rw [expectedInterval, h, show sub16 s.lastReport s.lastReport = 0 by unfold sub16; omega]; rfl
  next => rfl

theorem lostInterval_le (s : Stream) : lostInterval s ≤ expectedInterval s - 1 := by
  rw [lostInterval_eq]; exact countMissing_le _ _ _

/-- `totalLost += lost` on a uint32 followed by the 24-bit clamp is the saturating sum: the uint32 cannot wrap. -/
theorem clamp24_add (t x : Nat) (ht : t ≤ 16777215) (hx : x < 65536) :
    (if (t + x) % M32 > 16777215 then 16777215 else (t + x) % M32) = min 16777215 (t + x) := by
  rw [Nat.mod_eq_of_lt (by simp only [M32]; omega)]
  split <;> omega

/-- the cumulative count saturates at 2^24 − 1; the reduction modulo 2^32 never acts. -/
theorem report_total (s : Stream) (now : Int) (h : s.totalLost ≤ 16777215) :
    (generateReport s now).1.totalLost = min 16777215 (s.totalLost + lostInterval s) := by
  have h1 := lostInterval_le s
  have h2 : expectedInterval s < 65536 := sub16_lt _ _
  exact clamp24_add s.totalLost (lostInterval s) h (by omega)

/-- the 24-bit clamp of the interval loss never acts. -/
theorem report_fraction (s : Stream) (now : Int) :
    (generateReport s now).1.fraction = fractionLost (lostInterval s) (expectedInterval s) := by
  have h1 := lostInterval_le s
  have h2 : expectedInterval s < 65536 := sub16_lt _ _
  simp only [generateReport]
  rw [if_neg (by omega)]

theorem ahead_iff (h seq : Nat) :
    ahead h seq = true ↔ 0 < sub16 seq (h % 65536) ∧ sub16 seq (h % 65536) < 32768 := by
  simp only [ahead, Bool.and_eq_true, decide_eq_true_eq]

theorem adv_iff_ahead {s : Stream} {h : Nat} (hl : s.last = h % 65536) (seq : Nat) :
    adv s seq ↔ ahead h seq = true := by
  rw [ahead_iff, adv, hl]

/-- T1: model state vs the spec's extended highest. -/
def RelExt (s : Stream) : Option Nat → Prop
  | none => s.started = false ∧ s.cycles = 0 ∧ s.last = 0
  | some h => s.started = true ∧ 65536 ≤ h ∧ s.last = h % 65536 ∧ s.cycles = (h / 65536 - 1) % 65536

theorem relExt_rtp (s : Stream) (h : Option Nat) (now : Int) (seq ts : Nat) (hs : seq < 65536)
    (r : RelExt s h) : RelExt (processRTP s now seq ts) (some (highest h seq)) := by
  cases h with
  | none =>
    obtain ⟨h1, h2, _⟩ := r
    rw [processRTP_first s now seq ts h1]
    simp only [RelExt, highest, h2, true_and]
    rw [Nat.add_mod_right, Nat.mod_eq_of_lt hs, Nat.add_div_right _ (by decide), Nat.div_eq_of_lt hs]
    exact ⟨Nat.le_add_left .., rfl, rfl⟩
  | some h =>
    obtain ⟨h1, h2, h3, h4⟩ := r
    by_cases ha : ahead h seq = true
    · obtain ⟨m1, m2⟩ := fwd16 h seq hs
      rw [processRTP_adv s now seq ts h1 ((adv_iff_ahead h3 seq).mpr ha)]
      simp only [RelExt, highest, extend, ha, if_true, m1, m2, h3, h4]
      refine ⟨h1, Nat.le_trans h2 (Nat.le_add_right ..), trivial, ?_⟩
      -- with `h / 65536 = c + 1` both sides are `(c + 1) % 65536` after a wrap, `c % 65536` otherwise
      obtain ⟨c, hc⟩ := Nat.exists_eq_add_of_le' ((Nat.le_div_iff_mul_le (by decide)).mpr h2 : 1 ≤ h / 65536)
      rw [hc]
      split
      · rw [Nat.add_sub_cancel, Nat.add_sub_cancel, Nat.mod_add_mod]
      · rfl
    · rw [highest, if_neg ha, processRTP_old s now seq ts h1 (fun x => ha ((adv_iff_ahead h3 seq).mp x))]
      exact ⟨h1, h2, h3, h4⟩

/-- in `cycles·65536 + last` modulo 2^32 only the low 16 bits of the cycle count matter. -/
theorem cycles_mod (c l : Nat) : ((c % 65536) * 65536 + l) % M32 = (c * 65536 + l) % M32 := by
  rw [show M32 = 65536 * 65536 from rfl, ← Nat.mul_mod_mul_right, Nat.mod_add_mod]

theorem ext_of_rel (s : Stream) (h : Option Nat) (now : Int) (r : RelExt s h) :
    (generateReport s now).1.ext = extOf h := by
  show (s.cycles * 65536 + s.last) % M32 = extOf h
  cases h with
  | none => obtain ⟨_, h2, h3⟩ := r; rw [h2, h3]; rfl
  | some h =>
    obtain ⟨_, h2, h3, h4⟩ := r
    -- `h − 65536 = c·65536 + h % 65536` with `c = h / 65536 − 1`
    have hq : h - 65536 = (h / 65536 - 1) * 65536 + h % 65536 := by
      have := Nat.div_add_mod h 65536
      have : 1 ≤ h / 65536 := (Nat.le_div_iff_mul_le (by decide)).mpr h2
      generalize h / 65536 = q at *
      generalize h % 65536 = t at *
      omega
    rw [h3, h4, extOf, hq, cycles_mod]

theorem ext_run (s : Stream) (h : Option Nat) (evs : List Ev) (hwf : ∀ e ∈ evs, e.wf) (r : RelExt s h) :
    (runEv s evs).map (·.ext) = extReports h evs := by
  induction evs generalizing s h with
  | nil => rfl
  | cons e es ih =>
    obtain ⟨hw, hwf'⟩ := List.forall_mem_cons.mp hwf
    cases e with
    | rtp now seq ts =>
      exact ih _ _ hwf' (relExt_rtp s h now seq ts hw.1 r)
    -- `processSR` and the state after `generateReport` update other fields than the relation reads
    | sr now ntp => exact ih _ _ hwf' (by cases h <;> exact r)
    | report now =>
      simp only [runEv, stepEv, extReports, List.map_cons]
      rw [ext_of_rel s h now r, ih (generateReport s now).2 h hwf' (by cases h <;> exact r)]

/-- T6: model state vs the last sender report `(ntp, arrival)`. -/
def RelLsr (s : Stream) : Option (Nat × Int) → Prop
  | none => s.lsr = 0 ∧ s.lsrTime = none
  | some (ntp, t) => s.lsr = (ntp / 65536) % M32 ∧ s.lsrTime = some t

theorem lsr_run (s : Stream) (o : Option (Nat × Int)) (evs : List Ev) (r : RelLsr s o) :
    (runEv s evs).map (fun r => (r.lsr, r.delay)) = lsrReports o evs := by
  induction evs generalizing s o with
  | nil => rfl
  | cons e es ih =>
    cases e with
    | rtp now seq ts =>
      obtain ⟨_, _, _, _, _, _, e, _⟩ := processRTP_frame s now seq ts
      exact ih _ _ (by rw [e]; cases o <;> exact r)
    | sr now ntp => exact ih _ (some (ntp, now)) ⟨rfl, rfl⟩
    | report now =>
      simp only [runEv, stepEv, lsrReports, List.map_cons]
      rw [ih (generateReport s now).2 o (by cases o <;> exact r)]
      congr 1
      show (s.lsr, match s.lsrTime with | none => 0 | some t => _) = _
      cases o with
      | none => rw [r.1, r.2]
      | some x => rw [r.1, r.2]

/-- T5: model state vs the spec's `(last arrival, last timestamp)` and jitter value. -/
def RelJit (s : Stream) (o : Option (Int × Nat)) (j : Rat) : Prop :=
  s.jitter = j ∧
  match o with
  | none => s.started = false
  | some (t, ts) => s.started = true ∧ s.lastTime = some t ∧ s.lastTs = ts

theorem jitter_run (s : Stream) (o : Option (Int × Nat)) (j : Rat) (evs : List Ev) (r : RelJit s o j) :
    (runEv s evs).map (·.jitter) = jitterReports s.rate o j evs := by
  induction evs generalizing s o j with
  | nil => cases o <;> rfl
  | cons e es ih =>
    cases e with
    | rtp now seq ts =>
      rw [← processRTP_rate s now seq ts]
      cases o with
      | none =>
        refine ih _ (some (now, ts)) j ?_
        rw [processRTP_first s now seq ts r.2]
        exact ⟨r.1, rfl, rfl, rfl⟩
      | some x =>
        obtain ⟨r1, r2, r3, r4⟩ := r
        refine ih _ (some (now, ts)) _ ?_
        obtain ⟨_, _, _, e⟩ := processRTP_started s now seq ts r2
        rw [e, r1, r3, r4]
        exact ⟨rfl, r2, rfl, rfl⟩
    | sr now ntp =>
      have := ih (processSR s now ntp) o j (by cases o <;> exact r)
      cases o <;> exact this
    | report now =>
      have := ih (generateReport s now).2 o j (by cases o <;> exact r)
      have hj : (generateReport s now).1.jitter = toUint32 j := by rw [← r.1]; rfl
      cases o <;> simp only [runEv, stepEv, jitterReports, List.map_cons, hj, this] <;> rfl

/-- the signed 32-bit difference of two wrapped timestamps is the true difference when that is
within ±2^31. -/
theorem sdiff32_exact (a b : Int) (h1 : -2147483648 ≤ a - b) (h2 : a - b < 2147483648) :
    sdiff32 (a % 4294967296).toNat (b % 4294967296).toNat = a - b := by
  -- name the wrapped values: naturals congruent to `a` and `b`
  have hx := Int.toNat_of_nonneg (Int.emod_nonneg a (by decide : (4294967296 : Int) ≠ 0))
  have hy := Int.toNat_of_nonneg (Int.emod_nonneg b (by decide : (4294967296 : Int) ≠ 0))
  generalize (a % 4294967296).toNat = x at *
  generalize (b % 4294967296).toNat = y at *
  unfold sdiff32
  simp only [M32]
  split <;> omega

theorem cumulative_run (s : Stream) (evs : List Ev) (h : s.totalLost ≤ 16777215) :
    (runEv s evs).map (·.totalLost) = satSums s.totalLost (intervalLosses s evs) := by
  induction evs generalizing s with
  | nil => rfl
  | cons e es ih =>
    cases e with
    | rtp now seq ts =>
      have ht := processRTP_totalLost s now seq ts
      simp only [runEv, stepEv, intervalLosses]
      rw [ih _ (by rw [ht]; exact h), ht]
    | sr now ntp => exact ih (processSR s now ntp) h
    | report now =>
      have t := report_total s now h
      simp only [runEv, stepEv, intervalLosses, List.map_cons, satSums]
      rw [t, ih _ (by rw [generateReport_snd, t]; exact Nat.min_le_left _ _), generateReport_snd, t]

/-- T4: saturating prefix sums are the clamped prefix sums. -/
theorem satSums_scanl (t : Nat) (ls : List Nat) (pre : Nat) (h : t = min 16777215 pre) :
    (ls.scanl (· + ·) pre).map (min 16777215) = t :: satSums t ls := by
  induction ls generalizing t pre with
  | nil => rw [h]; rfl
  | cons l ls ih =>
    rw [List.scanl_cons, List.map_cons, ih (min 16777215 (t + l)) (pre + l) (by omega), h]
    rfl

end Interceptor.ReceiverReport
