/-
The chunk invariant of `chunk.canAdd/add/encode`, the greedy packer built from them, and the
flush of `getRTCP`: the emitted chunk list is tight (only the last chunk may carry padding).
-/
import Interceptor.Model.Twcc
namespace Interceptor.Twcc

/-- the statuses a chunk was built from. -/
def Chunk.syms : Chunk → List Sym
  | .run s n => List.replicate n s
  | .vec1 l => l
  | .vec2 l => l

/-- the statuses a chunk stands for on the wire: status vectors always carry 14 / 7 symbols,
missing ones read as "not received" (zero bits). -/
def Chunk.decode : Chunk → List Sym
  | .run s n => List.replicate n s
  | .vec1 l => l ++ List.replicate (14 - l.length) .nr
  | .vec2 l => l ++ List.replicate (7 - l.length) .nr

def decodeChunks (cs : List Chunk) : List Sym := cs.flatMap Chunk.decode

/-- well-formed on the wire: run length 1..8191 (13 bits), a one-bit vector exactly 14 symbols none
of which is a large delta, a two-bit vector 1..7 symbols. -/
def Chunk.wf : Chunk → Prop
  | .run _ n => 1 ≤ n ∧ n ≤ 8191
  | .vec1 l => l.length = 14 ∧ ∀ s ∈ l, s ≠ Sym.large
  | .vec2 l => 1 ≤ l.length ∧ l.length ≤ 7

/-- well-formed and completely filled (decodes to exactly its own symbols). -/
def Chunk.full : Chunk → Prop
  | .run _ n => 1 ≤ n ∧ n ≤ 8191
  | .vec1 l => l.length = 14 ∧ ∀ s ∈ l, s ≠ Sym.large
  | .vec2 l => l.length = 7

theorem Chunk.full_wf {c : Chunk} (h : c.full) : c.wf := by
  cases c <;> simp_all [Chunk.full, Chunk.wf]

theorem Chunk.decode_eq (c : Chunk) : ∃ k, c.decode = c.syms ++ List.replicate k .nr := by
  cases c with
  | run s n => exact ⟨0, by simp [Chunk.decode, Chunk.syms]⟩
  | vec1 l => exact ⟨14 - l.length, rfl⟩
  | vec2 l => exact ⟨7 - l.length, rfl⟩

theorem Chunk.decode_of_full {c : Chunk} (h : c.full) : c.decode = c.syms := by
  cases c <;> simp_all [Chunk.full, Chunk.decode, Chunk.syms]

/-- what `canAdd` / `add` / `encode` maintain: the two flags say what their names say, a chunk
with differing statuses has at most 14 of them and no large delta beyond the seventh. -/
structure ChunkSt.Inv (c : ChunkSt) : Prop where
  large : c.hasLarge = c.deltas.toList.any (fun d => decide (d = Sym.large))
  diff : c.hasDiff = c.deltas.toList.any (fun d => decide (d ≠ c.deltas.toList.headD .nr))
  diffLen : c.hasDiff = true → c.deltas.toList.length ≤ 14
  diffLarge : c.hasDiff = true → 7 < c.deltas.toList.length → c.hasLarge = false
  len : c.deltas.toList.length ≤ 8191

theorem ChunkSt.inv_empty : ChunkSt.Inv {} := by
  constructor <;> simp

theorem ChunkSt.first_eq (c : ChunkSt) : c.first = c.deltas.toList.headD .nr := by
  cases c with | mk hl hd ds =>
  cases ds with | mk l =>
  cases l <;> simp [ChunkSt.first]

theorem list_all_eq_head {l : List Sym} (h : l.any (fun d => decide (d ≠ l.headD .nr)) = false) :
    l = List.replicate l.length (l.headD .nr) := by
  apply List.ext_getElem
  · simp
  · intro i h1 h2
    simp only [List.getElem_replicate]
    have := List.any_eq_false.mp h l[i] (List.getElem_mem h1)
    simpa using this

theorem ChunkSt.add_deltas (c : ChunkSt) (d : Sym) :
    (c.add d).deltas.toList = c.deltas.toList ++ [d] := by
  simp [ChunkSt.add]

theorem ChunkSt.add_hasLarge (c : ChunkSt) (d : Sym) :
    (c.add d).hasLarge = (c.hasLarge || decide (d = Sym.large)) := rfl

theorem ChunkSt.add_hasDiff (c : ChunkSt) (d : Sym) :
    (c.add d).hasDiff = (c.hasDiff || decide (d ≠ (c.deltas.toList ++ [d]).headD .nr)) := by
  cases c with | mk hl hd ds =>
  cases ds with | mk l =>
  cases l <;> simp [ChunkSt.add]

theorem ChunkSt.canAdd_iff (c : ChunkSt) (d : Sym) :
    c.canAdd d = true ↔
      (c.deltas.toList.length < 7 ∨
       (c.deltas.toList.length < 14 ∧ c.hasLarge = false ∧ d ≠ Sym.large) ∨
       (c.deltas.toList.length < 8191 ∧ c.hasDiff = false ∧ d = c.deltas.toList.headD .nr)) := by
  rw [← ChunkSt.first_eq]
  unfold ChunkSt.canAdd maxTwoBitCap maxOneBitCap maxRunLengthCap
  simp only [Array.length_toList]
  by_cases h1 : c.deltas.size < 7
  · simp [h1]
  · by_cases h2 : c.deltas.size < 14 ∧ c.hasLarge = false ∧ d ≠ Sym.large
    · simp [h1, h2]
    · by_cases h3 : c.deltas.size < 8191 ∧ c.hasDiff = false ∧ d = c.first
      · simp [h1, h2, h3]
      · simp only [h1, h2, h3, if_false, or_false, Bool.false_eq_true]

theorem ChunkSt.inv_add {c : ChunkSt} (h : c.Inv) (d : Sym)
    (hc : c.canAdd d = true ∨ c.deltas.toList.length < 7) : (c.add d).Inv := by
  have hc' : c.deltas.toList.length < 7 ∨
       (c.deltas.toList.length < 14 ∧ c.hasLarge = false ∧ d ≠ Sym.large) ∨
       (c.deltas.toList.length < 8191 ∧ c.hasDiff = false ∧ d = c.deltas.toList.headD .nr) := by
    rcases hc with hc | hc
    · exact (ChunkSt.canAdd_iff c d).mp hc
    · exact Or.inl hc
  obtain ⟨hL, hD, hDL, hDLg, hLen⟩ := h
  have hhead : (c.deltas.toList ++ [d]).headD .nr =
      if c.deltas.toList = [] then d else c.deltas.toList.headD .nr := by
    cases c.deltas.toList <;> simp
  constructor
  · rw [ChunkSt.add_hasLarge, ChunkSt.add_deltas, hL]; simp
  · rw [ChunkSt.add_hasDiff, ChunkSt.add_deltas, hD, hhead]
    by_cases he : c.deltas.toList = []
    · simp [he]
    · simp [he]
  · rw [ChunkSt.add_hasDiff, ChunkSt.add_deltas]
    intro hd
    simp only [List.length_append, List.length_cons, List.length_nil]
    rcases hc' with h1 | ⟨h1, _, _⟩ | ⟨h1, h2, h3⟩
    · omega
    · omega
    · exfalso
      rw [h2, hhead] at hd
      by_cases he : c.deltas.toList = []
      · simp [he] at hd
      · simp [he, h3] at hd
  · rw [ChunkSt.add_hasDiff, ChunkSt.add_deltas, ChunkSt.add_hasLarge]
    intro hd hl
    simp only [List.length_append, List.length_cons, List.length_nil] at hl
    rcases hc' with h1 | ⟨h1, h2, h3⟩ | ⟨h1, h2, h3⟩
    · omega
    · simp [h2, h3]
    · exfalso
      rw [h2, hhead] at hd
      by_cases he : c.deltas.toList = []
      · simp [he] at hd
      · simp [he, h3] at hd
  · rw [ChunkSt.add_deltas]
    simp only [List.length_append, List.length_cons, List.length_nil]
    rcases hc' with h1 | ⟨h1, _, _⟩ | ⟨h1, _, _⟩ <;> omega

theorem ChunkSt.encode_run {c : ChunkSt} (h : c.hasDiff = false) :
    c.encode = (.run c.first (c.deltas.size % 65536), {}) := by
  unfold ChunkSt.encode
  rw [if_pos h]

theorem ChunkSt.encode_vec1 {c : ChunkSt} (h : c.hasDiff = true) (h14 : c.deltas.size = 14) :
    c.encode = (.vec1 c.deltas.toList, {}) := by
  unfold ChunkSt.encode maxOneBitCap
  rw [if_neg (by simp [h]), if_pos h14]

/-- the two-bit vector takes the first seven statuses; the rest is carried over with its flags
recomputed. -/
theorem ChunkSt.encode_vec2 {c : ChunkSt} (h : c.hasDiff = true) (h14 : c.deltas.size ≠ 14) :
    c.encode = (.vec2 (c.deltas.toList.take 7),
      { deltas := (c.deltas.toList.drop 7).toArray
        hasDiff := (c.deltas.toList.drop 7).any (fun d => decide (d ≠ (c.deltas.toList.drop 7).headD .nr))
        hasLarge := (c.deltas.toList.drop 7).any (fun d => decide (d = .large)) }) := by
  obtain ⟨hl, hd, ⟨l⟩⟩ := c
  simp only [List.size_toArray] at h h14
  subst h
  have htk : (l.drop (min 7 l.length)).take (l.length - min 7 l.length) = l.drop 7 := by
    rw [List.take_of_length_le (by simp)]
    by_cases h7 : 7 ≤ l.length
    · rw [Nat.min_eq_left h7]
    · rw [Nat.min_eq_right (by omega), List.drop_of_length_le (Nat.le_refl _), List.drop_of_length_le (by omega)]
  have hout : l.take (min 7 l.length) = l.take 7 := List.take_eq_take_min.symm
  unfold ChunkSt.encode maxOneBitCap maxTwoBitCap
  simp only [Bool.true_eq_false, if_false, h14, List.size_toArray, List.extract_toArray,
    List.extract_eq_drop_take, List.drop_zero, Nat.sub_zero, hout, htk,
    List.any_toArray, Array.getD_eq_getD_getElem?, List.getElem?_toArray]
  cases l.drop 7 <;> simp [eq_comm]

/-- seven is the capacity of a two-bit vector: from seven statuses on, whatever `encode` emits is completely
filled and at most six statuses are carried over; below seven everything goes into the one chunk. -/
theorem ChunkSt.encode_spec {c : ChunkSt} (h : c.Inv) (hne : c.deltas.toList ≠ []) :
    (c.encode).2.Inv ∧ (c.encode).1.wf ∧
    (c.encode).1.syms ++ (c.encode).2.deltas.toList = c.deltas.toList ∧
    (7 ≤ c.deltas.toList.length →
      (c.encode).1.full ∧ 7 ≤ (c.encode).1.syms.length ∧ (c.encode).2.deltas.toList.length < 7) ∧
    (c.deltas.toList.length < 7 → (c.encode).2.deltas.toList = []) := by
  have hpos : 0 < c.deltas.toList.length := List.length_pos_iff.mpr hne
  have hlen := h.len
  by_cases h1 : c.hasDiff = false
  · -- run length: all statuses equal the first
    have hrep := list_all_eq_head (h1 ▸ h.diff).symm
    rw [Array.length_toList] at hpos hlen hrep
    have hmod : c.deltas.size % 65536 = c.deltas.size := by omega
    simp only [ChunkSt.encode_run h1, hmod, Chunk.wf, Chunk.full, Chunk.syms, ChunkSt.first_eq,
      List.length_replicate, Array.length_toList]
    exact ⟨ChunkSt.inv_empty, ⟨hpos, hlen⟩, by rw [← hrep]; simp, fun h7 => ⟨⟨hpos, hlen⟩, h7, by simp⟩,
      fun _ => trivial⟩
  · have hd : c.hasDiff = true := by simpa using h1
    have h14 := h.diffLen hd
    rw [Array.length_toList] at hpos h14
    by_cases h2 : c.deltas.size = 14
    · -- one-bit vector: fourteen statuses, none large
      have hnol : ∀ s ∈ c.deltas.toList, s ≠ Sym.large := fun s hs => by
        have := List.any_eq_false.mp (h.diffLarge hd (by simp [h2]) ▸ h.large).symm s hs
        simpa using this
      simp only [ChunkSt.encode_vec1 hd h2, Chunk.wf, Chunk.full, Chunk.syms, Array.length_toList, h2]
      exact ⟨ChunkSt.inv_empty, ⟨trivial, hnol⟩, by simp, fun _ => ⟨⟨trivial, hnol⟩, by omega, by simp⟩,
        fun h7 => by omega⟩
    · simp only [ChunkSt.encode_vec2 hd h2, Chunk.wf, Chunk.full, Chunk.syms, List.length_take,
        List.length_drop, Array.length_toList, List.take_append_drop]
      refine ⟨⟨rfl, rfl, ?_, ?_, ?_⟩, by omega, trivial, fun _ => by omega, fun h7 => ?_⟩
      · intro _; simp only [List.length_drop, Array.length_toList]; omega
      · intro _ hh; simp only [List.length_drop, Array.length_toList] at hh; omega
      · simp only [List.length_drop, Array.length_toList]; omega
      · exact List.drop_of_length_le (by rw [Array.length_toList]; omega)

/-- the chunk part of `Feedback.pushSym`: `if !canAdd(s) { chunks = append(chunks, encode()) }; add(s)`. -/
def packStep (st : ChunkSt × Array Chunk) (s : Sym) : ChunkSt × Array Chunk :=
  if st.1.canAdd s then (st.1.add s, st.2)
  else ((st.1.encode).2.add s, st.2.push (st.1.encode).1)

theorem pushSym_eq (f : Feedback) (s : Sym) :
    f.pushSym s = { f with last := (packStep (f.last, f.chunks) s).1
                           chunks := (packStep (f.last, f.chunks) s).2 } := by
  unfold Feedback.pushSym packStep
  by_cases h : f.last.canAdd s <;> simp [h]

theorem pushSym_last_chunks (f : Feedback) (s : Sym) :
    ((f.pushSym s).last, (f.pushSym s).chunks) = packStep (f.last, f.chunks) s := by
  rw [pushSym_eq]

/-- the packer as a function of the whole symbol list: feed every symbol, then flush as `getRTCP` does. -/
def packAll (syms : List Sym) : List Chunk :=
  let st := syms.foldl packStep ({}, #[])
  (flushChunks (st.1.deltas.size + 1) st.1 st.2).toList

/-- invariant of the packer after consuming `done`. -/
structure PackInv (st : ChunkSt × Array Chunk) (done : List Sym) : Prop where
  inv : st.1.Inv
  full : ∀ ch ∈ st.2.toList, ch.full
  content : st.2.toList.flatMap Chunk.syms ++ st.1.deltas.toList = done

theorem packInv_init : PackInv ({}, #[]) [] := ⟨ChunkSt.inv_empty, by simp, by simp⟩

/-- the packer calls `encode` only on a chunk that cannot take the next status; such a chunk has seven
statuses or more, so the emitted chunk is full with at least seven and fewer than seven are carried over. -/
theorem ChunkSt.encode_of_not_canAdd {c : ChunkSt} (h : c.Inv) {s : Sym} (hcan : ¬ c.canAdd s = true) :
    (c.encode).2.Inv ∧ (c.encode).1.syms ++ (c.encode).2.deltas.toList = c.deltas.toList ∧
    (c.encode).1.full ∧ 7 ≤ (c.encode).1.syms.length ∧ (c.encode).2.deltas.toList.length < 7 := by
  have hlen : 7 ≤ c.deltas.toList.length :=
    Nat.le_of_not_lt fun hlt => hcan ((ChunkSt.canAdd_iff _ _).mpr (Or.inl hlt))
  have hne : c.deltas.toList ≠ [] := by
    intro he; rw [he] at hlen; simp at hlen
  obtain ⟨e1, _, e3, e4, _⟩ := ChunkSt.encode_spec h hne
  exact ⟨e1, e3, e4 hlen⟩

theorem packInv_step {st : ChunkSt × Array Chunk} {done : List Sym} (h : PackInv st done) (s : Sym) :
    PackInv (packStep st s) (done ++ [s]) := by
  obtain ⟨hi, hf, hc⟩ := h
  unfold packStep
  by_cases hcan : st.1.canAdd s = true
  · rw [if_pos hcan]
    refine ⟨ChunkSt.inv_add hi s (Or.inl hcan), hf, ?_⟩
    simp only [ChunkSt.add_deltas, ← List.append_assoc, hc]
  · rw [if_neg hcan]
    obtain ⟨e1, e3, efull, _, elt⟩ := ChunkSt.encode_of_not_canAdd hi hcan
    refine ⟨ChunkSt.inv_add e1 s (Or.inr elt), ?_, ?_⟩
    · intro ch hch
      simp only [Array.toList_push, List.mem_append, List.mem_singleton] at hch
      rcases hch with hch | hch
      · exact hf ch hch
      · rw [hch]; exact efull
    · simp only [Array.toList_push, List.flatMap_append, List.flatMap_cons, List.flatMap_nil,
        List.append_nil, ChunkSt.add_deltas]
      rw [← hc, ← e3]
      simp only [List.append_assoc]

theorem packInv_foldl (syms : List Sym) {st : ChunkSt × Array Chunk} {done : List Sym}
    (h : PackInv st done) : PackInv (syms.foldl packStep st) (done ++ syms) := by
  induction syms generalizing st done with
  | nil => simpa using h
  | cons s rest ih =>
    simp only [List.foldl_cons]
    have := ih (packInv_step h s)
    simpa [List.append_assoc] using this

/-- "big": every chunk emitted before the flush stands for at least seven statuses. -/
theorem packBig_step {st : ChunkSt × Array Chunk} {done : List Sym} (h : PackInv st done)
    (hb : ∀ ch ∈ st.2.toList, 7 ≤ ch.syms.length) (s : Sym) :
    ∀ ch ∈ (packStep st s).2.toList, 7 ≤ ch.syms.length := by
  unfold packStep
  by_cases hcan : st.1.canAdd s = true
  · rw [if_pos hcan]; exact hb
  · rw [if_neg hcan]
    intro ch hch
    simp only [Array.toList_push, List.mem_append, List.mem_singleton] at hch
    rcases hch with hch | hch
    · exact hb ch hch
    · rw [hch]; exact (ChunkSt.encode_of_not_canAdd h.inv hcan).2.2.2.1

theorem packBig_foldl (syms : List Sym) {st : ChunkSt × Array Chunk} {done : List Sym}
    (h : PackInv st done) (hb : ∀ ch ∈ st.2.toList, 7 ≤ ch.syms.length) :
    ∀ ch ∈ (syms.foldl packStep st).2.toList, 7 ≤ ch.syms.length := by
  induction syms generalizing st done with
  | nil => exact hb
  | cons s rest ih => exact ih (packInv_step h s) (packBig_step h hb s)

theorem wf_syms_pos {c : Chunk} (h : c.wf) : 0 < c.syms.length := by
  cases c <;> simp_all [Chunk.wf, Chunk.syms] <;> omega

/-- all chunks well formed, all but the last completely filled: only the last may carry padding. -/
def Tight : List Chunk → Prop
  | [] => True
  | [c] => c.wf
  | c :: d :: rest => c.full ∧ Tight (d :: rest)

theorem tight_cons_full {c : Chunk} {l : List Chunk} (hc : c.full) (hl : Tight l) : Tight (c :: l) := by
  cases l with
  | nil => exact Chunk.full_wf hc
  | cons d rest => exact ⟨hc, hl⟩

theorem tight_append_full (a b : List Chunk) (ha : ∀ c ∈ a, c.full) (hb : Tight b) : Tight (a ++ b) := by
  induction a with
  | nil => exact hb
  | cons c a ih =>
    exact tight_cons_full (ha c (by simp)) (ih (fun d hd => ha d (by simp [hd])))

theorem tight_wf (cs : List Chunk) (h : Tight cs) : ∀ c ∈ cs, c.wf := by
  induction cs with
  | nil => intro c hc; simp at hc
  | cons c rest ih =>
    intro x hx
    cases rest with
    | nil => simp at hx; rw [hx]; exact h
    | cons d rest =>
      rcases List.mem_cons.mp hx with hx | hx
      · rw [hx]; exact Chunk.full_wf h.1
      · exact ih h.2 x hx

theorem tight_decode (cs : List Chunk) (h : Tight cs) :
    ∃ pad, decodeChunks cs = cs.flatMap Chunk.syms ++ List.replicate pad .nr := by
  unfold decodeChunks
  induction cs with
  | nil => exact ⟨0, rfl⟩
  | cons c rest ih =>
    cases rest with
    | nil =>
      obtain ⟨k, hk⟩ := Chunk.decode_eq c
      exact ⟨k, by simp [hk]⟩
    | cons d rest =>
      obtain ⟨pad, hp⟩ := ih h.2
      exact ⟨pad, by rw [List.flatMap_cons, hp, Chunk.decode_of_full h.1, ← List.append_assoc]; rfl⟩

theorem flushChunks_nil (fuel : Nat) (c : ChunkSt) (cs : Array Chunk) (h : c.deltas.toList = []) :
    flushChunks fuel c cs = cs := by
  have : ¬ c.deltas.size > 0 := by rw [← Array.length_toList, h]; exact Nat.lt_irrefl 0
  cases fuel <;> simp [flushChunks, this]

theorem flushChunks_cons (fuel : Nat) (c : ChunkSt) (cs : Array Chunk) (h : c.deltas.toList ≠ []) :
    flushChunks (fuel + 1) c cs = flushChunks fuel (c.encode).2 (cs.push (c.encode).1) := by
  have : c.deltas.size > 0 := by rw [← Array.length_toList]; exact List.length_pos_iff.mpr h
  simp [flushChunks, this]

/-- the flush emits the pending statuses as a tight list of at most two chunks: what the first `encode`
carries over is shorter than seven, and its own `encode` leaves nothing. -/
theorem flush_tight (fuel : Nat) (c : ChunkSt) (cs : Array Chunk) (h : c.Inv)
    (hf : c.deltas.toList.length < fuel) :
    ∃ extra : List Chunk, (flushChunks fuel c cs).toList = cs.toList ++ extra ∧
      extra.flatMap Chunk.syms = c.deltas.toList ∧ Tight extra ∧
      extra.length ≤ 2 ∧ (c.deltas.toList.length < 7 → extra.length ≤ 1) := by
  induction fuel generalizing c cs with
  | zero => omega
  | succ fuel ih =>
    by_cases hne : c.deltas.toList = []
    · exact ⟨[], by rw [flushChunks_nil _ _ _ hne]; simp, by simp [hne], trivial, by simp, by simp⟩
    · obtain ⟨e1, e2, e3, e4, e5⟩ := ChunkSt.encode_spec h hne
      rw [flushChunks_cons _ _ _ hne]
      by_cases hrest : (c.encode).2.deltas.toList = []
      · rw [hrest, List.append_nil] at e3
        exact ⟨[(c.encode).1], by rw [flushChunks_nil _ _ _ hrest]; simp, by simpa using e3, e2,
          by simp, by simp⟩
      · have hlt : (c.encode).2.deltas.toList.length < c.deltas.toList.length := by
          have := wf_syms_pos e2
          rw [← e3, List.length_append]; omega
        have h7 : 7 ≤ c.deltas.toList.length := Nat.le_of_not_lt fun h7 => hrest (e5 h7)
        obtain ⟨hfull, _, hcarry⟩ := e4 h7
        obtain ⟨extra, r1, r2, r3, _, r5⟩ := ih (c.encode).2 (cs.push (c.encode).1) e1 (by omega)
        have := r5 hcarry
        exact ⟨(c.encode).1 :: extra, by rw [r1]; simp, by simp only [List.flatMap_cons, r2, e3],
          tight_cons_full hfull r3, by simp only [List.length_cons]; omega, by omega⟩

theorem flush_size (fuel : Nat) (c : ChunkSt) (cs : Array Chunk) (h : c.Inv)
    (hf : c.deltas.toList.length < fuel) : (flushChunks fuel c cs).size ≤ cs.size + 2 := by
  obtain ⟨extra, r1, _, _, r4, _⟩ := flush_tight fuel c cs h hf
  rw [← Array.length_toList, r1, List.length_append, Array.length_toList]
  omega

theorem PackInv.flush {st : ChunkSt × Array Chunk} {done : List Sym} (h : PackInv st done) :
    Tight (flushChunks (st.1.deltas.size + 1) st.1 st.2).toList ∧
    (flushChunks (st.1.deltas.size + 1) st.1 st.2).toList.flatMap Chunk.syms = done := by
  obtain ⟨extra, r1, r2, r3, _⟩ := flush_tight (st.1.deltas.size + 1) st.1 st.2 h.inv (by simp)
  rw [r1]
  exact ⟨tight_append_full _ _ h.full r3, by rw [List.flatMap_append, r2, h.content]⟩

theorem packAll_tight (syms : List Sym) :
    Tight (packAll syms) ∧ (packAll syms).flatMap Chunk.syms = syms :=
  (packInv_foldl syms packInv_init).flush

end Interceptor.Twcc
