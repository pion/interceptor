/-
C03, generator level: the per-number request counters (`limit`, `prune`, `tickCounts`) and the tick of one
bound stream (`tickStream`).
-/
import Interceptor.Model.ReceiveLog
namespace Interceptor.ReceiveLog
open Interceptor

theorem cnt_insert (c : Counts) (x v y : Nat) : cnt (c.insert x v) y = if x = y then v else cnt c y := by
  unfold cnt
  rw [Std.HashMap.getD_insert]
  by_cases h : x = y <;> simp [h]

theorem cnt_empty (y : Nat) : cnt (∅ : Counts) y = 0 := by
  unfold cnt; simp

theorem cnt_prune (c : Counts) (m : List Nat) (y : Nat) :
    cnt (prune c m) y = if y ∈ m then cnt c y else 0 := by
  have key : ∀ (m : List Nat) (acc : Counts),
      cnt (m.foldl (fun acc x => acc.insert x (cnt c x)) acc) y = if y ∈ m then cnt c y else cnt acc y := by
    intro m
    induction m with
    | nil => intro acc; simp
    | cons x xs ih =>
      intro acc
      rw [List.foldl_cons, ih, cnt_insert]
      by_cases h2 : x = y
      · subst h2; simp
      · simp [h2, Ne.symm h2]
  unfold prune
  rw [key, cnt_empty]

/-- exact accounting of the limit loop: every request of `y` raises its counter by one, nothing else does;
the counter never exceeds the limit. -/
theorem limit_count (max : Nat) (hmax : max < 65536) (m : List Nat) (c : Counts) (y : Nat) :
    (limit max m c).1.count y + cnt c y = cnt (limit max m c).2 y ∧
    (cnt c y ≤ max → cnt (limit max m c).2 y ≤ max) := by
  induction m generalizing c with
  | nil => simp [limit]
  | cons x xs ih =>
    simp only [limit]
    by_cases hn : cnt c x < max
    · simp only [hn, if_true]
      have e : (cnt c x + 1) % 65536 = cnt c x + 1 := by omega
      rw [e]
      obtain ⟨i1, i2⟩ := ih (c.insert x (cnt c x + 1))
      rw [cnt_insert] at i1 i2
      by_cases hxy : x = y
      · subst hxy
        simp only [if_true] at i1 i2
        refine ⟨?_, fun _ => i2 (by omega)⟩
        rw [List.count_cons_self]; omega
      · simp only [hxy, if_false] at i1 i2
        refine ⟨?_, i2⟩
        rw [List.count_cons_of_ne hxy]; exact i1
    · simp only [hn, if_false]
      exact ih c

theorem limit_subset (max : Nat) (m : List Nat) (c : Counts) (y : Nat) (h : y ∈ (limit max m c).1) : y ∈ m := by
  induction m generalizing c with
  | nil => simp [limit] at h
  | cons x xs ih =>
    simp only [limit] at h
    by_cases hn : cnt c x < max
    · simp only [hn, if_true] at h
      rcases List.mem_cons.mp h with h | h
      · simp [h]
      · exact List.mem_cons_of_mem _ (ih _ h)
    · simp only [hn, if_false] at h
      exact List.mem_cons_of_mem _ (ih _ h)

/-! `tickCounts` without its case distinction on `m`: the empty list needs no case of its own, since
`prune c [] = ∅` and `limit max [] c = ([], c)`. -/

theorem tickCounts_zero (m : List Nat) (c : Counts) :
    tickCounts 0 m c = (prune c m, if m.isEmpty then none else some m) := by
  cases m <;> rfl

theorem tickCounts_pos (max : Nat) (h0 : 0 < max) (m : List Nat) (c : Counts) :
    tickCounts max m c = ((limit max m (prune c m)).2,
      if (limit max m (prune c m)).1.isEmpty then none else some (limit max m (prune c m)).1) := by
  cases m with
  | nil => rfl
  | cons x xs =>
    unfold tickCounts
    rw [if_neg (by simp), if_pos h0]
    exact (apply_ite (Prod.mk _) _ _ _).symm

theorem getD_ite_isEmpty {α : Type} (l : List α) : (if l.isEmpty then none else some l).getD [] = l := by
  cases l <;> rfl

theorem tickCounts_subset (max : Nat) (m : List Nat) (c : Counts) :
    ∀ y ∈ ((tickCounts max m c).2).getD [], y ∈ m := by
  rcases Nat.eq_zero_or_pos max with rfl | h0
  · rw [tickCounts_zero, getD_ite_isEmpty]; exact fun y hy => hy
  · rw [tickCounts_pos max h0, getD_ite_isEmpty]; exact limit_subset max m (prune c m)

/-- one tick under a limit: a request of `y` is paid for by its counter, which stays ≤ max and is
kept (not reset) as long as `y` is missing at this tick. -/
theorem tickCounts_limit (max : Nat) (h0 : 0 < max) (hmax : max < 65536) (m : List Nat) (c : Counts) (y : Nat)
    (hy : y ∈ m) (hc : cnt c y ≤ max) :
    (if y ∈ ((tickCounts max m c).2).getD [] then 1 else 0) + cnt c y ≤ cnt (tickCounts max m c).1 y ∧
    cnt (tickCounts max m c).1 y ≤ max := by
  rw [tickCounts_pos max h0]
  dsimp only
  rw [getD_ite_isEmpty]
  obtain ⟨i1, i2⟩ := limit_count max hmax m (prune c m) y
  rw [cnt_prune, if_pos hy] at i1 i2
  refine ⟨?_, i2 hc⟩
  by_cases hin : y ∈ (limit max m (prune c m)).1
  · have := List.count_pos_iff.mpr hin
    rw [if_pos hin]; omega
  · rw [if_neg hin]; omega

theorem tickCounts_counts_le (max : Nat) (hmax : max < 65536) (m : List Nat) (c : Counts)
    (hC : ∀ y, cnt c y ≤ max) (y : Nat) : cnt (tickCounts max m c).1 y ≤ max := by
  have hp : cnt (prune c m) y ≤ max := by
    rw [cnt_prune]; split
    · exact hC y
    · omega
  rcases Nat.eq_zero_or_pos max with rfl | h0
  · rw [tickCounts_zero]; exact hp
  · rw [tickCounts_pos max h0]; exact (limit_count max hmax m (prune c m) y).2 hp

/-! The components of `tickStream cfg st` as equations for `rw`, through `proj_of_eq_mk`, a lemma about variables
(`missing st.log cfg.skip` contains `sub16`: see the note there). -/

theorem tickStream_eq (cfg : Cfg) (st : Stream) :
    tickStream cfg st = ({ log := st.log, counts := (tickCounts cfg.max (missing st.log cfg.skip) st.counts).1 },
      (tickCounts cfg.max (missing st.log cfg.skip) st.counts).2) := rfl

theorem proj_of_eq_mk {r : Stream × Option (List Nat)} {l : Log} {c : Counts} {o : Option (List Nat)}
    (e : r = (⟨l, c⟩, o)) : r.1.log = l ∧ r.1.counts = c ∧ r.2 = o := by
  subst e; exact ⟨rfl, rfl, rfl⟩

theorem tickStream_log (cfg : Cfg) (st : Stream) : (tickStream cfg st).1.log = st.log :=
  (proj_of_eq_mk (tickStream_eq cfg st)).1

theorem tickStream_counts (cfg : Cfg) (st : Stream) :
    (tickStream cfg st).1.counts = (tickCounts cfg.max (missing st.log cfg.skip) st.counts).1 :=
  (proj_of_eq_mk (tickStream_eq cfg st)).2.1

theorem tickStream_snd (cfg : Cfg) (st : Stream) :
    (tickStream cfg st).2 = (tickCounts cfg.max (missing st.log cfg.skip) st.counts).2 :=
  (proj_of_eq_mk (tickStream_eq cfg st)).2.2

/-- a tick with no limit configured, on any state: one NACK with the whole missing list, none when it is empty. -/
theorem tickStream_unlimited (cfg : Cfg) (hmax : cfg.max = 0) (st : Stream) :
    (tickStream cfg st).2 =
      if missing st.log cfg.skip = [] then none else some (missing st.log cfg.skip) := by
  rw [tickStream_snd, hmax, tickCounts_zero]
  simp only [List.isEmpty_iff]

theorem tickStream_subset (cfg : Cfg) (st : Stream) :
    ∀ y ∈ ((tickStream cfg st).2).getD [], y ∈ missing st.log cfg.skip := by
  rw [tickStream_snd]
  exact tickCounts_subset cfg.max (missing st.log cfg.skip) st.counts

theorem tickStream_limit (cfg : Cfg) (h0 : 0 < cfg.max) (hmax : cfg.max < 65536) (st : Stream) (y : Nat)
    (hy : y ∈ missing st.log cfg.skip) (hc : cnt st.counts y ≤ cfg.max) :
    (if y ∈ ((tickStream cfg st).2).getD [] then 1 else 0) + cnt st.counts y ≤ cnt (tickStream cfg st).1.counts y ∧
    cnt (tickStream cfg st).1.counts y ≤ cfg.max := by
  rw [tickStream_snd, tickStream_counts]
  exact tickCounts_limit cfg.max h0 hmax (missing st.log cfg.skip) st.counts y hy hc

theorem tickStream_counts_le (cfg : Cfg) (hmax : cfg.max < 65536) (st : Stream)
    (hC : ∀ y, cnt st.counts y ≤ cfg.max) (y : Nat) : cnt (tickStream cfg st).1.counts y ≤ cfg.max := by
  rw [tickStream_counts]
  exact tickCounts_counts_le cfg.max hmax (missing st.log cfg.skip) st.counts hC y

end Interceptor.ReceiveLog
