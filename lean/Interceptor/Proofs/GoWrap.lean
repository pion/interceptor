/-
The width wraps of the translated Go code (`u16`, `u32` of Base/GoSem.lean) on casts of naturals, against the
`Nat` arithmetic the models use for the same Go expressions (`add16`, `sub16` of Base/Seq16.lean, `% 2^32`);
`s64` and `u64` are the identity inside their ranges.  Stated about variables, so that the source-equals-model
proofs rewrite with them.  At the end, how the `if decide p then … else …` that the translator writes for a Go
`if` goes.
-/
import Interceptor.Base.GoSem
import Interceptor.Base.Seq16
namespace Interceptor.GoSem

theorem u16_add_one (a : Nat) : u16 ((a : Int) + 1) = ((add16 a 1 : Nat) : Int) := by
  unfold u16 add16; omega

theorem u16_sub (a b : Nat) : u16 ((a : Int) - (b : Int)) = ((sub16 a b : Nat) : Int) := by
  unfold u16 sub16; omega

theorem u16_sub_one (a : Nat) : u16 ((a : Int) - 1) = ((sub16 a 1 : Nat) : Int) := u16_sub a 1

theorem u32_add (a b : Nat) : u32 ((a : Int) + (b : Int)) = (((a + b) % 4294967296 : Nat) : Int) := by
  unfold u32; omega

theorem u32_add_one (a : Nat) : u32 ((a : Int) + 1) = (((a + 1) % 4294967296 : Nat) : Int) := u32_add a 1

/-- `a += uint32(b)` on a uint32. -/
theorem u32_add_u32 (a b : Nat) : u32 ((a : Int) + u32 (b : Int)) = (((a + b) % 4294967296 : Nat) : Int) := by
  unfold u32; omega

theorem u32_mul (a b : Nat) : u32 ((a : Int) * (b : Int)) = ((a * b % 4294967296 : Nat) : Int) := by
  unfold u32; rw [← Int.natCast_mul]; omega

/-- `uint32(x >> 16)` of a non-negative `x`. -/
theorem u32_shr16 (x : Int) (h : 0 ≤ x) : u32 (shr x 16) = (((x.toNat / 65536) % 4294967296 : Nat) : Int) := by
  obtain ⟨n, rfl⟩ := Int.eq_ofNat_of_zero_le h
  rw [Int.toNat_natCast, Int.natCast_emod, Int.natCast_ediv]
  rfl

/-- the half-range test `diff > 0 && diff < 1<<15` on a cast. -/
theorem halfRange_cast (d : Nat) :
    (decide ((d : Int) > 0) && decide ((d : Int) < 32768)) = decide (0 < d ∧ d < 32768) := by
  rw [Bool.decide_and]
  exact congr (congrArg _ (decide_eq_decide.mpr (by omega))) (decide_eq_decide.mpr (by omega))

/-- lets the cast lemmas (`Int.ofNat_lt`, …) turn a comparison of the translation with the literal into the
model's comparison on `Nat`. -/
theorem half_eq : (32768 : Int) = ((32768 : Nat) : Int) := rfl

/-- a uint16 counter `n` steps before `last` is one step closer after `i++`, and has not reached it. -/
theorem u16_counter {k n last : Nat} (hn : n + 1 < 65536) (he : (k + (n + 1)) % 65536 = last) :
    k ≠ last ∧ (add16 k 1 + n) % 65536 = last := by
  unfold add16; omega

/-- no wrap inside the int64 range. -/
theorem s64_id (x : Int) (h : -9223372036854775808 ≤ x ∧ x < 9223372036854775808) : s64 x = x := by
  unfold s64; omega

/-- no wrap inside the uint64 range. -/
theorem u64_id (x : Int) (h : 0 ≤ x ∧ x < 18446744073709551616) : u64 x = x := by
  unfold u64; omega

/-- `c++` on an `int` counter; any bound below 2^63 − 1 would do, 2^62 is the one the callers have. -/
theorem s64_add_one (c : Nat) (h : c < 2 ^ 62) : s64 ((c : Int) + 1) = ((c + 1 : Nat) : Int) := by
  unfold s64; omega

/-- how a Go `if` on a decidable condition goes. -/
theorem if_dec_pos {α : Type} {p : Prop} [Decidable p] (h : p) (a b : α) : (if decide p then a else b) = a :=
  if_pos (decide_eq_true h)

theorem if_dec_neg {α : Type} {p : Prop} [Decidable p] (h : ¬ p) (a b : α) : (if decide p then a else b) = b :=
  if_neg (mt of_decide_eq_true h)

end Interceptor.GoSem
