/- C12: the arrival-time ring of the TWCC recorder never spans more than 2^15 sequence numbers;
   the sliding window of the GCC rate calculator. -/
import Interceptor.Model.SizesCore
namespace Interceptor.Sizes
namespace AMap

@[simp] theorem setAt_begin (m : AMap) (sn v : Int) : (m.setAt sn v).begin_ = m.begin_ := rfl
@[simp] theorem setAt_end (m : AMap) (sn v : Int) : (m.setAt sn v).end_ = m.end_ := rfl
@[simp] theorem realloc_begin (m : AMap) (c : Nat) : (m.reallocate c).begin_ = m.begin_ := rfl
@[simp] theorem realloc_end (m : AMap) (c : Nat) : (m.reallocate c).end_ = m.end_ := rfl

theorem adjust_be (m : AMap) (n : Nat) : (m.adjustToSize n).begin_ = m.begin_ ∧ (m.adjustToSize n).end_ = m.end_ := by
  unfold adjustToSize
  simp only
  split <;> split <;> simp

theorem setNotReceived_be (n : Nat) : ∀ (m : AMap) (sn : Int),
    (m.setNotReceived sn n).begin_ = m.begin_ ∧ (m.setNotReceived sn n).end_ = m.end_ := by
  induction n with
  | zero => intro m sn; exact ⟨rfl, rfl⟩
  | succ n ih => intro m sn; simp only [setNotReceived]; have := ih (m.setAt sn (-1)) (sn + 1); simpa using this

@[simp] theorem adjust_begin (m : AMap) (n : Nat) : (m.adjustToSize n).begin_ = m.begin_ := (adjust_be m n).1
@[simp] theorem adjust_end (m : AMap) (n : Nat) : (m.adjustToSize n).end_ = m.end_ := (adjust_be m n).2
@[simp] theorem snr_begin (m : AMap) (sn : Int) (n : Nat) : (m.setNotReceived sn n).begin_ = m.begin_ := (setNotReceived_be n m sn).1
@[simp] theorem snr_end (m : AMap) (sn : Int) (n : Nat) : (m.setNotReceived sn n).end_ = m.end_ := (setNotReceived_be n m sn).2

/-- `maxNumberOfPackets`: the map is ordered and spans at most 2^15 sequence numbers. -/
def SpanOk (m : AMap) : Prop := m.begin_ ≤ m.end_ ∧ m.end_ - m.begin_ ≤ 32768

theorem spanOk_init : SpanOk {} := by simp [SpanOk]

theorem addPacket_spanOk (m : AMap) (sn t : Int) (h : SpanOk m) : SpanOk (m.addPacket sn t) := by
  unfold SpanOk at *
  unfold addPacket
  simp only [maxNumberOfPackets]
  by_cases h0 : m.cap = 0
  · simp only [h0, ↓reduceIte, setAt_begin, setAt_end]; omega
  · simp only [h0, ↓reduceIte]
    by_cases h1 : sn ≥ m.begin_ ∧ sn < m.end_
    · simp only [h1, and_self, ↓reduceIte, setAt_begin, setAt_end]; exact h
    · simp only [h1, ↓reduceIte]
      by_cases h2 : sn < m.begin_
      · simp only [h2, ↓reduceIte]
        by_cases h3 : (((m.end_ - sn).toNat : Nat) : Int) > 32768
        · simp only [h3, ↓reduceIte]; exact h
        · simp only [h3, ↓reduceIte, adjust_begin, adjust_end, snr_end, setAt_begin, setAt_end]
          omega
      · simp only [h2, ↓reduceIte]
        by_cases h3 : sn + 1 ≥ m.end_ + 32768
        · simp only [h3, ↓reduceIte, setAt_begin, setAt_end]; omega
        · simp only [h3, ↓reduceIte]
          by_cases h4 : m.begin_ < sn + 1 - 32768
          · simp only [h4, ↓reduceIte, adjust_begin, adjust_end, snr_begin, setAt_begin, setAt_end]
            omega
          · simp only [h4, ↓reduceIte, adjust_begin, adjust_end, snr_begin, setAt_begin, setAt_end]
            omega

theorem skipOld_be (f : Nat) : ∀ (m : AMap) (checkTo limit : Int), checkTo ≤ m.end_ → m.begin_ ≤ m.end_ →
    (m.skipOld checkTo limit f).end_ = m.end_ ∧ m.begin_ ≤ (m.skipOld checkTo limit f).begin_ ∧
    (m.skipOld checkTo limit f).begin_ ≤ m.end_ := by
  induction f with
  | zero => intro m c l _ hb; exact ⟨rfl, Int.le_refl _, hb⟩
  | succ f ih =>
    intro m c l hc hb
    simp only [skipOld]
    split
    · rename_i hcond
      have := ih { m with begin_ := m.begin_ + 1 } c l hc (by show m.begin_ + 1 ≤ m.end_; omega)
      obtain ⟨x, y, z⟩ := this
      exact ⟨x, by simp only at y; omega, z⟩
    · exact ⟨rfl, Int.le_refl _, hb⟩

theorem removeOld_spanOk (m : AMap) (sn limit : Int) (h : SpanOk m) : SpanOk (m.removeOldPackets sn limit) := by
  unfold SpanOk at *
  unfold removeOldPackets
  obtain ⟨x, y, z⟩ := skipOld_be (m.end_ - m.begin_).toNat m (min sn m.end_) limit (Int.min_le_right _ _) h.1
  simp only
  have a := adjust_be (m.skipOld (min sn m.end_) limit (m.end_ - m.begin_).toNat)
    ((m.skipOld (min sn m.end_) limit (m.end_ - m.begin_).toNat).end_ - (m.skipOld (min sn m.end_) limit (m.end_ - m.begin_).toNat).begin_).toNat
  rw [a.1, a.2, x]
  omega

end AMap

theorem cull_spanOk (r : TwccRec) (u t : Int) (h : AMap.SpanOk r.m) : AMap.SpanOk (r.cull u t).m := by
  unfold TwccRec.cull
  cases r.start with
  | none => exact h
  | some s =>
    -- push the projection `.m` through the `if` of `cull` before splitting
    simp only [apply_ite TwccRec.m]
    split
    · exact AMap.removeOld_spanOk r.m u (t - packetWindowUs) h
    · exact h

theorem lowerStart_m (r : TwccRec) (u : Int) : (r.lowerStart u).m = r.m := by
  unfold TwccRec.lowerStart
  split
  · split <;> rfl
  · rfl

theorem insert_spanOk (r : TwccRec) (u t : Int) (h : AMap.SpanOk r.m) : AMap.SpanOk (r.insert u t).m := by
  unfold TwccRec.insert
  split
  · exact h
  · simp only
    have h5 := AMap.addPacket_spanOk r.m u t h
    split
    · split <;> exact h5
    · exact h5

theorem record_spanOk (r : TwccRec) (seq : Nat) (t : Int) (h : AMap.SpanOk r.m) : AMap.SpanOk (r.record seq t).m := by
  unfold TwccRec.record
  simp only
  apply insert_spanOk
  rw [lowerStart_m]
  exact cull_spanOk _ _ _ h

theorem build_m (r : TwccRec) : r.build.m = r.m := by
  unfold TwccRec.build
  split
  · split <;> rfl
  · rfl

/-! ### rate calculator -/

theorem dropOld_all (d : Int) (h : List Int) : ∀ a ∈ dropOld d h, a ∈ h := by
  induction h with
  | nil => intro a ha; simp [dropOld] at ha
  | cons x xs ih =>
    intro a ha
    simp only [dropOld] at ha
    split at ha
    · exact List.mem_cons_of_mem _ (ih a ha)
    · exact ha

/-- with non-decreasing arrival times the retained window holds only arrivals within `window` of
the newest one. -/
theorem dropOld_sorted (d : Int) (h : List Int) (hs : h.Pairwise (· ≤ ·)) : ∀ a ∈ dropOld d h, d ≤ a := by
  induction h with
  | nil => intro a ha; simp [dropOld] at ha
  | cons x xs ih =>
    intro a ha
    have hp := List.pairwise_cons.mp hs
    simp only [dropOld] at ha
    split at ha
    · exact ih hp.2 a ha
    · rename_i hx
      rcases List.mem_cons.mp ha with rfl | h1
      · omega
      · have := hp.1 a h1; omega

end Interceptor.Sizes
