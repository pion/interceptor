/-
The recorder remembers the NTP times of the sender reports and receiver-reference-time blocks it
saw going out, five of each (`pushTrim`); here: they are the last five of the recount over the history.
-/
import Interceptor.Proofs.StatsSteps
namespace Interceptor.Stats
open Interceptor.Stats.Spec Interceptor.F64

theorem pushTrim_eq (l : List Nat) (v : Nat) : pushTrim l v = lastN 5 (l ++ [v]) := by
  show (if (l ++ [v]).length > 5 then _ else _) = _
  unfold lastN
  split
  · rfl
  · rw [Nat.sub_eq_zero_of_le (by omega), List.drop_zero]

theorem lastN_lastN_append (n : Nat) (a b : List Nat) : lastN n (lastN n a ++ b) = lastN n (a ++ b) := by
  unfold lastN
  rw [← List.drop_append_of_le_length (Nat.sub_le ..), List.drop_drop]
  congr 1
  simp only [List.length_append, List.length_drop]
  omega

theorem pushTrim_lastN (pre : List Nat) (v : Nat) : pushTrim (lastN 5 pre) v = lastN 5 (pre ++ [v]) := by
  rw [pushTrim_eq, lastN_lastN_append]

def memOf (st : IStats) : List Nat × List Nat := (st.lastSRs, st.lastRRTs)

/-- the invariant: both memories are the last five of what has been sent so far. -/
def MemIs (m : List Nat × List Nat) (srs rrts : List Nat) : Prop := m.1 = lastN 5 srs ∧ m.2 = lastN 5 rrts

theorem srTimes_append (s : Nat) (a b : List Event) : srTimes s (a ++ b) = srTimes s a ++ srTimes s b := by
  simp only [srTimes, rtcpOutPkts, List.flatMap_append, List.filterMap_append]

theorem rrtrTimes_append (a b : List Event) : rrtrTimes (a ++ b) = rrtrTimes a ++ rrtrTimes b := by
  simp only [rrtrTimes, rtcpOutPkts, List.flatMap_append]

theorem xrOut_mem (bs : List XrBlock) (st : IStats) (srs rrts : List Nat) (h : MemIs (memOf st) srs rrts) :
    MemIs (memOf (bs.foldl xrOutBlock st)) srs (rrts ++ bs.filterMap fun b => match b with
      | .rrtr ntp => some ntp
      | .dlrr _ => none) := by
  induction bs generalizing st rrts with
  | nil => simpa using h
  | cons b bs ih =>
    rw [List.foldl_cons, List.filterMap_cons]
    cases b with
    | dlrr _ => exact ih st rrts h
    | rrtr ntp =>
      have := ih (xrOutBlock st (.rrtr ntp)) (rrts ++ [ntp]) ⟨h.1, by
        show pushTrim st.lastRRTs ntp = _
        rw [show st.lastRRTs = lastN 5 rrts from h.2, pushTrim_lastN]⟩
      simpa [List.append_assoc] using this

theorem srTimes_out_cons (s : Nat) (p : Rtcp) (pkts : List Rtcp) :
    srTimes s [.rtcpOut (p :: pkts)] = srTimes s [.rtcpOut [p]] ++ srTimes s [.rtcpOut pkts] := by
  simp only [srTimes, rtcpOutPkts, List.flatMap_cons, List.flatMap_nil, List.append_nil]
  exact List.filterMap_append (l := [p])

theorem rrtrTimes_out_cons (p : Rtcp) (pkts : List Rtcp) :
    rrtrTimes [.rtcpOut (p :: pkts)] = rrtrTimes [.rtcpOut [p]] ++ rrtrTimes [.rtcpOut pkts] := by
  simp only [rrtrTimes, rtcpOutPkts, List.flatMap_cons, List.flatMap_nil, List.append_nil]

/-- one outgoing packet, as an event of its own, appends its times to both recounts. -/
theorem outStep_mem (s : Nat) (st : IStats) (p : Rtcp) (srs rrts : List Nat) (h : MemIs (memOf st) srs rrts) :
    MemIs (memOf (outStep s st p)) (srs ++ srTimes s [.rtcpOut [p]]) (rrts ++ rrtrTimes [.rtcpOut [p]]) := by
  have h0 : MemIs (memOf st) (srs ++ []) (rrts ++ []) := by rwa [List.append_nil, List.append_nil]
  cases p with
  | other _ => exact h0
  | rr _ _ => exact h0
  | xr _ bs =>
    simp only [outStep, srTimes, rrtrTimes, rtcpOutPkts, List.flatMap_cons, List.flatMap_nil, List.filterMap_cons,
      List.filterMap_nil, List.append_nil]
    exact xrOut_mem bs st srs rrts h
  | sr ssrc ntp pc oc rs =>
    cases hc : ssrc == s || rs.any (·.ssrc == s) <;>
      simp only [outStep, Rtcp.dest, sr_dest_contains, srTimes, rrtrTimes, rtcpOutPkts, List.flatMap_cons,
        List.flatMap_nil, List.filterMap_cons, List.filterMap_nil, List.append_nil, hc, Bool.not_false,
        Bool.not_true, Bool.false_eq_true, if_true, if_false]
    · exact h
    · refine ⟨?_, h.2⟩
      show pushTrim st.lastSRs ntp = _
      rw [show st.lastSRs = lastN 5 srs from h.1, pushTrim_lastN]
  | _ => simp only [outStep]; split <;> exact h0

theorem outFold_mem (s : Nat) (pkts : List Rtcp) (st : IStats) (srs rrts : List Nat)
    (h : MemIs (memOf st) srs rrts) :
    MemIs (memOf (pkts.foldl (outStep s) st)) (srs ++ srTimes s [.rtcpOut pkts]) (rrts ++ rrtrTimes [.rtcpOut pkts]) := by
  induction pkts generalizing st srs rrts with
  | nil => rwa [show srTimes s [.rtcpOut []] = [] from rfl, show rrtrTimes [.rtcpOut []] = [] from rfl,
      List.append_nil, List.append_nil]
  | cons p pkts ih =>
    rw [srTimes_out_cons, rrtrTimes_out_cons, ← List.append_assoc, ← List.append_assoc]
    exact ih _ _ _ (outStep_mem s st p srs rrts h)

theorem recStep_mem (s : Nat) (rate : Rat) (st : IStats) (pre : List Event) (e : Event)
    (h : MemIs (memOf st) (srTimes s pre) (rrtrTimes pre)) :
    MemIs (memOf (recStep s rate st e)) (srTimes s (pre ++ [e])) (rrtrTimes (pre ++ [e])) := by
  rw [srTimes_append, rrtrTimes_append]
  have h0 : MemIs (memOf st) (srTimes s pre ++ []) (rrtrTimes pre ++ []) := by rwa [List.append_nil, List.append_nil]
  cases e with
  | bind _ _ => exact h0
  | close => exact h0
  | rtcpIn now pkts => rw [recStep_rtcpIn_frame memOf (fun _ _ => rfl) (fun _ _ => rfl) (fun _ _ => rfl)]; exact h0
  | rtpIn now via p => rw [recStep_rtpIn_frame memOf (fun _ _ => rfl)]; exact h0
  | rtpOut via p => rw [recStep_rtpOut_frame memOf (fun _ _ => rfl)]; exact h0
  | rtcpOut pkts => exact outFold_mem s pkts st _ _ h

theorem fold_mem (s : Nat) (rate : Rat) (w : List Event) (st : IStats) (pre : List Event)
    (h : MemIs (memOf st) (srTimes s pre) (rrtrTimes pre)) :
    MemIs (memOf (w.foldl (recStep s rate) st)) (srTimes s (pre ++ w)) (rrtrTimes (pre ++ w)) := by
  induction w generalizing st pre with
  | nil => rwa [List.append_nil]
  | cons e w ih =>
    have := ih _ _ (recStep_mem s rate st pre e h)
    rwa [List.append_assoc] at this

theorem fold_mem_init (s : Nat) (rate : Rat) (w : List Event) :
    (w.foldl (recStep s rate) {}).lastSRs = lastN 5 (srTimes s w) ∧
    (w.foldl (recStep s rate) {}).lastRRTs = lastN 5 (rrtrTimes w) :=
  fold_mem s rate w {} [] ⟨rfl, rfl⟩

end Interceptor.Stats
