/-
Simulation: the JitterBuffer over any queue implementation that refines the list-level queue
behaves exactly like the JitterBuffer over the list-level queue (same results, same events,
same control state).  Helper lemmas for Props/C18.lean.
-/
import Interceptor.Spec.JitterBuffer
namespace Interceptor.JitterBuffer

/-- `jb` (over implementation `I`) and `js` (over lists) are in the same abstract state. -/
structure JRep {I : QImpl} (R : Refines I) (jb : JB I) (js : JB listImpl) : Prop where
  q : R.Rep jb.q js.q
  minStart : jb.minStart = js.minStart
  overflowLen : jb.overflowLen = js.overflowLen
  lastSeq : jb.lastSeq = js.lastSeq
  head : jb.head = js.head
  ready : jb.ready = js.ready
  state : jb.state = js.state

variable {I : QImpl} (R : Refines I)

theorem listImpl_length (l : listImpl.Q) : listImpl.length l = List.length (α := Entry) l % 65536 := rfl

/-- related buffers are the same record up to the queue. -/
theorem JRep.split {jb : JB I} {js : JB listImpl} (h : JRep R jb js) :
    ∃ q l m ov ls hd rd st, R.Rep q l ∧ jb = ⟨q, m, ov, ls, hd, rd, st⟩ ∧ js = ⟨l, m, ov, ls, hd, rd, st⟩ := by
  obtain ⟨q, m, ov, ls, hd, rd, st⟩ := jb
  obtain ⟨l, m', ov', ls', hd', rd', st'⟩ := js
  obtain ⟨hq, h1, h2, h3, h4, h5, h6⟩ := h
  simp only at hq h1 h2 h3 h4 h5 h6
  subst h1 h2 h3 h4 h5 h6
  exact ⟨q, l, m, ov, ls, hd, rd, st, hq, rfl, rfl⟩

theorem sim_updateState {jb : JB I} {js : JB listImpl} (h : JRep R jb js) :
    (JB.updateState jb).2 = (JB.updateState js).2 ∧ JRep R (JB.updateState jb).1 (JB.updateState js).1 := by
  obtain ⟨q, l, m, ov, ls, hd, rd, st, hq, rfl, rfl⟩ := h.split
  unfold JB.updateState
  rw [R.length hq, listImpl_length]
  split <;> exact ⟨rfl, hq, rfl, rfl, rfl, rfl, rfl, rfl⟩

theorem sim_push {jb : JB I} {js : JB listImpl} (h : JRep R jb js) (p : Pkt) :
    (jb.push p).2 = (js.push p).2 ∧ JRep R (jb.push p).1 (js.push p).1 := by
  obtain ⟨q, l, m, ov, ls, hd, rd, st, hq, rfl, rfl⟩ := h.split
  have hl := R.length hq
  obtain ⟨q', hp, hr⟩ := R.push p p.seq hq
  unfold JB.push
  simp only [hp, hl]
  have hs := sim_updateState R (jb := { q := q', minStart := m, overflowLen := ov, lastSeq := p.seq, head := if (!rd) = true ∧ l.length % 65536 = 0 then p.seq else hd, ready := rd, state := st })
    (js := { q := insertL l (p.seq, p), minStart := m, overflowLen := ov, lastSeq := p.seq, head := if (!rd) = true ∧ l.length % 65536 = 0 then p.seq else hd, ready := rd, state := st })
    ⟨hr, rfl, rfl, rfl, rfl, rfl, rfl⟩
  exact ⟨by rw [hs.1], hs.2⟩

theorem sim_popWith {jb : JB I} {js : JB listImpl} (h : JRep R jb js)
    {r : Res (Option Pkt × I.Q)} {rl : Res (Option Pkt × List Entry)} (hr : PopRel R.Rep r rl) (adv : Bool) :
    (jb.popWith r adv).2 = (js.popWith rl adv).2 ∧ JRep R (jb.popWith r adv).1 (js.popWith rl adv).1 := by
  obtain ⟨q, l, m, ov, ls, hd, rd, st, hq, rfl, rfl⟩ := h.split
  unfold JB.popWith
  match r, rl, hr with
  | .ok (v, q'), .ok (v', l'), hr =>
    obtain ⟨hv, hr⟩ := hr
    subst hv
    have hs := sim_updateState R (jb := { q := q', minStart := m, overflowLen := ov, lastSeq := ls, head := if adv = true then (hd + 1) % 65536 else hd, ready := rd, state := st })
      (js := { q := l', minStart := m, overflowLen := ov, lastSeq := ls, head := if adv = true then (hd + 1) % 65536 else hd, ready := rd, state := st })
      ⟨hr, rfl, rfl, rfl, rfl, rfl, rfl⟩
    simp only []
    exact ⟨by rw [hs.1], hs.2⟩
  | .err e, .err e', hr =>
    have : e = e' := hr
    subst this
    exact ⟨rfl, ⟨hq, rfl, rfl, rfl, rfl, rfl, rfl⟩⟩

/-- the guard of `Pop`, `PopAtSequence`, `PopAtTimestamp`. -/
theorem sim_guard {jb : JB I} {js : JB listImpl} (h : JRep R jb js) (o : Out)
    {x : JB I × Out} {y : JB listImpl × Out} (hxy : x.2 = y.2 ∧ JRep R x.1 y.1) :
    (if jb.state ≠ .emitting then (jb, o) else x).2 = (if js.state ≠ .emitting then (js, o) else y).2 ∧
      JRep R (if jb.state ≠ .emitting then (jb, o) else x).1 (if js.state ≠ .emitting then (js, o) else y).1 := by
  rw [h.state]; split
  · exact ⟨rfl, h⟩
  · exact hxy

theorem sim_step {jb : JB I} {js : JB listImpl} (h : JRep R jb js) (op : Op) :
    (jb.step op).2 = (js.step op).2 ∧ JRep R (jb.step op).1 (js.step op).1 := by
  cases op with
  | push p => exact sim_push R h p
  | pop => exact sim_guard R h _ (by rw [h.head]; exact sim_popWith R h (R.popAt _ h.q) true)
  | popSeq sq => exact sim_guard R h _ (sim_popWith R h (R.popAt _ h.q) true)
  | popTs ts => exact sim_guard R h _ (sim_popWith R h (R.popAtTs _ h.q) false)
  | peek b =>
    simp only [JB.step, JB.peek, h.state, h.head, h.lastSeq, R.length h.q, R.find _ h.q]
    exact ⟨trivial, h⟩
  | peekSeq sq =>
    simp only [JB.step, JB.peekAtSequence, R.find _ h.q]
    exact ⟨trivial, h⟩
  | setHead x =>
    exact ⟨rfl, ⟨h.q, h.minStart, h.overflowLen, h.lastSeq, rfl, h.ready, h.state⟩⟩
  | getHead => exact ⟨rfl, h⟩
  | clear r =>
    obtain ⟨q', hc, hr⟩ := R.clear h.q
    simp only [JB.step, JB.clear, hc]
    cases r
    · exact ⟨trivial, ⟨hr, h.minStart, h.overflowLen, h.lastSeq, h.head, h.ready, h.state⟩⟩
    · exact ⟨trivial, ⟨hr, rfl, h.overflowLen, rfl, h.head, rfl, rfl⟩⟩

/-- a whole history: same records, related final states. -/
theorem sim_run {jb : JB I} {js : JB listImpl} (h : JRep R jb js) (ops : List Op) :
    (jb.run ops).2 = (js.run ops).2 ∧ JRep R (jb.run ops).1 (js.run ops).1 := by
  induction ops generalizing jb js with
  | nil => exact ⟨rfl, h⟩
  | cons op ops ih =>
    have hs := sim_step R h op
    have := ih hs.2
    simp only [JB.run, this.1, h.head, h.ready, hs.1]
    exact ⟨trivial, this.2⟩

theorem jrep_new (m : Option Nat) : JRep R (JB.new I m) (JB.new listImpl m) :=
  ⟨R.empty, rfl, rfl, rfl, rfl, rfl, rfl⟩

end Interceptor.JitterBuffer
