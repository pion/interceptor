/-
C03: the NACK limit per PACKET (unwrapped number).  Spec side: a packet that is gone for good
(`Gone`: at or before the first packet, behind the window, or received) stays gone under every arrival,
and a packet that is missing can only stay missing or become gone.  Model side: the counter of a
missing number is kept from tick to tick and pays for every request.
-/
import Interceptor.Proofs.ReceiveLogMissing
import Interceptor.Proofs.NackGen
import Interceptor.Spec.NackRun
namespace Interceptor.ReceiveLog
open Interceptor

theorem missingU_not_gone {size skip : Nat} {a : NackSpec.Stream} {x : Int} (h : MissingU size skip a x) :
    ¬ Gone size a x := by
  obtain ⟨h1, h2, h3, h4⟩ := h
  rintro (g | g | g)
  · omega
  · omega
  · exact h4 g

/-- one arrival on the specification: `first` is fixed, `hi` only moves forward, `Gone` is absorbing. -/
theorem arrive_mono (size : Nat) (a a' : NackSpec.Stream) (q : Nat)
    (h : NackSpec.arrive size (some a) q = some a') :
    a'.first = a.first ∧ a.hi ≤ a'.hi ∧ ∀ x : Int, Gone size a x → Gone size a' x := by
  unfold NackSpec.arrive at h
  simp only [] at h
  generalize NackSpec.unwrapAt a.hi q = x0 at h
  by_cases c : (if a.hi < x0 then x0 else a.hi) - ↑size < x0
  · rw [if_pos c] at h
    cases h
    refine ⟨rfl, by simp only []; split <;> omega, ?_⟩
    intro x hx
    rcases hx with g | g | g
    · exact Or.inl g
    · right; left; simp only []; split <;> omega
    · by_cases hw : (if a.hi < x0 then x0 else a.hi) - ↑size < x
      · right; right
        simp only [List.mem_filter, List.mem_cons, decide_eq_true_eq]
        exact ⟨Or.inr g, hw⟩
      · right; left; simp only []; omega
  · rw [if_neg c] at h
    cases h
    exact ⟨rfl, by omega, fun x hx => hx⟩

/-- `reqCountU` looks the packet `x` up in the NACK by its 16-bit value. -/
theorem contains_sq (out : List Nat) (x : Int) : out.contains (x % 65536).toNat = decide (sq x ∈ out) :=
  List.contains_eq_mem _ _

theorem not_requested (cfg : Cfg) (hs : SizeOK cfg.size) (st : Stream)
    {a : NackSpec.Stream} {lcU : Int} (h : R cfg.size st.log a lcU) (x : Int)
    (hnm : ¬ MissingU cfg.size cfg.skip a x) :
    (inWindowB cfg.size (some a) x && ((tickStream cfg st).2.getD []).contains (x % 65536).toNat) = false := by
  have hle := hs.le
  by_cases hw : inWindowB cfg.size (some a) x = true
  · rw [hw, Bool.true_and, contains_sq, decide_eq_false_iff_not]
    rw [inWindowB, Bool.and_eq_true, decide_eq_true_eq, decide_eq_true_eq] at hw
    intro hin
    exact hnm ((requested_iff_R hs h cfg.skip x (by omega) hw.2).mp (tickStream_subset cfg st _ hin))
  · rw [Bool.not_eq_true] at hw
    rw [hw, Bool.false_and]

/-- the run from a started state: a gone packet is never requested; a missing packet is requested at most
`max − counter` more times; any other packet (ahead of `hi − skip`) at most `max` times. -/
theorem reqCountU_started (cfg : Cfg) (hs : SizeOK cfg.size)
    (h0 : 0 < cfg.max) (hmax : cfg.max < 65536) (x : Int) (ops : List SOp)
    (hq : ∀ q, SOp.arrive q ∈ ops → q < 65536)
    (st : Stream) (a : NackSpec.Stream) (lcU : Int) (h : R cfg.size st.log a lcU)
    (hC : ∀ y, cnt st.counts y ≤ cfg.max) :
    (Gone cfg.size a x → reqCountU cfg x st (some a) ops = 0) ∧
    (MissingU cfg.size cfg.skip a x → reqCountU cfg x st (some a) ops + cnt st.counts (sq x) ≤ cfg.max) ∧
    reqCountU cfg x st (some a) ops ≤ cfg.max := by
  induction ops generalizing st a lcU with
  | nil => exact ⟨fun _ => rfl, fun _ => (Nat.zero_add _).symm ▸ hC (sq x), Nat.zero_le _⟩
  | cons op ops ih =>
    have hq' : ∀ q, SOp.arrive q ∈ ops → q < 65536 := fun q hq2 => hq q (List.mem_cons_of_mem _ hq2)
    cases op with
    | arrive q =>
      rw [reqCountU]
      obtain ⟨a', lcU', e, hR'⟩ := R_add hs h q (hq q List.mem_cons_self)
      rw [e]
      obtain ⟨m1, m2, m3⟩ := arrive_mono cfg.size a a' q e
      obtain ⟨i1, i2, i3⟩ := ih hq' { st with log := add st.log q } a' lcU' hR' hC
      refine ⟨fun g => i1 (m3 x g), ?_, i3⟩
      intro hm
      by_cases g : Gone cfg.size a' x
      · rw [i1 g, Nat.zero_add]; exact hC (sq x)
      · -- still missing
        obtain ⟨h1, h2, h3, h4⟩ := hm
        exact i2 ⟨m1 ▸ h1, Int.not_le.mp fun hc => g (Or.inr (Or.inl hc)), by omega,
          fun hc => g (Or.inr (Or.inr hc))⟩
    | tick =>
      have hR' : R cfg.size (tickStream cfg st).1.log a lcU := by rw [tickStream_log]; exact h
      obtain ⟨i1, i2, i3⟩ := ih hq' (tickStream cfg st).1 a lcU hR' (tickStream_counts_le cfg hmax st hC)
      rw [reqCountU]
      by_cases hm : MissingU cfg.size cfg.skip a x
      · -- the request is paid for by the counter of `sq x`
        have hle := hs.le
        have hy : sq x ∈ missing st.log cfg.skip :=
          (requested_iff_R hs h cfg.skip x (by have := hm.2.1; omega) (by have := hm.2.2.1; omega)).mpr hm
        obtain ⟨t1, t2⟩ := tickStream_limit cfg h0 hmax st (sq x) hy (hC (sq x))
        have i2' := i2 hm
        have hind : (if (inWindowB cfg.size (some a) x &&
            ((tickStream cfg st).2.getD []).contains (x % 65536).toNat) = true then 1 else 0) ≤
            (if sq x ∈ ((tickStream cfg st).2).getD [] then 1 else 0) := by
          rw [contains_sq]
          by_cases hc : sq x ∈ ((tickStream cfg st).2).getD []
          · rw [if_pos hc]; split <;> omega
          · rw [decide_eq_false hc, Bool.and_false, if_neg Bool.false_ne_true]; exact Nat.zero_le _
        exact ⟨fun g => absurd g (missingU_not_gone hm), fun _ => by omega, by omega⟩
      · rw [not_requested cfg hs st h x hm, if_neg Bool.false_ne_true, Nat.zero_add]
        exact ⟨i1, fun hm' => absurd hm' hm, i3⟩

theorem reqCountU_fresh (cfg : Cfg) (hs : SizeOK cfg.size)
    (h0 : 0 < cfg.max) (hmax : cfg.max < 65536) (x : Int) (ops : List SOp)
    (hq : ∀ q, SOp.arrive q ∈ ops → q < 65536)
    (st : Stream) (hl : st.log = new cfg.size) (hC : ∀ y, cnt st.counts y ≤ cfg.max) :
    reqCountU cfg x st none ops ≤ cfg.max := by
  induction ops generalizing st with
  | nil => exact Nat.zero_le _
  | cons op ops ih =>
    have hq' : ∀ q, SOp.arrive q ∈ ops → q < 65536 := fun q hq2 => hq q (List.mem_cons_of_mem _ hq2)
    cases op with
    | arrive q =>
      rw [reqCountU]
      have hR : R cfg.size (add st.log q) { first := q, hi := q, recv := [(q : Int)] } q := by
        rw [hl]; exact R_init hs q (hq q List.mem_cons_self)
      exact (reqCountU_started cfg hs h0 hmax x ops hq' { st with log := add st.log q } _ _ hR hC).2.2
    | tick =>
      rw [reqCountU, inWindowB, Bool.false_and, if_neg Bool.false_ne_true, Nat.zero_add]
      exact ih hq' (tickStream cfg st).1 ((tickStream_log cfg st).trans hl) (tickStream_counts_le cfg hmax st hC)

end Interceptor.ReceiveLog
