/-
Helper lemmas for C14: the three FlexFEC-03 mask fields name exactly bits 0..108 of a BitArray,
and the spec's reading of the fields returns those positions.  Core Lean only.
-/
import Interceptor.Proofs.FlexFecBits
import Interceptor.Spec.FlexFecDecode
namespace Interceptor.FlexFec
open Interceptor.FlexFecSpec (maskBits)

theorem two64_eq : two64 = 2 ^ 64 := by decide

theorem testBit_ge_false {x i : Nat} (h : x < 2 ^ 64) (hi : 64 ≤ i) : x.testBit i = false :=
  Nat.testBit_lt_two_pow (Nat.lt_of_lt_of_le h (Nat.pow_le_pow_right (by decide) hi))

/-- bit `k` of `uint64(x << a)`: bit `k - a` of `x` if there is one, else 0. -/
theorem shl_u64_bit (x a k : Nat) (hk : k < 64) :
    ((x <<< a) % two64).testBit k = (decide (a ≤ k) && x.testBit (k - a)) := by
  rw [two64_eq, Nat.testBit_mod_two_pow, Nat.testBit_shiftLeft, decide_eq_true hk, Bool.true_and]

theorem mask1_bit (b : BitArray) (t : Nat) (ht : t < 15) : (mask1 b).testBit (14 - t) = bitOf b t := by
  rw [bitOf, if_pos (by omega), mask1, show (65536 : Nat) = 2 ^ 16 from rfl, Nat.testBit_mod_two_pow,
    Nat.testBit_shiftRight, decide_eq_true (show 14 - t < 16 by omega), Bool.true_and,
    show 49 + (14 - t) = 63 - t by omega]

theorem mask2_bit (b : BitArray) (t : Nat) (ht : t < 31) : (mask2 b).testBit (30 - t) = bitOf b (15 + t) := by
  rw [bitOf, if_pos (by omega), mask2, show (4294967296 : Nat) = 2 ^ 32 from rfl, Nat.testBit_mod_two_pow,
    Nat.testBit_shiftRight, decide_eq_true (show 30 - t < 32 by omega), Bool.true_and,
    shl_u64_bit _ _ _ (by omega), decide_eq_true (show 15 ≤ 33 + (30 - t) by omega), Bool.true_and,
    show 33 + (30 - t) - 15 = 63 - (15 + t) by omega]

theorem mask3_bit (b : BitArray) (hhi : b.hi < 2 ^ 64) (t : Nat) (ht : t < 63) :
    (mask3 b).testBit (62 - t) = bitOf b (46 + t) := by
  rw [bitOf, mask3, Nat.testBit_shiftRight, Nat.testBit_or, shl_u64_bit _ _ _ (by omega), Nat.testBit_shiftRight]
  by_cases h : t < 18
  · rw [if_pos (by omega), decide_eq_true (show 46 ≤ 1 + (62 - t) by omega), Bool.true_and,
      testBit_ge_false hhi (by omega), Bool.or_false, show 1 + (62 - t) - 46 = 63 - (46 + t) by omega]
  · rw [if_neg (by omega), decide_eq_false (show ¬ 46 ≤ 1 + (62 - t) by omega), Bool.false_and, Bool.false_or,
      show 18 + (1 + (62 - t)) = 127 - (46 + t) by omega]

theorem shr_lt (x s w : Nat) (h : x < 2 ^ (s + w)) : x >>> s < 2 ^ w := by
  rw [Nat.shiftRight_eq_div_pow]
  exact Nat.div_lt_of_lt_mul (by rwa [← Nat.pow_add])

theorem mask1_lt (b : BitArray) (h : b.lo < 2 ^ 64) : mask1 b < 2 ^ 15 :=
  Nat.lt_of_le_of_lt (Nat.mod_le _ _) (shr_lt b.lo 49 15 h)

theorem mask2_lt (b : BitArray) : mask2 b < 2 ^ 31 :=
  Nat.lt_of_le_of_lt (Nat.mod_le _ _) (shr_lt _ 33 31 (two64_eq ▸ Nat.mod_lt _ (by decide)))

/-- the word `(mask.Lo << 46) | (mask.Hi >> 18)` of `extractMask3`/`extractMask3_03` fits in 64 bits. -/
theorem mask3_word_lt (b : BitArray) (hhi : b.hi < 2 ^ 64) : (b.lo <<< 46) % two64 ||| b.hi >>> 18 < 2 ^ 64 :=
  Nat.or_lt_two_pow (two64_eq ▸ Nat.mod_lt _ (by decide)) (Nat.lt_of_le_of_lt (Nat.shiftRight_le _ _) hhi)

theorem mask3_lt (b : BitArray) (hhi : b.hi < 2 ^ 64) : mask3 b < 2 ^ 63 :=
  shr_lt _ 1 63 (mask3_word_lt b hhi)

theorem maskBits_eq (v width first : Nat) (P : Nat → Bool)
    (h : ∀ t, t < width → v.testBit (width - 1 - t) = P (first + t)) :
    maskBits v width first = ((List.range width).map (first + ·)).filter P := by
  unfold maskBits
  rw [List.filter_map]
  congr 1
  apply List.filter_congr
  intro t ht
  have ht' : t < width := List.mem_range.1 ht
  simp only [Function.comp, ← h t ht', Nat.testBit_eq_decide_div_mod_eq]
  by_cases e : v / 2 ^ (width - 1 - t) % 2 = 1 <;> simp [e]

theorem maskBits_zero (width first : Nat) : maskBits 0 width first = [] := by
  unfold maskBits
  simp

def allPos (b : BitArray) : List Nat := (List.range 109).filter (bitOf b)

/-- ★ (bit level) the three mask fields together name exactly the set bits among 0..108. -/
theorem masks_name_bits (b : BitArray) (hhi : b.hi < 2 ^ 64) :
    maskBits (mask1 b) 15 0 ++ maskBits (mask2 b) 31 15 ++ maskBits (mask3 b) 63 46 = allPos b := by
  rw [maskBits_eq (mask1 b) 15 0 (bitOf b) (fun t ht => by simpa using mask1_bit b t ht),
    maskBits_eq (mask2 b) 31 15 (bitOf b) (fun t ht => mask2_bit b t ht),
    maskBits_eq (mask3 b) 63 46 (bitOf b) (fun t ht => mask3_bit b hhi t ht)]
  unfold allPos
  have e : (109 : Nat) = 15 + (31 + 63) := rfl
  have e2 : (46 : Nat) = 15 + 31 := rfl
  rw [e, List.range_add, List.range_add, List.filter_append, List.map_append, List.filter_append,
    List.map_map, List.append_assoc]
  congr 2

end Interceptor.FlexFec
