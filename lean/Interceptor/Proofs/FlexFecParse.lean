/-
Helper lemmas for C14: big-endian words of any width and their k bit; the spec's header parser applied
to the header bytes the encoder writes (three shapes: 20, 24, 32 bytes).  Core Lean only.
-/
import Interceptor.Proofs.FlexFecMask
namespace Interceptor.FlexFec
open Interceptor.FlexFecSpec (parseHeader FecHeader beVal slice maskBits)

/-- the `n` low bytes of `v`, most significant first (`binary.BigEndian.PutUintN`). -/
def beBytes : Nat → Nat → Bytes
  | 0, _ => []
  | n + 1, v => (v >>> (8 * n)) % 256 :: beBytes n v

theorem beBytes_length (n v : Nat) : (beBytes n v).length = n := by
  induction n with
  | zero => rfl
  | succ n ih => simp [beBytes, ih]

theorem shr_bytes (v n : Nat) : v >>> (8 * n) = v / 256 ^ n := by
  rw [Nat.shiftRight_eq_div_pow, Nat.pow_mul]

theorem beVal_cons (x : Nat) (l : Bytes) : beVal (x :: l) = x * 256 ^ l.length + beVal l := by
  have gen : ∀ (l : Bytes) (acc : Nat),
      l.foldl (fun a b => a * 256 + b) acc = acc * 256 ^ l.length + l.foldl (fun a b => a * 256 + b) 0 := by
    intro l
    induction l with
    | nil => intro acc; simp
    | cons b l ih =>
      intro acc
      simp only [List.foldl_cons, List.length_cons]
      rw [ih, ih (0 * 256 + b), Nat.zero_mul, Nat.zero_add, Nat.add_mul, Nat.pow_succ, Nat.mul_assoc,
        Nat.mul_comm 256, Nat.add_assoc]
  show l.foldl _ (0 * 256 + x) = _
  rw [gen, Nat.zero_mul, Nat.zero_add]
  rfl

theorem beVal_beBytes_succ (n v : Nat) :
    beVal (beBytes (n + 1) v) = v / 256 ^ n % 256 * 256 ^ n + beVal (beBytes n v) := by
  rw [beBytes, beVal_cons, beBytes_length, shr_bytes]

theorem beVal_beBytes (n v : Nat) : beVal (beBytes n v) = v % 256 ^ n := by
  induction n with
  | zero => simp [beBytes, beVal, Nat.mod_one]
  | succ n ih => rw [beVal_beBytes_succ, ih, Nat.pow_succ, Nat.mod_mul, Nat.mul_comm, Nat.add_comm]

/-- a mask field of `n + 1` bytes holding `m` (one bit narrower) with its k bit set reads as `2^(8n+7) + m`. -/
theorem beVal_setK (n m : Nat) (h : m < 128 * 256 ^ n) :
    beVal (setK (beBytes (n + 1) m)) = 128 * 256 ^ n + m := by
  have hlt : m / 256 ^ n < 2 ^ 7 := by
    rw [Nat.div_lt_iff_lt_mul (Nat.pow_pos (by decide))]; exact h
  have e := Nat.div_add_mod' m (256 ^ n)
  rw [beBytes, setK, beVal_cons, beBytes_length, shr_bytes, Nat.mod_eq_of_lt (by omega),
    or_two_pow _ 7 hlt, Nat.add_mul, beVal_beBytes]
  omega

theorem kword_div (K m : Nat) (h : m < K) : (K + m) / K = 1 := by
  rw [Nat.add_div_left _ (by omega), Nat.div_eq_of_lt h]

theorem kword_mod (K m : Nat) (h : m < K) : (K + m) % K = m := by
  rw [Nat.add_mod_left, Nat.mod_eq_of_lt h]

theorem parse_maskBytes (h0 h1 l2 l3 t4 t5 t6 t7 s0 s1 s2 s3 base m1 m2 m3 : Nat) (rep : Bytes)
    (hh0 : h0 < 64) (hbase : base < 2 ^ 16) (hm1 : m1 < 2 ^ 15) (hm2 : m2 < 2 ^ 31) (hm3 : m3 < 2 ^ 63) :
    parseHeader ([h0, h1, l2, l3, t4, t5, t6, t7, 1, 0, 0, 0, s0, s1, s2, s3] ++ be16 base
        ++ maskBytes m1 m2 m3 ++ rep)
      = some ⟨18 + (maskBytes m1 m2 m3).length, [s0, s1, s2, s3], base,
          maskBits m1 15 0 ++ maskBits m2 31 15 ++ maskBits m3 63 46⟩ := by
  have hd : h0 / 64 = 0 := Nat.div_eq_of_lt hh0
  -- `be16`, `be32`, `be64` of the model are `beBytes 2`, `beBytes 4`, `beBytes 8` by unfolding
  have vb : beVal (be16 base) = base := (beVal_beBytes 2 base).trans (Nat.mod_eq_of_lt hbase)
  have v1 : beVal (be16 m1) = m1 :=
    (beVal_beBytes 2 m1).trans (Nat.mod_eq_of_lt (Nat.lt_trans hm1 (by decide)))
  have v2 : beVal (be32 m2) = m2 :=
    (beVal_beBytes 4 m2).trans (Nat.mod_eq_of_lt (Nat.lt_trans hm2 (by decide)))
  have k1 : beVal (setK (be16 m1)) = 2 ^ 15 + m1 := beVal_setK 1 m1 hm1
  have k2 : beVal (setK (be32 m2)) = 2 ^ 31 + m2 := beVal_setK 3 m2 hm2
  have k3 : beVal (setK (be64 m3)) = 2 ^ 63 + m3 := beVal_setK 7 m3 hm3
  have n1 : m1 / 2 ^ 15 ≠ 1 := by rw [Nat.div_eq_of_lt hm1]; decide
  have n2 : m2 / 2 ^ 31 ≠ 1 := by rw [Nat.div_eq_of_lt hm2]; decide
  have pre : ∀ M : Bytes, ∀ fec, [h0, h1, l2, l3, t4, t5, t6, t7, 1, 0, 0, 0, s0, s1, s2, s3] ++ be16 base ++ M ++ rep = fec →
      slice fec 12 4 = [s0, s1, s2, s3] ∧ slice fec 16 2 = be16 base ∧ fec.getD 0 0 / 64 = 0 ∧ fec.getD 8 0 = 1 :=
    fun M fec e => e ▸ ⟨rfl, rfl, hd, rfl⟩
  unfold maskBytes
  split
  · next h23 =>
    rw [h23.1, h23.2, maskBits_zero, maskBits_zero, List.append_nil, List.append_nil]
    generalize hfec : _ ++ rep = fec
    obtain ⟨sS, sB, g0, g8⟩ := pre _ _ hfec
    have sW : slice fec 18 2 = setK (be16 m1) := by rw [← hfec]; rfl
    have hl : ¬ fec.length < 20 := by
      rw [← hfec]; simp only [List.length_append, List.length_cons, List.length_nil, be16, setK]; omega
    simp only [parseHeader, sS, sB, sW, g0, g8, hl, vb, k1, kword_div _ _ hm1, kword_mod _ _ hm1]
    simp [be16, setK]
  split
  · next h3 =>
    rw [h3, maskBits_zero, List.append_nil]
    generalize hfec : _ ++ rep = fec
    obtain ⟨sS, sB, g0, g8⟩ := pre _ _ hfec
    have sW : slice fec 18 2 = be16 m1 := by rw [← hfec]; rfl
    have sW2 : slice fec 20 4 = setK (be32 m2) := by rw [← hfec]; rfl
    have hl : ¬ fec.length < 20 ∧ ¬ fec.length < 24 := by
      rw [← hfec]; simp only [List.length_append, List.length_cons, List.length_nil, be16, be32, setK]; omega
    simp only [parseHeader, sS, sB, sW, sW2, g0, g8, hl, vb, v1, k2, n1, Nat.mod_eq_of_lt hm1,
      kword_div _ _ hm2, kword_mod _ _ hm2]
    rfl
  · generalize hfec : _ ++ rep = fec
    obtain ⟨sS, sB, g0, g8⟩ := pre _ _ hfec
    have sW : slice fec 18 2 = be16 m1 := by rw [← hfec]; rfl
    have sW2 : slice fec 20 4 = be32 m2 := by rw [← hfec]; rfl
    have sW3 : slice fec 24 8 = setK (be64 m3) := by rw [← hfec]; rfl
    have hl : ¬ fec.length < 20 ∧ ¬ fec.length < 24 ∧ ¬ fec.length < 32 := by
      rw [← hfec]; simp only [List.length_append, List.length_cons, List.length_nil, be16, be32, be64, setK]; omega
    simp only [parseHeader, sS, sB, sW, sW2, sW3, g0, g8, hl, vb, v1, v2, k3, n1, n2, Nat.mod_eq_of_lt hm1,
      Nat.mod_eq_of_lt hm2, kword_mod _ _ hm3]
    rfl
