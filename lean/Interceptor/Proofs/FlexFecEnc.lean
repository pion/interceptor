/-
Helper lemmas for C14: repair packet headers of the encode loop, sequence numbers of a consecutive
batch, the coverage table across `UpdateCoverage` calls.  Core Lean only.
-/
import Interceptor.Proofs.FlexFecGlue
namespace Interceptor.FlexFec

theorem mod_succ_add (a t : Nat) : ((a + 1) % 65536 + t) % 65536 = (a + (t + 1)) % 65536 := by
  rw [Nat.mod_add_mod, Nat.add_assoc, Nat.add_comm 1]

theorem encodeLoop_headers (c : Coverage) (pt ssrc base : Nat) : ∀ (is : List Nat) (sn : Nat), sn < 65536 →
    (∀ q ∈ (encodeLoop c pt ssrc base is sn).2, q.ssrc = ssrc ∧ q.pt = pt ∧ q.ts = 54243243) ∧
    (encodeLoop c pt ssrc base is sn).2.map (·.seq)
      = (List.range (encodeLoop c pt ssrc base is sn).2.length).map (fun t => (sn + t) % 65536) ∧
    (encodeLoop c pt ssrc base is sn).1 = (sn + (encodeLoop c pt ssrc base is sn).2.length) % 65536 := by
  intro is
  induction is with
  | nil =>
    intro sn h
    refine ⟨fun q hq => ?_, rfl, (Nat.mod_eq_of_lt h).symm⟩
    cases hq
  | cons i is ih =>
    intro sn h
    unfold encodeLoop
    cases hp : fecPayload c i base with
    | none => exact ih sn h
    | some pl =>
      have ih' := ih ((sn + 1) % 65536) (Nat.mod_lt _ (by decide))
      generalize encodeLoop c pt ssrc base is ((sn + 1) % 65536) = r at ih'
      obtain ⟨sn', rest⟩ := r
      obtain ⟨h1, h2, h3⟩ := ih'
      simp only at h1 h2 h3 ⊢
      refine ⟨?_, ?_, ?_⟩
      · intro q hq
        rcases List.mem_cons.1 hq with e | e
        · subst e; exact ⟨rfl, rfl, rfl⟩
        · exact h1 q e
      · rw [List.map_cons, h2, List.length_cons, List.range_succ_eq_map, List.map_cons, List.map_map]
        congr 1
        · exact (Nat.mod_eq_of_lt h).symm
        · exact List.map_congr_left fun t _ => mod_succ_add sn t
      · rw [h3, List.length_cons]; exact mod_succ_add sn _

theorem seqs_of_consecutive : ∀ (media : List Bytes), (∀ p ∈ media, seqOf p < 65536) →
    consecutive media = true → ∀ k, k < media.length →
      seqOf (media.getD k []) = (seqOf (media.getD 0 []) + k) % 65536 := by
  intro media
  induction media with
  | nil => intro _ _ k hk; simp at hk
  | cons a rest ih =>
    intro hlt hc k hk
    cases k with
    | zero =>
      rw [List.getD_cons_zero, Nat.add_zero]
      exact (Nat.mod_eq_of_lt (hlt a List.mem_cons_self)).symm
    | succ k =>
      cases rest with
      | nil => simp at hk
      | cons b rest =>
        have hc' : (seqOf b == (seqOf a + 1) % 65536) = true ∧ consecutive (b :: rest) = true := by
          simpa [consecutive] using hc
        have := ih (fun p hp => hlt p (by simp [hp])) hc'.2 k (by simpa using hk)
        simp only [List.getD_cons_succ, List.getD_cons_zero] at this ⊢
        rw [this, beq_iff_eq.1 hc'.1]
        exact mod_succ_add _ k

/-- the invariant of the table: it is the one built for the stored shape (initially all zero
for the shape (0, 0)). -/
def MasksOk (c : Coverage) : Prop := c.masks = buildMasks c.numMedia c.numFec

theorem masksOk_init (media : List Bytes) : MasksOk ⟨List.replicate maxFecPackets BitArray.empty, 0, 0, media⟩ := by
  show List.replicate maxFecPackets BitArray.empty = buildMasks 0 0
  simp only [buildMasks, Nat.not_lt_zero, if_false, List.map_const', List.length_range]

theorem update_masksOk (c : Coverage) (media : List Bytes) (f : Nat) (h : MasksOk c) :
    MasksOk (c.update media f) := by
  unfold Coverage.update
  simp only []
  split
  · exact h
  · split
    · exact h
    · rfl

theorem update_shape (c : Coverage) (media : List Bytes) (f : Nat)
    (h1 : 1 ≤ media.length) (h2 : media.length ≤ 110) :
    (c.update media f).media = media ∧ (c.update media f).numMedia = media.length ∧
    (c.update media f).numFec = f := by
  unfold Coverage.update maxMediaPackets
  simp only []
  have : ¬ (media.length = 0 ∨ media.length > 110) := by omega
  rw [if_neg this]
  split
  · rename_i h; exact ⟨rfl, h.2.symm, h.1.symm⟩
  · exact ⟨rfl, rfl, rfl⟩

theorem encodeFec_accept (e : Encoder) (media : List Bytes) (f : Nat) (c : Coverage)
    (h : ¬ (media.length = 0 ∨ media.length > maxFlexFec03MediaPackets)) (h2 : consecutive media = true)
    (h3 : nextCov e media f = some c) :
    e.encodeFec media f =
      ({ e with cov := some c,
                fecSn := (encodeLoop c e.pt e.ssrc (seqOf (media.getD 0 [])) (List.range f) e.fecSn).1 },
       some (encodeLoop c e.pt e.ssrc (seqOf (media.getD 0 [])) (List.range f) e.fecSn).2) := by
  unfold Encoder.encodeFec; rw [if_neg h, h2]
  simp only [Bool.not_true, Bool.false_eq_true, if_false]
  rw [h3]

/-- the three ways an `EncodeFec` call ends: batch rejected (size or order), `NewCoverage` failed, encoded. -/
theorem encodeFec_cases (e : Encoder) (media : List Bytes) (f : Nat) :
    e.encodeFec media f = (e, none) ∨ e.encodeFec media f = ({ e with cov := none }, none) ∨
    ∃ c, nextCov e media f = some c ∧ e.encodeFec media f =
      ({ e with cov := some c,
                fecSn := (encodeLoop c e.pt e.ssrc (seqOf (media.getD 0 [])) (List.range f) e.fecSn).1 },
       some (encodeLoop c e.pt e.ssrc (seqOf (media.getD 0 [])) (List.range f) e.fecSn).2) := by
  unfold Encoder.encodeFec
  split
  · exact .inl rfl
  split
  · exact .inl rfl
  split
  · exact .inr (.inl rfl)
  · next c h => exact .inr (.inr ⟨c, h, rfl⟩)

theorem nextCov_masksOk (e : Encoder) (media : List Bytes) (f : Nat) (he : ∀ c, e.cov = some c → MasksOk c)
    (c : Coverage) (h : nextCov e media f = some c) : MasksOk c := by
  unfold nextCov at h
  cases hcov : e.cov with
  | none =>
    rw [hcov] at h
    simp only [newCoverage] at h
    split at h
    · simp at h
    · rw [← Option.some.inj h]
      exact update_masksOk _ media f (masksOk_init [])
  | some c0 =>
    rw [hcov] at h
    rw [← Option.some.inj h]
    exact update_masksOk c0 media f (he c0 hcov)

theorem nextCov_some (e : Encoder) (media : List Bytes) (f : Nat)
    (h1 : 1 ≤ media.length) (h2 : media.length ≤ 110) :
    ∃ c, nextCov e media f = some c ∧ c.media = media ∧ c.numMedia = media.length ∧ c.numFec = f := by
  unfold nextCov
  cases e.cov with
  | none =>
    have h : ¬ (media.length = 0 ∨ media.length > maxMediaPackets) := by unfold maxMediaPackets; omega
    simp only [newCoverage, if_neg h]
    exact ⟨_, rfl, update_shape _ media f h1 h2⟩
  | some c0 => exact ⟨_, rfl, update_shape c0 media f h1 h2⟩

end Interceptor.FlexFec
