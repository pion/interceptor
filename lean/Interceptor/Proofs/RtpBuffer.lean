/-
Helper lemmas for C04: the index function of the ring, slot updates, the clearing loop.
-/
import Interceptor.Model.RtpBuffer
import Interceptor.Spec.RtpBuffer
namespace Interceptor.RtpBuffer
open Interceptor

theorem validSize_spec {n : Nat} (h : validSize n = true) : 0 < n ∧ n ≤ 32768 ∧ n ∣ 65536 := by
  have table : ∀ m ∈ [1, 2, 4, 8, 16, 32, 64, 128, 256, 512, 1024, 2048, 4096, 8192, 16384, 32768],
      0 < m ∧ m ≤ 32768 ∧ m ∣ 65536 := by decide
  exact table n (List.contains_iff_mem.1 h)

theorem ix_lt {n : Nat} (h : validSize n = true) (x : Nat) : ix n x < n :=
  Nat.mod_lt _ (validSize_spec h).1

/-! the slot index: since the size divides 2^16, two numbers share a slot exactly when their
distance is a multiple of the size.  Everything about windows follows from this. -/

theorem ix_eq_iff_dvd {n : Nat} (hn : n ∣ 65536) (x : Nat) {y : Nat} (hy : y < 65536) :
    ix n x = ix n y ↔ n ∣ sub16 x y := by
  unfold ix sub16
  rw [Nat.mod_eq_of_lt hy, Nat.dvd_mod_iff hn]
  obtain ⟨c, hc⟩ := hn
  constructor
  · intro e
    apply Nat.dvd_of_mod_eq_zero
    apply Nat.sub_mod_eq_zero_of_mod_eq
    rw [hc, Nat.add_mul_mod_self_left, e]
  · intro ⟨k, hk⟩
    have e : x + n * c = y + n * k := by omega
    rw [← Nat.add_mul_mod_self_left x n c, e, Nat.add_mul_mod_self_left]

theorem ix_inj_near {n : Nat} (hn : n ∣ 65536) {x y : Nat} (hx : x < 65536) (hy : y < 65536)
    (e : ix n x = ix n y) (h : sub16 x y < n) : x = y :=
  eq_of_sub16_eq_zero hx hy (Nat.eq_zero_of_dvd_of_lt ((ix_eq_iff_dvd hn x hy).1 e) h)

theorem ix_inj {n : Nat} (hn : n ∣ 65536) {hi x y : Nat} (hx : x < 65536) (hy : y < 65536)
    (wx : sub16 hi x < n) (wy : sub16 hi y < n) (e : ix n x = ix n y) : x = y := by
  rcases Nat.le_total (sub16 hi x) (sub16 hi y) with h | h
  · have := sub16_trans hi hx hy
    have := sub16_lt x y
    exact ix_inj_near hn hx hy e (by omega)
  · have := sub16_trans hi hy hx
    have := sub16_lt y x
    exact (ix_inj_near hn hy hx e.symm (by omega)).symm

/-- the window slides from `hi` to `sp`: a packet `q` that stays inside is not in a slot the
clearing loop (numbers `hi+1 .. sp-1`) visits. -/
theorem slide_keep {n hi sp q j : Nat} (hn : n ∣ 65536) (hn2 : n ≤ 32768) (hhi : hi < 65536)
    (hq : q < 65536) (hd : sub16 sp hi < 32768) (w1 : sub16 hi q < n) (w2 : sub16 sp q < n)
    (hj : j < sub16 sp hi - 1) :
    ix n (add16 (add16 hi 1) j) ≠ ix n q := by
  intro e
  rw [add16_add16] at e
  have t := sub16_trans sp hhi hq
  have tj := sub16_trans (add16 hi (1 + j)) hhi hq
  rw [sub16_add16 (by omega), Nat.mod_eq_of_lt (by omega)] at tj
  rw [Nat.mod_eq_of_lt (by omega)] at t
  have := Nat.eq_zero_of_dvd_of_lt ((ix_eq_iff_dvd hn _ hq).1 e) (by omega)
  omega

/-- … and a packet `q` that falls out, other than from the slot of `sp` itself, is in a slot the
loop visits: the number one size above `q` lies strictly between `hi` and `sp`. -/
theorem slide_hit {n hi sp q : Nat} (hn : n ∣ 65536) (hn2 : n ≤ 32768) (hhi : hi < 65536)
    (hq : q < 65536) (hd : sub16 sp hi < 32768) (w1 : sub16 hi q < n) (w2 : ¬ sub16 sp q < n)
    (hne : ix n sp ≠ ix n q) :
    ∃ j, j < sub16 sp hi - 1 ∧ ix n (add16 (add16 hi 1) j) = ix n q := by
  have t := sub16_trans sp hhi hq
  rw [Nat.mod_eq_of_lt (by omega)] at t
  have hF : sub16 sp q ≠ n := fun c => hne ((ix_eq_iff_dvd hn _ hq).2 (c ▸ Nat.dvd_refl n))
  refine ⟨n - sub16 hi q - 1, by omega, ?_⟩
  rw [add16_add16, ix_eq_iff_dvd hn _ hq, ← sub16_trans _ hhi hq, sub16_add16 (by omega),
    Nat.mod_eq_of_lt (by omega), show 1 + (n - sub16 hi q - 1) + sub16 hi q = n by omega]
  exact Nat.dvd_refl n

theorem slot_set {α : Type} (s : Array (Option α)) (k i : Nat) (v : Option α) :
    slot (s.setIfInBounds k v) i = if k = i ∧ k < s.size then v else slot s i := by
  unfold slot
  rw [Array.getElem?_setIfInBounds]
  by_cases h : k = i
  · subst h
    by_cases h2 : k < s.size
    · simp [h2]
    · simp [h2]
  · simp [h]

theorem slot_set_none {α : Type} (s : Array (Option α)) (k i : Nat) (h : k = i ∨ slot s i = none) :
    slot (s.setIfInBounds k none) i = none := by
  rw [slot_set]
  split
  · rfl
  · rename_i hb
    rcases h with rfl | h
    · unfold slot
      rw [Array.getElem?_eq_none (Nat.le_of_not_lt fun c => hb ⟨rfl, c⟩)]
      rfl
    · exact h

theorem slot_replicate {α : Type} (n i : Nat) : slot (Array.replicate n (none : Option α)) i = none := by
  unfold slot
  by_cases h : i < n <;> simp [h]

theorem clearSlots_size {α : Type} (size : Nat) (s : Array (Option α)) (i n : Nat) :
    (clearSlots size s i n).size = s.size := by
  induction n generalizing s i with
  | zero => rfl
  | succ n ih => simp [clearSlots, ih]

theorem clearSlots_none {α : Type} (size : Nat) (s : Array (Option α)) (start n i : Nat)
    (h : slot s i = none) : slot (clearSlots size s start n) i = none := by
  induction n generalizing s start with
  | zero => exact h
  | succ n ih => exact ih _ _ (slot_set_none _ _ _ (Or.inr h))

theorem clearSlots_keep {α : Type} (size : Nat) (s : Array (Option α)) (start n i : Nat)
    (h : ∀ j, j < n → ix size (add16 start j) ≠ i) (hs : start < 65536) :
    slot (clearSlots size s start n) i = slot s i := by
  induction n generalizing s start with
  | zero => rfl
  | succ n ih =>
    rw [clearSlots, ih _ _ _ (add16_lt _ _), slot_set, if_neg]
    · have := h 0 (by omega)
      rw [add16_zero hs] at this
      exact fun c => this c.1
    · intro j hj
      rw [add16_succ]
      exact h (j + 1) (by omega)

theorem clearSlots_hit {α : Type} (size : Nat) (s : Array (Option α)) (start n i : Nat)
    (h : ∃ j, j < n ∧ ix size (add16 start j) = i) (hs : start < 65536) :
    slot (clearSlots size s start n) i = none := by
  induction n generalizing s start with
  | zero => obtain ⟨j, hj, _⟩ := h; omega
  | succ n ih =>
    obtain ⟨j, hj, e⟩ := h
    rw [clearSlots]
    cases j with
    | zero =>
      rw [add16_zero hs] at e
      exact clearSlots_none _ _ _ _ _ (slot_set_none _ _ _ (Or.inl e))
    | succ j =>
      refine ih _ _ ⟨j, by omega, ?_⟩ (add16_lt _ _)
      rw [add16_succ]
      exact e

theorem find?_congr' {α : Type} {l : List α} {p q : α → Bool} (h : ∀ x ∈ l, p x = q x) :
    l.find? p = l.find? q := by
  induction l with
  | nil => rfl
  | cons a l ih =>
    rw [List.find?_cons, List.find?_cons, h a List.mem_cons_self,
      ih fun x hx => h x (List.mem_cons_of_mem a hx)]

theorem find?_filter_of_imp {α : Type} {l : List α} {p q : α → Bool}
    (h : ∀ a ∈ l, p a = true → q a = true) : (l.filter q).find? p = l.find? p := by
  rw [List.find?_filter]
  apply find?_congr'
  intro a ha
  cases hp : p a
  · simp
  · simp [h a ha hp]

end Interceptor.RtpBuffer
