/-
The writer-thread machine of Model/TwccHdr.lean: `Inv`, the numbers handed out are consecutive mod 2^16, kept by
`step` and `run`; the pending and written packets are a permutation of the log (`perm_step`); `setElem` sets the
extension it is given and leaves the others (`setElem_find`, `setElem_others`).  Used by Props/C15.lean.
-/
import Interceptor.Model.TwccHdr
namespace Interceptor.TwccHdr
open Interceptor.Rtp

/-- started at counter `c0`: the numbers handed out so far are `c0, c0+1, …` mod 2^16 (the log is newest first),
and the counter is `c0` plus their number, mod 2^16. -/
def Inv (c0 : Nat) (m : Machine) : Prop :=
  m.c % 65536 = (c0 + m.logR.length) % 65536 ∧
  m.logR.map (·.2) = ((List.range m.logR.length).map fun i => (c0 + i) % 65536).reverse

theorem inv_step (c0 : Nat) (m : Machine) (t : Nat) (h : Inv c0 m) : Inv c0 (m.step t) := by
  unfold Inv at h ⊢
  unfold Machine.step
  split
  · simp only [alloc, List.length_cons, List.map_cons, M32]
    refine ⟨by omega, ?_⟩
    rw [List.range_succ, List.map_append, List.reverse_append, h.2]
    simp only [List.map_cons, List.map_nil, List.reverse_cons, List.reverse_nil, List.nil_append,
      List.cons_append, List.cons.injEq, and_true]
    exact h.1
  · exact h

theorem inv_run (c0 : Nat) (sched : List Nat) (m : Machine) (h : Inv c0 m) : Inv c0 (m.run sched) := by
  induction sched generalizing m with
  | nil => exact h
  | cons t ts ih => exact ih (m.step t) (inv_step c0 m t h)

theorem mem_of_lookup {t n : Nat} : ∀ {l : List (Nat × Nat)}, l.lookup t = some n → (t, n) ∈ l
  | [], h => by simp [List.lookup] at h
  | (a, b) :: rest, h => by
    simp only [List.lookup] at h
    split at h
    · rename_i heq
      have : t = a := by simpa using heq
      cases h; subst this; exact List.mem_cons_self
    · exact List.mem_cons_of_mem _ (mem_of_lookup h)

theorem perm_step (m : Machine) (t : Nat) (h : (m.pend ++ m.outR).Perm m.logR) :
    ((m.step t).pend ++ (m.step t).outR).Perm (m.step t).logR := by
  unfold Machine.step
  split
  · simp only [alloc, List.cons_append]
    exact List.Perm.cons _ h
  · rename_i n hl
    have hm := mem_of_lookup hl
    simp only []
    refine List.Perm.trans ?_ h
    refine List.Perm.trans List.perm_middle ?_
    rw [← List.cons_append]
    exact List.Perm.append_right _ (List.perm_cons_erase hm).symm

theorem setElem_find (l : List (Nat × Bytes)) (id : Nat) (p : Bytes) :
    (setElem l id p).find? (·.1 = id) = some (id, p) := by
  induction l with
  | nil => simp [setElem]
  | cons e rest ih =>
    obtain ⟨i, q⟩ := e
    simp only [setElem]
    split
    · rename_i h; subst h; simp
    · rename_i h
      rw [List.find?_cons_of_neg (by simpa using h)]
      exact ih

theorem setElem_others (l : List (Nat × Bytes)) (id : Nat) (p : Bytes) :
    (setElem l id p).filter (·.1 ≠ id) = l.filter (·.1 ≠ id) := by
  induction l with
  | nil => simp [setElem]
  | cons e rest ih =>
    obtain ⟨i, q⟩ := e
    simp only [setElem]
    split
    · rename_i h; subst h; simp
    · rename_i h
      simp only [List.filter_cons, ih]


end Interceptor.TwccHdr
