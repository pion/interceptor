/-
What `FindNextAtOrAfter`, the loop of
`maybeBuildFeedbackPacket` and the loop of `BuildFeedbackPacket` do, in terms of the list of
received numbers of the arrival map.
-/
import Interceptor.Proofs.TwccMap
import Interceptor.Proofs.TwccDecode
namespace Interceptor.Twcc
open ArrivalMap

/-- the received numbers `a, a+1, …, a+n-1` of the map with their arrival times, ascending. -/
def recvN (m : ArrivalMap) : Int → Nat → List (Int × Int)
  | _, 0 => []
  | a, n + 1 => (if m.get a ≥ 0 then [(a, m.get a)] else []) ++ recvN m (a + 1) n

/-- the received numbers in `[a, b)`. -/
def received (m : ArrivalMap) (a b : Int) : List (Int × Int) := recvN m a (b - a).toNat

theorem received_empty (m : ArrivalMap) (a b : Int) (h : b ≤ a) : received m a b = [] := by
  unfold received
  have : (b - a).toNat = 0 := by omega
  rw [this]; rfl

theorem received_step (m : ArrivalMap) (a b : Int) (h : a < b) :
    received m a b = (if m.get a ≥ 0 then [(a, m.get a)] else []) ++ received m (a + 1) b := by
  unfold received
  have : (b - a).toNat = (b - (a + 1)).toNat + 1 := by omega
  rw [this]; rfl

theorem received_skip (m : ArrivalMap) (a x b : Int) (hax : a ≤ x) (hxb : x ≤ b)
    (hnone : ∀ y, a ≤ y → y < x → m.get y < 0) : received m a b = received m x b := by
  have key : ∀ (n : Nat) (a : Int), x - a = n → (∀ y, a ≤ y → y < x → m.get y < 0) →
      received m a b = received m x b := by
    intro n
    induction n with
    | zero => intro a h _; have : a = x := by omega
              rw [this]
    | succ n ih =>
      intro a h hn
      rw [received_step m a b (by omega)]
      have : ¬ m.get a ≥ 0 := by have := hn a (Int.le_refl _) (by omega); omega
      simp only [this, if_false, List.nil_append]
      exact ih (a + 1) (by omega) (fun y h1 h2 => hn y (by omega) h2)
  exact key (x - a).toNat a (by omega) hnone

theorem received_none (m : ArrivalMap) (a b : Int) (hnone : ∀ y, a ≤ y → y < b → m.get y < 0) :
    received m a b = [] := by
  by_cases h : b ≤ a
  · exact received_empty m a b h
  · rw [received_skip m a b b (by omega) (Int.le_refl _) hnone]
    exact received_empty m b b (Int.le_refl _)

theorem received_cons (m : ArrivalMap) (a e x t : Int) (tail : List (Int × Int))
    (h : received m a e = (x, t) :: tail) : a ≤ x ∧ x < e ∧ 0 ≤ t ∧ tail = received m (x + 1) e := by
  have key : ∀ (n : Nat) (a : Int), e - a = n → received m a e = (x, t) :: tail →
      a ≤ x ∧ x < e ∧ 0 ≤ t ∧ tail = received m (x + 1) e := by
    intro n
    induction n with
    | zero => intro a hn h; rw [received_empty m a e (by omega)] at h; simp at h
    | succ n ih =>
      intro a hn h
      rw [received_step m a e (by omega)] at h
      by_cases hg : m.get a ≥ 0
      · simp only [hg, if_true, List.singleton_append, List.cons.injEq, Prod.mk.injEq] at h
        obtain ⟨⟨h1, h2⟩, h3⟩ := h
        subst h1
        exact ⟨Int.le_refl _, by omega, by omega, h3.symm⟩
      · simp only [hg, if_false, List.nil_append] at h
        obtain ⟨i1, i2, i3, i4⟩ := ih (a + 1) (by omega) h
        exact ⟨by omega, i2, i3, i4⟩
  by_cases hae : e ≤ a
  · rw [received_empty m a e hae] at h; simp at h
  · exact key (e - a).toNat a (by omega) h

/-- the number after the last consumed one (`nextSequenceNumber`). -/
def lastNext (next : Int) (c : List (Int × Int)) : Int :=
  match c.getLast? with
  | none => next
  | some p => p.1 + 1

theorem lastNext_cons (next : Int) (x t : Int) (c : List (Int × Int)) :
    lastNext next ((x, t) :: c) = lastNext (x + 1) c := by
  unfold lastNext
  cases c with
  | nil => simp
  | cons p c =>
    rw [List.getLast?_cons_cons]
    cases h : (p :: c).getLast? with
    | none => simp at h
    | some q => rfl

theorem lastNext_append (cur : Int) (a b : List (Int × Int)) :
    lastNext cur (a ++ b) = lastNext (lastNext cur a) b := by
  induction a generalizing cur with
  | nil => simp [lastNext]
  | cons p a ih => obtain ⟨x, t⟩ := p; simp only [List.cons_append, lastNext_cons, ih]

/-- a prefix `pre` of the received numbers from `a` stays inside `[a, e)`, and what follows it is the
received numbers from the number after its last. -/
theorem received_split (m : ArrivalMap) (e : Int) (pre post : List (Int × Int)) (a : Int) (hae : a ≤ e)
    (h : received m a e = pre ++ post) :
    a ≤ lastNext a pre ∧ lastNext a pre ≤ e ∧ post = received m (lastNext a pre) e := by
  induction pre generalizing a with
  | nil => exact ⟨Int.le_refl _, hae, h.symm⟩
  | cons p pre ih =>
    obtain ⟨x, t⟩ := p
    obtain ⟨h1, h2, _, h4⟩ := received_cons m a e x t (pre ++ post) h
    obtain ⟨i1, i2, i3⟩ := ih (x + 1) (by omega) h4.symm
    rw [lastNext_cons]
    exact ⟨by omega, i2, i3⟩

theorem findLoop_spec (m : ArrivalMap) (fuel : Nat) (seq : Int) (hfuel : m.endSN - seq ≤ fuel) :
    match findLoop m fuel seq with
    | none => ∀ x, seq ≤ x → x < m.endSN → m.get x < 0
    | some (x, t) => seq ≤ x ∧ x < m.endSN ∧ t = m.get x ∧ 0 ≤ t ∧ ∀ y, seq ≤ y → y < x → m.get y < 0 := by
  induction fuel generalizing seq with
  | zero => simp only [findLoop]; intro x h1 h2; omega
  | succ fuel ih =>
    unfold findLoop
    by_cases hlt : seq < m.endSN
    · simp only [hlt, if_true]
      by_cases hg : m.get seq ≥ 0
      · simp only [hg, if_true]
        exact ⟨Int.le_refl _, hlt, trivial, trivial, fun y h1 h2 => by omega⟩
      · simp only [hg, if_false]
        have := ih (seq + 1) (by omega)
        split at this
        · intro x h1 h2
          by_cases hx : x = seq
          · rw [hx]; omega
          · exact this x (by omega) h2
        · obtain ⟨a1, a2, a3, a4, a5⟩ := this
          refine ⟨by omega, a2, a3, a4, ?_⟩
          intro y h1 h2
          by_cases hy : y = seq
          · rw [hy]; omega
          · exact a5 y (by omega) h2
    · simp only [hlt, if_false]
      intro x h1 h2; omega

theorem findNext_received (m : ArrivalMap) (seq e : Int) (h1 : m.beginSN ≤ seq) (h2 : seq ≤ m.endSN)
    (he : e ≤ m.endSN) :
    match m.findNext seq with
    | none => received m seq e = []
    | some (x, t) => 0 ≤ t ∧
        (if x ≥ e then received m seq e = [] else received m seq e = (x, t) :: received m (x + 1) e) := by
  simp only [findNext, clamp_of_mem m seq h1 h2]
  have := findLoop_spec m (m.endSN - seq).toNat seq (by omega)
  split at this
  · exact received_none m seq e fun y a b => this y a (by omega)
  · rename_i x t _
    obtain ⟨a1, a2, a3, a4, a5⟩ := this
    refine ⟨a4, ?_⟩
    split
    · exact received_none m seq e fun y a b => a5 y a (by omega)
    · rw [received_skip m seq x e a1 (by omega) a5, received_step m x e (by omega), if_pos (a3 ▸ a4), ← a3]
      rfl

/-- an arrival as `addReceived` sees it (16-bit sequence number). -/
def wire (p : Int × Int) : Nat × Int := ((p.1 % 65536).toNat, p.2)

/-- feedback `f` has base `B` (unwrapped), holds one status for every number in `[B, cur)` and the
received ones among them are exactly `log`. -/
structure Cov (f : Feedback) (B cur : Int) (log : List (Int × Int)) : Prop where
  built : BuiltLog f (log.map wire)
  base : f.base = (B % 65536).toNat
  count : (f.count : Int) = cur - B
  le : B ≤ cur
  ref : 0 ≤ f.ref64

/-- the not-received statuses `addReceived` inserts before the number `x` are exactly the gap
between the numbers covered so far and `x`. -/
theorem sub16_gap {B cur x : Int} {base cnt next : Nat} (hb : base = (B % 65536).toNat)
    (hc : (cnt : Int) = cur - B) (hn : next = (base + cnt) % 65536) (hx : cur ≤ x) (hB : x - B < 65536) :
    (sub16 (x % 65536).toNat next : Int) = x - cur := by
  have hr := sub16_reach (seq := (x % 65536).toNat) (by omega) hn
  have hlt : sub16 (x % 65536).toNat next < 65536 := Nat.mod_lt _ (by decide)
  generalize sub16 (x % 65536).toNat next = n at hr hlt ⊢
  subst hb
  clear hn
  -- `cur + n` and `x` are congruent modulo 2^16 and less than 2^16 apart
  have h1 : ((B % 65536).toNat : Int) = B % 65536 := Int.toNat_of_nonneg (Int.emod_nonneg _ (by decide))
  have h2 : ((x % 65536).toNat : Int) = x % 65536 := Int.toNat_of_nonneg (Int.emod_nonneg _ (by decide))
  have h3 : (((B % 65536).toNat + cnt + n : Nat) : Int) % 65536 = x % 65536 := by
    rw [← h2, ← hr]; simp
  omega

theorem cov_add {f f' : Feedback} {B cur : Int} {log : List (Int × Int)} (h : Cov f B cur log)
    {x t : Int} (hx : cur ≤ x) (hB : x - B < 65536)
    (hadd : f.addReceived (x % 65536).toNat t = some f') :
    Cov f' B (x + 1) (log ++ [(x, t)]) ∧ f'.fbCount = f.fbCount ∧ f'.sender = f.sender ∧ f'.media = f.media := by
  obtain ⟨syms, hl⟩ := builtLog_inv h.built
  have hbuilt := BuiltLog.add _ t h.built (by omega) hadd
  obtain ⟨n, sym, q, hn, _, _, _, _, _, rfl⟩ := addReceived_some hadd
  have hgap := sub16_gap h.base h.count (hl.inv.count ▸ hl.next) hx hB
  rw [← hn] at hgap
  refine ⟨⟨by rw [List.map_append]; exact hbuilt, h.base, ?_, by have := h.le; omega, h.ref⟩, rfl, rfl, rfl⟩
  show ((f.count + n + 1 : Nat) : Int) = _
  have := h.count
  omega

/-- the first packet of a fresh feedback always fits (arrival times of received packets are ≥ 0). -/
theorem first_add_ok (s m c b seq : Nat) (t : Int) (ht : 0 ≤ t) :
    ((newFeedback s m c).setBase b t).addReceived seq t ≠ none := by
  intro h
  rw [addReceived_none_iff] at h
  have hl : ((newFeedback s m c).setBase b t).lastUS = t / 64000 * 64000 := by
    simp only [newFeedback, Feedback.setBase]
    rw [Int.tdiv_eq_ediv_of_nonneg ht]
  have hlen : ((newFeedback s m c).setBase b t).len = 0 := rfl
  rw [hl, hlen] at h
  have hd : 0 ≤ t - t / 64000 * 64000 ∧ t - t / 64000 * 64000 < 64000 := by omega
  have hq : delta250 (t - t / 64000 * 64000) = (t - t / 64000 * 64000 + 125) / 250 := by
    unfold delta250
    simp only [show t - t / 64000 * 64000 ≥ 0 from hd.1, if_true]
    rw [Int.tdiv_eq_ediv_of_nonneg (by omega)]
  rw [hq] at h
  unfold maxDeltaBytes at h
  omega


/-- the feedback `maybeBuildFeedbackPacket` creates for the first received number `x0`. -/
def freshFb (r : Recorder) (b x0 t0 : Int) (cnt : Nat) : Feedback :=
  (newFeedback r.sender r.media cnt).setBase ((max b (x0 - maxMissingSequenceNumbers)) % 65536).toNat t0

/-- the loop of `maybeBuildFeedbackPacket` as a recursion over the received numbers ahead. -/
def mbResult (r : Recorder) (b : Int) : Option Feedback → Int → Nat → List (Int × Int) → LoopEnd
  | fb, next, cnt, [] => .done fb next cnt
  | none, _, cnt, (x, t) :: rest =>
    match (freshFb r b x t cnt).addReceived (x % 65536).toNat t with
    | none => .abort x ((cnt + 1) % 256)
    | some f => mbResult r b (some f) (x + 1) ((cnt + 1) % 256) rest
  | some f, next, cnt, (x, t) :: rest =>
    match f.addReceived (x % 65536).toNat t with
    | none => .done (some f) next cnt
    | some f' => mbResult r b (some f') (x + 1) cnt rest

theorem mbResult_nil (r : Recorder) (b : Int) (fb : Option Feedback) (next : Int) (cnt : Nat) :
    mbResult r b fb next cnt [] = .done fb next cnt := by
  cases fb <;> rfl

theorem mbLoop_eq (r : Recorder) (b e : Int) (he : e ≤ r.map.endSN) (fuel : Nat) (seq : Int)
    (fb : Option Feedback) (next : Int) (cnt : Nat) (h1 : r.map.beginSN ≤ seq) (h2 : seq ≤ r.map.endSN)
    (hfuel : e - seq ≤ fuel) :
    mbLoop r b e fuel seq fb next cnt = mbResult r b fb next cnt (received r.map seq e) := by
  induction fuel generalizing seq fb next cnt with
  | zero => rw [received_empty r.map seq e (by omega), mbResult_nil]; rfl
  | succ fuel ih =>
    unfold mbLoop
    by_cases hlt : seq < e
    · rw [if_pos hlt]
      have hfr := findNext_received r.map seq e h1 h2 he
      split at hfr
      · rename_i heq
        rw [heq, hfr, mbResult_nil]
      · rename_i x t heq
        obtain ⟨a4, a5⟩ := hfr
        rw [heq]
        by_cases hxe : x ≥ e
        · simp only [if_pos hxe] at a5 ⊢
          rw [a5, mbResult_nil]
        · simp only [if_neg hxe] at a5 ⊢
          obtain ⟨c1, c2, _⟩ := received_cons _ _ _ _ _ _ a5
          rw [a5]
          cases fb with
          | none =>
            simp only [mbResult, freshFb]
            split <;> rename_i h <;> simp only [h]
            exact ih (x + 1) _ _ _ (by omega) (by omega) (by omega)
          | some f =>
            simp only [mbResult]
            split <;> rename_i h <;> simp only [h]
            exact ih (x + 1) _ _ _ (by omega) (by omega) (by omega)
    · rw [if_neg hlt, received_empty r.map seq e (by omega), mbResult_nil]

/-- once a feedback exists the loop adds numbers until one does not fit: the feedback then covers
the consumed prefix `c`. -/
theorem mbResult_some (r : Recorder) (b e : Int) {f : Feedback} {B cur : Int} {log : List (Int × Int)}
    (h : Cov f B cur log) (l : List (Int × Int)) (hl : received r.map cur e = l) (hB : e - B ≤ 65536) (cnt : Nat) :
    ∃ f' c rest, mbResult r b (some f) cur cnt l = .done (some f') (lastNext cur c) cnt ∧ c ++ rest = l ∧
      Cov f' B (lastNext cur c) (log ++ c) ∧
      f'.fbCount = f.fbCount ∧ f'.sender = f.sender ∧ f'.media = f.media := by
  induction l generalizing f cur log with
  | nil => exact ⟨f, [], [], rfl, rfl, by simpa [lastNext] using h, rfl, rfl, rfl⟩
  | cons p l ih =>
    obtain ⟨x, t⟩ := p
    obtain ⟨a1, a2, _, a4⟩ := received_cons r.map cur e x t l hl
    simp only [mbResult]
    cases hadd : f.addReceived (x % 65536).toNat t with
    | none => exact ⟨f, [], _, rfl, rfl, by simpa [lastNext] using h, rfl, rfl, rfl⟩
    | some f1 =>
      obtain ⟨hc, m1, m2, m3⟩ := cov_add h a1 (by omega) hadd
      obtain ⟨f', c, rest, e1, e2, e3, i1, i2, i3⟩ := ih hc a4.symm
      exact ⟨f', (x, t) :: c, rest, by rw [lastNext_cons]; exact e1, by rw [← e2]; rfl,
        by rw [lastNext_cons]; simpa using e3, i1.trans m1, i2.trans m2, i3.trans m3⟩

/-- the packets of one build as consecutive groups of the received numbers: each group starts at
or after the cursor, its base is `max cursor (first − 0x7FFE)`, it covers every number from its base
to its last received number, and the feedback counter goes up by one per packet. -/
def Covers (sender media : Nat) : Int → Nat → List (Feedback × List (Int × Int)) → Prop
  | _, _, [] => True
  | cur, cnt, (f, l) :: rest =>
    ∃ x0 t0 l', l = (x0, t0) :: l' ∧ cur ≤ x0 ∧
      Cov f (max cur (x0 - 32766)) (lastNext cur l) l ∧
      lastNext cur l - max cur (x0 - 32766) ≤ 32768 ∧
      f.fbCount = cnt ∧ f.sender = sender ∧ f.media = media ∧
      Covers sender media (lastNext cur l) ((cnt + 1) % 256) rest

theorem fresh_cov (r : Recorder) (cur x0 t0 : Int) (cnt : Nat) (hx : cur ≤ x0) (ht : 0 ≤ t0) :
    ∃ fb2, (freshFb r cur x0 t0 cnt).addReceived (x0 % 65536).toNat t0 = some fb2 ∧
      Cov fb2 (max cur (x0 - 32766)) (x0 + 1) [(x0, t0)] ∧
      fb2.fbCount = cnt ∧ fb2.sender = r.sender ∧ fb2.media = r.media := by
  have hne := first_add_ok r.sender r.media cnt ((max cur (x0 - maxMissingSequenceNumbers)) % 65536).toNat
    (x0 % 65536).toNat t0 ht
  cases hadd : (freshFb r cur x0 t0 cnt).addReceived (x0 % 65536).toNat t0 with
  | none => exact absurd hadd hne
  | some fb2 =>
    have h0 : Cov (freshFb r cur x0 t0 cnt) (max cur (x0 - 32766)) (max cur (x0 - 32766)) [] := by
      refine ⟨?_, rfl, ?_, Int.le_refl _, ?_⟩
      · exact BuiltLog.base _ _ _ _ _ (by omega)
      · simp [freshFb, newFeedback, Feedback.setBase]
      · simp only [freshFb, newFeedback, Feedback.setBase]
        rw [Int.tdiv_eq_ediv_of_nonneg ht]; omega
    obtain ⟨hc, m1, m2, m3⟩ := cov_add h0 (x := x0) (t := t0) (by omega) (by omega) hadd
    exact ⟨fb2, rfl, by simpa using hc, by rw [m1]; rfl, by rw [m2]; rfl, by rw [m3]; rfl⟩


theorem maybeBuild_eq (r : Recorder) (s : Int) (h1 : r.map.beginSN ≤ s) (h2 : s ≤ r.map.endSN) :
    r.maybeBuild s r.map.endSN =
      match mbResult r s none s r.fbCnt (received r.map s r.map.endSN) with
      | .done fb next cnt => ({ r with start := some next, fbCnt := cnt }, fb)
      | .abort seq cnt => ({ r with start := some seq, fbCnt := cnt }, none) := by
  simp only [Recorder.maybeBuild, ArrivalMap.clamp_of_mem r.map s h1 h2,
    ArrivalMap.clamp_of_mem r.map r.map.endSN (by omega) (Int.le_refl _)]
  rw [mbLoop_eq r s r.map.endSN (Int.le_refl _) _ s none s r.fbCnt h1 h2 (by omega)]
  rfl

/-- one `maybeBuildFeedbackPacket` from the cursor `s` with `x0` the first received number ahead:
it returns a feedback covering `x0` and a further prefix `c` of the received numbers, and leaves
the cursor after the last of them. -/
theorem maybeBuild_cons (r : Recorder) (hwf : ArrivalMap.WF r.map) (s : Int) (h1 : r.map.beginSN ≤ s)
    (h2 : s ≤ r.map.endSN) {x0 t0 : Int} {rest : List (Int × Int)}
    (hL : received r.map s r.map.endSN = (x0, t0) :: rest) :
    ∃ f c, r.maybeBuild s r.map.endSN =
        ({ r with start := some (lastNext (x0 + 1) c), fbCnt := (r.fbCnt + 1) % 256 }, some f) ∧
      rest = c ++ received r.map (lastNext (x0 + 1) c) r.map.endSN ∧
      s ≤ x0 ∧ x0 < lastNext (x0 + 1) c ∧ lastNext (x0 + 1) c ≤ r.map.endSN ∧
      Cov f (max s (x0 - 32766)) (lastNext (x0 + 1) c) ((x0, t0) :: c) ∧
      f.fbCount = r.fbCnt ∧ f.sender = r.sender ∧ f.media = r.media := by
  obtain ⟨a1, a2, a3, a4⟩ := received_cons r.map s r.map.endSN x0 t0 rest hL
  obtain ⟨fb2, hadd, hcov, m1, m2, m3⟩ := fresh_cov r s x0 t0 r.fbCnt a1 a3
  have hw := hwf.window
  obtain ⟨f, c, rest', e1, e2, e3, i1, i2, i3⟩ :=
    mbResult_some r s r.map.endSN hcov rest a4.symm (by omega) ((r.fbCnt + 1) % 256)
  obtain ⟨b1, b2, b3⟩ := received_split r.map r.map.endSN c rest' (x0 + 1) (by omega) (by rw [← a4, e2])
  refine ⟨f, c, ?_, by rw [← b3, e2], a1, by omega, b2, e3, i1.trans m1, i2.trans m2, i3.trans m3⟩
  rw [maybeBuild_eq r s h1 h2, hL]
  simp only [mbResult, hadd, e1]

theorem buildLoop_spec (fuel : Nat) (r : Recorder) (acc : Array Packet) (hwf : ArrivalMap.WF r.map)
    (hcnt : r.fbCnt < 256)
    (s : Int) (hs : r.start = some s) (h1 : r.map.beginSN ≤ s) (h2 : s ≤ r.map.endSN)
    (hfuel : r.map.endSN - s < fuel) :
    ∃ groups : List (Feedback × List (Int × Int)),
      (buildLoop r.map.endSN fuel r acc).2.toList = acc.toList ++ groups.map (fun g => g.1.getRTCP) ∧
      (groups.map (·.2)).flatten = received r.map s r.map.endSN ∧
      Covers r.sender r.media s r.fbCnt groups ∧
      (buildLoop r.map.endSN fuel r acc).1 =
        { r with start := some (lastNext s (received r.map s r.map.endSN))
                 fbCnt := (r.fbCnt + groups.length) % 256 } := by
  induction fuel generalizing r acc s with
  | zero => omega
  | succ fuel ih =>
    unfold buildLoop
    simp only [hs]
    by_cases hlt : s < r.map.endSN
    · simp only [if_pos hlt]
      cases hL : received r.map s r.map.endSN with
      | nil =>
        rw [maybeBuild_eq r s h1 h2, hL, mbResult_nil]
        exact ⟨[], by simp, rfl, trivial, by simp [lastNext, Nat.mod_eq_of_lt hcnt]⟩
      | cons p rest =>
        obtain ⟨x0, t0⟩ := p
        obtain ⟨f, c, hmb, hrest, a1, b1, b2, hcov, m1, m2, m3⟩ := maybeBuild_cons r hwf s h1 h2 hL
        have hw := hwf.window
        obtain ⟨groups, g1, g2, g3, g4⟩ :=
          ih ({ r with start := some (lastNext (x0 + 1) c), fbCnt := (r.fbCnt + 1) % 256 } : Recorder)
            (acc.push f.getRTCP) hwf (Nat.mod_lt _ (by decide))
            (lastNext (x0 + 1) c) rfl (by show r.map.beginSN ≤ _; omega) b2
            (by show r.map.endSN - _ < (fuel : Int); omega)
        rw [hmb]
        refine ⟨(f, (x0, t0) :: c) :: groups, by rw [g1]; simp, ?_, ?_, ?_⟩
        · rw [List.map_cons, List.flatten_cons, g2, hrest]; rfl
        · exact ⟨x0, t0, c, rfl, a1, by rw [lastNext_cons]; exact hcov, by rw [lastNext_cons]; omega,
            m1, m2, m3, by rw [lastNext_cons]; exact g3⟩
        · rw [g4, hrest, ← List.cons_append, lastNext_append, lastNext_cons, List.length_cons]
          rw [Nat.mod_add_mod, Nat.add_assoc, Nat.add_comm 1]
    · rw [if_neg hlt, received_empty r.map s r.map.endSN (by omega)]
      exact ⟨[], by simp, rfl, trivial, by simp [lastNext, Nat.mod_eq_of_lt hcnt, ← hs]⟩

/-- reachable recorder states: nothing recorded yet, or an allocated well-formed map with the
cursor inside `[begin, end]`. -/
structure RecInv (r : Recorder) : Prop where
  cnt : r.fbCnt < 256
  st : (r.map.cap = 0 ∧ r.map.beginSN = r.map.endSN ∧ r.start = none) ∨
       (ArrivalMap.WF r.map ∧ ∃ s, r.start = some s ∧ r.map.beginSN ≤ s ∧ s ≤ r.map.endSN)

theorem recInv_new (sender : Nat) : RecInv (newRecorder sender) :=
  ⟨by simp [newRecorder], Or.inl ⟨rfl, rfl, rfl⟩⟩

theorem build_spec (r : Recorder) (h : RecInv r) :
    (r.start = none → r.build = (r, [])) ∧
    (∀ s, r.start = some s →
      ∃ groups : List (Feedback × List (Int × Int)),
        r.build.2 = groups.map (fun g => g.1.getRTCP) ∧
        (groups.map (·.2)).flatten = received r.map s r.map.endSN ∧
        Covers r.sender r.media s r.fbCnt groups ∧
        r.build.1 = { r with
          start := some (lastNext s (received r.map s r.map.endSN))
          fbCnt := (r.fbCnt + groups.length) % 256
          held := 0 } ∧
        RecInv r.build.1) := by
  constructor
  · intro hn; simp [Recorder.build, hn]
  · intro s hs
    rcases h.st with ⟨_, _, hn⟩ | ⟨hwf, s', hs', b1, b2⟩
    · rw [hn] at hs; cases hs
    · rw [hs] at hs'; cases hs'
      obtain ⟨groups, g1, g2, g3, g4⟩ :=
        buildLoop_spec ((r.map.endSN - s).toNat + 1) r #[] hwf h.cnt s hs b1 b2 (by omega)
      have hb : r.build.1 = { r with
          start := some (lastNext s (received r.map s r.map.endSN))
          fbCnt := (r.fbCnt + groups.length) % 256
          held := 0 } := by
        simp only [Recorder.build, hs, g4]
      refine ⟨groups, by simp only [Recorder.build, hs]; simpa using g1, g2, g3, hb, ?_⟩
      obtain ⟨c1, c2, _⟩ := received_split r.map r.map.endSN _ [] s b2 (List.append_nil _).symm
      rw [hb]
      exact ⟨Nat.mod_lt _ (by decide), Or.inr ⟨hwf, _, rfl, by show r.map.beginSN ≤ _; omega, c2⟩⟩

theorem covers_mem {sender media : Nat} {cur : Int} {cnt : Nat} {groups : List (Feedback × List (Int × Int))}
    (h : Covers sender media cur cnt groups) :
    ∀ g ∈ groups, ∃ B c : Int, Cov g.1 B c g.2 ∧ c - B ≤ 32768 ∧ g.2 ≠ [] ∧ g.1.sender = sender ∧ g.1.media = media := by
  induction groups generalizing cur cnt with
  | nil => intro g hg; simp at hg
  | cons g0 groups ih =>
    obtain ⟨f, l⟩ := g0
    obtain ⟨x0, t0, l', hl, _, hc, hb, _, hs, hm, hrest⟩ := h
    intro g hg
    rcases List.mem_cons.mp hg with hg | hg
    · rw [hg]; exact ⟨_, _, hc, hb, by rw [hl]; simp, hs, hm⟩
    · exact ih hrest g hg

end Interceptor.Twcc
