/-
`fractionLost` (Model/ReceiverReport): the float expression
`uint8(float64(lost*256) / float64(total))` is exactly `⌊256·lost/total⌋` for `lost < total`,
`lost < 2^24` (the receiver report has lost < total ≤ 65535).  The float part is general: for integers
below 2^53 the binary64 quotient stays in the unit interval of the exact one
(Proofs/F64Round `rne_div_bracket`).
-/
import Interceptor.Model.ReceiverReport
import Interceptor.Proofs.F64Round
namespace Interceptor.ReceiverReport
open Interceptor Interceptor.F64

/-- ★ `fractionLost l e` is `⌊256·l/e⌋`: `l * 256` does not wrap in uint32 for `l < 2^24` (the report clamps it to
24 bits), both conversions to float64 are exact, and the rounded quotient truncates to the integer quotient
(`rne_div_bracket`). -/
theorem fractionLost_eq_floor (l e : Nat) (hl : l < e) (hl24 : l < 16777216) (he : e < 2 ^ 53) :
    fractionLost l e = l * 256 / e := by
  have hlm : l * 256 % M32 = l * 256 := Nat.mod_eq_of_lt (by simp only [M32]; omega)
  unfold fractionLost
  rw [if_neg (by omega), hlm, ofInt_exact _ (Int.natCast_nonneg _) (by omega),
    ofInt_exact _ (Int.natCast_nonneg _) (by omega)]
  obtain ⟨h1, h2⟩ := rne_div_bracket ((l * 256 : Nat) : Int) (e : Int) (Int.natCast_nonneg _)
    (by omega) (by omega) (by omega)
  rw [← Int.natCast_ediv, Int.cast_natCast] at h1 h2
  exact toUint8_of_bracket _ _ ((Nat.div_lt_iff_lt_mul (by omega)).mpr (by omega)) h1 h2

end Interceptor.ReceiverReport
