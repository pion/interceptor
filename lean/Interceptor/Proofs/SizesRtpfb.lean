/- C12: rtpfb history — the packets map holds only packets sent and not yet reported. -/
import Interceptor.Proofs.RtpfbHistory
namespace Interceptor.Rtpfb

def keys (h : Hist) : List Nat := h.packets.map (·.1)

theorem sorted_length (l : List Nat) : ∀ (lo hi : Nat), l.Pairwise (· < ·) → (∀ x ∈ l, lo ≤ x ∧ x < hi) →
    l.length ≤ hi - lo := by
  induction l with
  | nil => intro lo hi _ _; simp
  | cons x xs ih =>
    intro lo hi hp hb
    have hx := hb x (by simp)
    have hp' := List.pairwise_cons.mp hp
    have := ih (x + 1) hi hp'.2 (fun y hy => ⟨hp'.1 y hy, (hb y (by simp [hy])).2⟩)
    simp only [List.length_cons]; omega

/-- the size invariant of the history: the keys of `packets` are strictly increasing and lie in
`[nextReport, counter)`, so there are at most `counter − nextReport` of them (`inv2_length`). -/
structure Inv2 (h : Hist) : Prop where
  wf : WF h
  sorted : (keys h).Pairwise (· < ·)
  bnd : ∀ k ∈ keys h, h.nextReport ≤ k ∧ k < h.counter
  le : h.nextReport ≤ h.counter

theorem inv2_init : Inv2 {} := ⟨wf_init, by simp [keys], by simp [keys], Nat.le_refl _⟩

theorem inv2_length (h : Hist) (hi : Inv2 h) : h.packets.length ≤ h.counter - h.nextReport := by
  have := sorted_length (keys h) h.nextReport h.counter hi.sorted hi.bnd
  simpa [keys] using this

theorem ainsert_fresh {ν} (m : List (Nat × ν)) (k : Nat) (v : ν) (hf : ∀ e ∈ m, e.1 ≠ k) :
    ainsert m k v = m ++ [(k, v)] := by
  unfold ainsert
  have : m.any (·.1 == k) = false := by
    rw [List.any_eq_false]; intro e he; simpa using hf e he
  rw [this]; rfl

theorem ainsert_keys {ν} (m : List (Nat × ν)) (k : Nat) (v : ν) (hm : ∃ e ∈ m, e.1 = k) :
    (ainsert m k v).map (·.1) = m.map (·.1) := by
  unfold ainsert
  have : m.any (·.1 == k) = true := by
    rw [List.any_eq_true]; obtain ⟨e, he, hk⟩ := hm; exact ⟨e, he, by simpa using hk⟩
  rw [this]
  simp only [if_true, List.map_map]
  apply List.map_congr_left
  intro e _
  simp only [Function.comp]
  split
  · rename_i hk; simpa using (beq_iff_eq.mp hk).symm
  · rfl

theorem inv2_add (h : Hist) (hi : Inv2 h) (ssrc rtpSeq : Nat) (isTwcc : Bool) (twSeq : Nat) (size dep : Int) :
    Inv2 (addOutgoing h ssrc rtpSeq isTwcc twSeq size dep) ∧
    (addOutgoing h ssrc rtpSeq isTwcc twSeq size dep).packets.length = h.packets.length + 1 := by
  have hf : ∀ e ∈ h.packets, e.1 ≠ h.counter := by
    intro e he
    have := (hi.bnd e.1 (List.mem_map_of_mem he)).2
    omega
  have hk : (addOutgoing h ssrc rtpSeq isTwcc twSeq size dep).packets =
      h.packets ++ [(h.counter, ⟨ssrc, h.counter, rtpSeq, isTwcc, twSeq, size, false, dep, 0, 0⟩)] := by
    simp only [addOutgoing]; exact ainsert_fresh _ _ _ hf
  refine ⟨⟨(wf_add h hi.wf ssrc rtpSeq isTwcc twSeq size dep).1, ?_, ?_, ?_⟩, ?_⟩
  · simp only [keys, hk, List.map_append, List.map_cons, List.map_nil]
    rw [List.pairwise_append]
    refine ⟨hi.sorted, by simp, ?_⟩
    intro a ha b hb
    simp only [List.mem_singleton] at hb
    subst hb
    exact (hi.bnd a ha).2
  · intro k hk'
    simp only [keys, hk, List.map_append, List.map_cons, List.map_nil, List.mem_append, List.mem_singleton] at hk'
    have e1 : (addOutgoing h ssrc rtpSeq isTwcc twSeq size dep).nextReport = h.nextReport := rfl
    have e2 : (addOutgoing h ssrc rtpSeq isTwcc twSeq size dep).counter = h.counter + 1 := rfl
    rw [e1, e2]
    rcases hk' with h1 | h1
    · have := hi.bnd k h1; omega
    · have := hi.le; omega
  · have e1 : (addOutgoing h ssrc rtpSeq isTwcc twSeq size dep).nextReport = h.nextReport := rfl
    have e2 : (addOutgoing h ssrc rtpSeq isTwcc twSeq size dep).counter = h.counter + 1 := rfl
    rw [e1, e2]; have := hi.le; omega
  · rw [hk]; simp

theorem inv2_onFeedback (h : Hist) (hi : Inv2 h) (ts : Int) (c : Nat) (a : RAck) :
    Inv2 (onFeedback h ts c a).1 := by
  have hw := (wf_onFeedback h hi.wf ts c a).1
  unfold onFeedback at hw ⊢
  cases hl : alookup h.packets c with
  | none => exact hi
  | some p =>
    rw [hl] at hw
    have hm : ∃ e ∈ h.packets, e.1 = c := ⟨(c, p), alookup_mem _ _ _ hl, rfl⟩
    have hk : keys { h with packets := ainsert h.packets c { p with arrived := a.arrived, arr := a.arrival, ecn := a.ecn },
                            acked := h.acked || a.arrived,
                            highestAcked := if a.arrived ∧ h.highestAcked < p.ctr then p.ctr else h.highestAcked } = keys h := by
      simp only [keys]; exact ainsert_keys _ _ _ hm
    exact ⟨hw, by rw [hk]; exact hi.sorted, by rw [hk]; exact hi.bnd, hi.le⟩

/-- `h'` is `h` with some packets deleted, in the form `Inv2` needs: the keys are a SUBLIST (order kept, for
`sorted`) and the counter is the same.  `PSub` of RtpfbHistory only has membership of the packets and the two
cursors, which is what the report order needs; neither gives the other. -/
structure Sub (h' h : Hist) : Prop where
  ks : (keys h').Sublist (keys h)
  ctr : h'.counter = h.counter

theorem sub_refl (h : Hist) : Sub h h := ⟨List.Sublist.refl _, rfl⟩

theorem sub_delete (h : Hist) (p : PR) : Sub (delete h p) h ∧ ∀ k ∈ keys (delete h p), k ≠ p.ctr := by
  refine ⟨⟨?_, rfl⟩, ?_⟩
  · simp only [keys, delete, aerase]
    exact (List.filter_sublist).map _
  · intro k hk
    simp only [keys, delete, aerase, List.mem_map, List.mem_filter] at hk
    obtain ⟨e, ⟨_, h2⟩, rfl⟩ := hk
    simpa using h2

theorem sub_trans {a b c : Hist} (h1 : Sub a b) (h2 : Sub b c) : Sub a c :=
  ⟨h1.ks.trans h2.ks, h1.ctr.trans h2.ctr⟩

theorem reportLoop_sub (is : List Nat) : ∀ (h : Hist) (acc : List PR), WF h →
    Sub (reportLoop is h acc).1 h ∧ (∀ k ∈ keys (reportLoop is h acc).1, k ∉ is) ∧
    ((reportLoop is h acc).1.nextReport = h.nextReport ∨
      ∃ i, i ∈ is ∧ i ∈ keys h ∧ (reportLoop is h acc).1.nextReport = i + 1) := by
  induction is with
  | nil => intro h acc _; exact ⟨sub_refl h, by simp, Or.inl rfl⟩
  | cons i is ih =>
    intro h acc hw
    cases hl : alookup h.packets i with
    | none =>
      rw [reportLoop_none is acc hl]
      obtain ⟨s1, s2, s3⟩ := ih h acc hw
      refine ⟨s1, ?_, ?_⟩
      · intro k hk hmem
        rcases List.mem_cons.mp hmem with rfl | hm
        · -- k = i is a key of h: contradiction with the failed lookup
          have hk' : k ∈ keys h := s1.ks.subset hk
          simp only [keys, List.mem_map] at hk'
          obtain ⟨e, he, rfl⟩ := hk'
          unfold alookup at hl
          simp only [Option.map_eq_none_iff] at hl
          have := List.find?_eq_none.mp hl e he
          simp at this
        · exact s2 k hk hm
      · rcases s3 with h1 | ⟨j, hj, hjk, h2⟩
        · exact Or.inl h1
        · exact Or.inr ⟨j, List.mem_cons_of_mem _ hj, hjk, h2⟩
    | some p =>
      have hp : p.ctr = i := hw _ (alookup_mem _ _ _ hl)
      have hik : i ∈ keys h := by
        simp only [keys, List.mem_map]; exact ⟨(i, p), alookup_mem _ _ _ hl, rfl⟩
      obtain ⟨d1, d2⟩ := sub_delete h p
      -- the loop goes on from `delete h p`, its cursor either left alone or set to `i + 1`
      obtain ⟨h2, e, hs, _, hk2, hc2, hn2⟩ := reportLoop_some is acc hl
      rw [e]
      have hk2 : keys h2 = keys (delete h p) := by unfold keys; rw [hk2]
      obtain ⟨s1, s2, s3⟩ := ih h2 (p :: acc) (hs.wf hw)
      have sd : Sub h2 h := ⟨hk2 ▸ d1.ks, hc2⟩
      refine ⟨sub_trans s1 sd, ?_, ?_⟩
      · intro k hk hmem
        rcases List.mem_cons.mp hmem with rfl | hm
        · exact d2 k (hk2 ▸ s1.ks.subset hk) hp.symm
        · exact s2 k hk hm
      · rcases s3 with h1 | ⟨j, hj, hjk, h3⟩
        · rcases hn2 with hn2 | hn2
          · exact Or.inl (h1.trans hn2)
          · exact Or.inr ⟨i, List.mem_cons_self, hik, h1.trans (hp ▸ hn2)⟩
        · exact Or.inr ⟨j, List.mem_cons_of_mem _ hj, sd.ks.subset hjk, h3⟩

theorem cleanFold_sub (l : List Nat) : ∀ (h : Hist), Sub (l.foldl cleanStep h) h ∧ (l.foldl cleanStep h).nextReport = h.nextReport := by
  induction l with
  | nil => intro h; exact ⟨sub_refl h, rfl⟩
  | cons i l ih =>
    intro h
    simp only [List.foldl_cons]
    unfold cleanStep
    cases alookup h.packets i with
    | none => exact ih h
    | some p =>
      obtain ⟨a, b⟩ := ih (delete h p)
      exact ⟨sub_trans a (sub_delete h p).1, b⟩

theorem cleanBefore_sub (h : Hist) (c : Nat) : Sub (cleanBefore h c) h ∧ (cleanBefore h c).nextReport = h.nextReport := by
  obtain ⟨a, b⟩ := cleanFold_sub (List.range' h.cleanUntil (c - h.cleanUntil)) h
  exact ⟨⟨a.ks, a.ctr⟩, b⟩

theorem inv2_buildReport (h : Hist) (hi : Inv2 h) : Inv2 (buildReport h).1 := by
  have hwf := (buildReport_spec h hi.wf).2.2.2
  unfold buildReport at hwf ⊢
  by_cases hgt : h.acked = false ∨ h.nextReport > h.highestAcked
  · rw [if_pos hgt]; exact hi
  · rw [if_neg hgt] at hwf ⊢
    have spec := reportLoop_sub (List.range' h.nextReport (h.highestAcked + 1 - h.nextReport)) h [] hi.wf
    generalize reportLoop (List.range' h.nextReport (h.highestAcked + 1 - h.nextReport)) h [] = rl at spec hwf ⊢
    obtain ⟨h1, res⟩ := rl
    obtain ⟨s1, s2, s3⟩ := spec
    simp only at s1 s2 s3 hwf ⊢
    obtain ⟨c1, c2⟩ := cleanBefore_sub h1 h1.nextReport
    have sub : Sub (cleanBefore h1 h1.nextReport) h := sub_trans c1 s1
    refine ⟨hwf, hi.sorted.sublist sub.ks, ?_, ?_⟩
    · intro k hk
      have hkh := hi.bnd k (sub.ks.subset hk)
      have hk1 : k ∈ keys h1 := c1.ks.subset hk
      have hnot := s2 k hk1
      rw [List.mem_range'_1] at hnot
      rw [c2, sub.ctr]
      refine ⟨?_, hkh.2⟩
      rcases s3 with e | ⟨i, hi1, _, e⟩
      · rw [e]; exact hkh.1
      · rw [e]; rw [List.mem_range'_1] at hi1; omega
    · rw [c2, sub.ctr]
      rcases s3 with e | ⟨i, _, hik, e⟩
      · rw [e]; exact hi.le
      · rw [e]; have := (hi.bnd i hik).2; omega

theorem inv2_stepOp (h : Hist) (hi : Inv2 h) (op : HOp) : Inv2 (stepOp h op).1 := by
  cases op with
  | add ssrc rtpSeq isTwcc twSeq size dep => exact (inv2_add h hi ssrc rtpSeq isTwcc twSeq size dep).1
  | ackTw ts a => exact ack_cases (P := fun _ => Inv2) h ts a (alookup h.twcc a.seq) hi fun c => inv2_onFeedback h hi ts c a
  | ackCc ts ssrc a => exact ack_cases (P := fun _ => Inv2) h ts a (alookup h.ss (ssrc, a.seq)) hi fun c => inv2_onFeedback h hi ts c a
  | build => exact inv2_buildReport h hi

/-- the state after a list of operations. -/
def runH (h : Hist) (ops : List HOp) : Hist := ops.foldl (fun h op => (stepOp h op).1) h

theorem inv2_runH (ops : List HOp) (h : Hist) (hi : Inv2 h) : Inv2 (runH h ops) :=
  List.foldlRecOn ops _ hi fun h hi op _ => inv2_stepOp h hi op

/-- without feedback every packet sent adds a record. -/
theorem runH_adds (ssrc rtpSeq : Nat) (isTwcc : Bool) (twSeq : Nat) (size dep : Int) (n : Nat) : ∀ h, Inv2 h →
    (runH h (List.replicate n (.add ssrc rtpSeq isTwcc twSeq size dep))).packets.length = h.packets.length + n := by
  induction n with
  | zero => intro h _; rfl
  | succ n ih =>
    intro h hi
    obtain ⟨a, b⟩ := inv2_add h hi ssrc rtpSeq isTwcc twSeq size dep
    show (runH (addOutgoing h ssrc rtpSeq isTwcc twSeq size dep) (List.replicate n _)).packets.length = _
    rw [ih _ a, b, Nat.add_right_comm]; rfl

end Interceptor.Rtpfb
