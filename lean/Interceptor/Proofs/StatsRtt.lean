/-
The round-trip-time figures as functions of the history: each measurement is judged against the
memory the recorder had when the packet arrived (StatsMemory), so the folds carry `MemIs` along.
First LSR/DLSR (reception report blocks, remote-inbound), then DLRR (XR sub-reports, remote-outbound).
-/
import Interceptor.Proofs.StatsMemory
import Interceptor.Proofs.StatsViews
namespace Interceptor.Stats
open Interceptor.Stats.Spec Interceptor.F64

theorem rttApply_append (v : RttFigures) (a b : List Int) : rttApply v (a ++ b) = rttApply (rttApply v a) b := by
  unfold rttApply; rw [List.foldl_append]

theorem rttApply_eq (v : RttFigures) (hits : List Int) :
    rttApply v hits = { rtt := hits.getLast?.getD v.rtt, total := hits.foldl (fun a x => wrap64 (a + x)) v.total,
                        n := v.n + hits.length } := by
  unfold rttApply
  induction hits generalizing v with
  | nil => rfl
  | cons x hits ih =>
    rw [List.foldl_cons, ih]
    simp only [RttFigures.mk.injEq, List.foldl_cons, List.length_cons]
    exact ⟨by rw [List.getLast?_cons]; rfl, trivial, by omega⟩

theorem rttApply_init (hits : List Int) : rttApply ⟨0, 0, 0⟩ hits = rttFiguresOf hits := by
  rw [rttApply_eq]; simp [rttFiguresOf]

theorem hitsAt_append (now : Int) (mem : List Nat) (a b : List Report) :
    hitsAt now mem (a ++ b) = hitsAt now mem a ++ hitsAt now mem b := by
  unfold hitsAt; rw [List.filterMap_append]

theorem hitsAt_hit (now : Int) (mem : List Nat) (r : Report) (v : Nat) (hd : r.dlsr ≠ 0) (hl : r.lsr ≠ 0)
    (hf : (searchOrder mem).find? (midMatches r.lsr) = some v) : hitsAt now mem [r] = [rttOf now r.dlsr v] := by
  simp only [hitsAt, List.filterMap_cons, List.filterMap_nil, if_pos (And.intro hd hl), hf, Option.map_some]

theorem hitsAt_miss (now : Int) (mem : List Nat) (r : Report)
    (h : r.dlsr = 0 ∨ r.lsr = 0 ∨ (searchOrder mem).find? (midMatches r.lsr) = none) : hitsAt now mem [r] = [] := by
  by_cases hc : r.dlsr ≠ 0 ∧ r.lsr ≠ 0
  · simp only [hitsAt, List.filterMap_cons, List.filterMap_nil, if_pos hc,
      (h.resolve_left hc.1).resolve_left hc.2, Option.map_none]
  · simp only [hitsAt, List.filterMap_cons, List.filterMap_nil, if_neg hc]

theorem rrStep_rtt (s : Nat) (rate : Rat) (now : Int) (st : IStats) (r : Report) :
    remoteInboundRtt (rrStep s rate now st r)
      = rttApply (remoteInboundRtt st) (hitsAt now st.lastSRs (if r.ssrc == s then [r] else [])) := by
  by_cases h : r.ssrc = s
  · rw [rrStep_eq s rate now st r h, if_pos (beq_iff_eq.2 h)]; rfl
  · rw [rrStep_skip s rate now st r h, if_neg (mt beq_iff_eq.1 h)]; rfl

theorem recordIncomingRR_rtt (s : Nat) (rate : Rat) (now : Int) (rs : List Report) (st : IStats) :
    remoteInboundRtt (recordIncomingRR s rate st rs now)
      = rttApply (remoteInboundRtt st) (hitsAt now st.lastSRs (rs.filter (·.ssrc == s))) := by
  unfold recordIncomingRR
  induction rs generalizing st with
  | nil => rfl
  | cons r rs ih =>
    rw [List.foldl_cons, ih, rrStep_rtt, (rrStep_writes s rate now r).frame (·.lastSRs) (fun _ _ => rfl),
      ← rttApply_append, ← hitsAt_append, List.filter_cons]
    cases r.ssrc == s <;> rfl

theorem inStep_rtt (s : Nat) (rate : Rat) (now : Int) (st : IStats) (p : Rtcp) :
    remoteInboundRtt (inStep s rate now st p)
      = rttApply (remoteInboundRtt st) (hitsAt now st.lastSRs ((reportsOfPkt p).filter (·.ssrc == s))) := by
  cases hc : p.dest.contains s
  · rw [inStep_skip _ _ _ _ _ hc, no_reports_of_skip s p hc]; rfl
  · rw [inStep_hit _ _ _ _ _ hc]
    cases p with
    | fir _ _ _ => rfl
    | other _ => rfl
    | rr _ rs => exact recordIncomingRR_rtt s rate now rs st
    | sr _ _ _ _ rs =>
      simp only [inSwitch, reportsOfPkt]
      rw [recordIncomingRR_rtt]
      rfl
    | xr _ bs => exact (recordIncomingXR_writes s now bs).frame remoteInboundRtt (fun _ _ => rfl) st
    | _ => simp only [inSwitch, reportsOfPkt]; split <;> rfl

theorem inFold_rtt (s : Nat) (rate : Rat) (now : Int) (pkts : List Rtcp) (st : IStats) :
    remoteInboundRtt (pkts.foldl (inStep s rate now) st)
      = rttApply (remoteInboundRtt st)
          (hitsAt now st.lastSRs ((pkts.flatMap reportsOfPkt).filter (·.ssrc == s))) := by
  induction pkts generalizing st with
  | nil => rfl
  | cons p pkts ih =>
    rw [List.foldl_cons, ih, inStep_rtt, inStep_frame (·.lastSRs) (fun _ _ => rfl) (fun _ _ => rfl) (fun _ _ => rfl),
      ← rttApply_append, ← hitsAt_append, List.flatMap_cons, List.filter_append]

/-- one event, judged against the recorder's memory. -/
theorem recStep_rtt (s : Nat) (rate : Rat) (st : IStats) (pre : List Event) (e : Event)
    (hm : st.lastSRs = lastN 5 (srTimes s pre)) :
    remoteInboundRtt (recStep s rate st e) = rttApply (remoteInboundRtt st) (rttHitsOfEvent s pre e) := by
  cases e with
  | bind _ _ => rfl
  | close => rfl
  | rtcpIn now pkts =>
    simp only [recStep, recordIncomingRTCP, rttHitsOfEvent]
    rw [inFold_rtt, hm]
  | rtcpOut pkts => rw [recStep_rtcpOut_frame remoteInboundRtt (fun _ _ => rfl)]; rfl
  | rtpIn now via p => rw [recStep_rtpIn_frame remoteInboundRtt (fun _ _ => rfl)]; rfl
  | rtpOut via p => rw [recStep_rtpOut_frame remoteInboundRtt (fun _ _ => rfl)]; rfl

theorem fold_rtt (s : Nat) (rate : Rat) (w : List Event) (st : IStats) (pre : List Event)
    (h : MemIs (memOf st) (srTimes s pre) (rrtrTimes pre)) :
    remoteInboundRtt (w.foldl (recStep s rate) st) = rttApply (remoteInboundRtt st) (rttHitsFrom s pre w) := by
  induction w generalizing st pre with
  | nil => rfl
  | cons e w ih =>
    rw [List.foldl_cons, ih _ _ (recStep_mem s rate st pre e h), recStep_rtt s rate st pre e h.1,
      ← rttApply_append]
    rfl

theorem fold_rtt_init (s : Nat) (rate : Rat) (w : List Event) :
    remoteInboundRtt (w.foldl (recStep s rate) {}) = rttFiguresOf (rttHits s w) := by
  rw [fold_rtt s rate w {} [] ⟨rfl, rfl⟩]
  exact rttApply_init _

theorem dlrrHitsAt_append (s : Nat) (now : Int) (mem : List Nat) (a b : List DlrrSub) :
    dlrrHitsAt s now mem (a ++ b) = dlrrHitsAt s now mem a ++ dlrrHitsAt s now mem b := by
  unfold dlrrHitsAt; rw [List.flatMap_append]

theorem dlrrHit_ro (now : Int) (d l : Nat) (st : IStats) (v : Nat) :
    remoteOutboundRtt (dlrrHit now d l st v)
      = rttApply (remoteOutboundRtt st) (if midMatches l v then [rttOf now d v] else []) := by
  unfold dlrrHit
  cases midMatches l v <;> simp [rttApply, remoteOutboundRtt, rttOf]

theorem dlrrLoop_ro (now : Int) (d l : Nat) (vs : List Nat) (st : IStats) :
    remoteOutboundRtt (vs.foldl (dlrrHit now d l) st)
      = rttApply (remoteOutboundRtt st) ((vs.filter (midMatches l)).map (rttOf now d)) := by
  induction vs generalizing st with
  | nil => rfl
  | cons v vs ih =>
    rw [List.foldl_cons, ih, dlrrHit_ro, ← rttApply_append, List.filter_cons]
    cases midMatches l v <;> rfl

theorem dlrrSubStep_ro (s : Nat) (now : Int) (st : IStats) (x : DlrrSub) :
    remoteOutboundRtt (dlrrSubStep s now st x)
      = rttApply (remoteOutboundRtt st) (dlrrHitsAt s now st.lastRRTs [x]) := by
  unfold dlrrSubStep dlrrHitsAt
  simp only [List.flatMap_cons, List.flatMap_nil, List.append_nil]
  split
  · exact dlrrLoop_ro now x.dlrr x.lrr _ st
  · rfl

theorem dlrrSubs_ro (s : Nat) (now : Int) (subs : List DlrrSub) (st : IStats) :
    remoteOutboundRtt (subs.foldl (dlrrSubStep s now) st)
      = rttApply (remoteOutboundRtt st) (dlrrHitsAt s now st.lastRRTs subs) := by
  induction subs generalizing st with
  | nil => rfl
  | cons x subs ih =>
    rw [List.foldl_cons, ih, dlrrSubStep_ro, (dlrrSubStep_writes s now x).frame (·.lastRRTs) (fun _ _ => rfl),
      ← rttApply_append, ← dlrrHitsAt_append]
    rfl

def subsOfBlock : XrBlock → List DlrrSub
  | .dlrr subs => subs
  | .rrtr _ => []

theorem xrInBlock_ro (s : Nat) (now : Int) (st : IStats) (b : XrBlock) :
    remoteOutboundRtt (xrInBlock s now st b)
      = rttApply (remoteOutboundRtt st) (dlrrHitsAt s now st.lastRRTs (subsOfBlock b)) := by
  cases b with
  | rrtr _ => rfl
  | dlrr subs => exact dlrrSubs_ro s now subs st

theorem recordIncomingXR_ro (s : Nat) (now : Int) (bs : List XrBlock) (st : IStats) :
    remoteOutboundRtt (recordIncomingXR s st bs now)
      = rttApply (remoteOutboundRtt st) (dlrrHitsAt s now st.lastRRTs (bs.flatMap subsOfBlock)) := by
  unfold recordIncomingXR
  induction bs generalizing st with
  | nil => rfl
  | cons b bs ih =>
    rw [List.foldl_cons, ih, xrInBlock_ro, (xrInBlock_writes s now b).frame (·.lastRRTs) (fun _ _ => rfl),
      ← rttApply_append, ← dlrrHitsAt_append, List.flatMap_cons]

theorem dlrrSubsOfPkt_xr (ssrc : Nat) (bs : List XrBlock) :
    dlrrSubsOfPkt (.xr ssrc bs) = bs.flatMap subsOfBlock := by
  unfold dlrrSubsOfPkt
  congr 1 <;> (funext b; cases b <;> rfl)

theorem dlrrHitsAt_none (s : Nat) (now : Int) (mem : List Nat) (subs : List DlrrSub)
    (h : ∀ x ∈ subs, x.ssrc ≠ s) : dlrrHitsAt s now mem subs = [] := by
  induction subs with
  | nil => rfl
  | cons x subs ih =>
    have hx : x.ssrc ≠ s := h x (by simp)
    have := ih (fun y hy => h y (by simp [hy]))
    unfold dlrrHitsAt at this ⊢
    rw [List.flatMap_cons, this]
    simp [hx]

theorem no_dlrr_of_skip (s : Nat) (now : Int) (mem : List Nat) (p : Rtcp) (h : p.dest.contains s = false) :
    dlrrHitsAt s now mem (dlrrSubsOfPkt p) = [] := by
  apply dlrrHitsAt_none
  intro x hx hxs
  -- a sub-report about `s` would put `s` among the destinations
  refine not_mem_dest_of_skip h ?_
  cases p with
  | xr ssrc bs =>
    rw [dlrrSubsOfPkt_xr, List.mem_flatMap] at hx
    obtain ⟨b, hb, hxb⟩ := hx
    simp only [Rtcp.dest, List.mem_cons, List.mem_flatten, List.mem_map]
    refine Or.inr ⟨b.dest, ⟨b, hb, rfl⟩, ?_⟩
    cases b with
    | rrtr _ => simp [subsOfBlock] at hxb
    | dlrr subs =>
      simp only [subsOfBlock] at hxb
      simp only [XrBlock.dest, List.mem_map]
      exact ⟨x, hxb, hxs⟩
  | _ => simp [dlrrSubsOfPkt] at hx

theorem inStep_ro (s : Nat) (rate : Rat) (now : Int) (st : IStats) (p : Rtcp) :
    remoteOutboundRtt (inStep s rate now st p)
      = rttApply (remoteOutboundRtt st) (dlrrHitsAt s now st.lastRRTs (dlrrSubsOfPkt p)) := by
  cases hc : p.dest.contains s
  · rw [inStep_skip _ _ _ _ _ hc, no_dlrr_of_skip s now _ p hc]; rfl
  · rw [inStep_hit _ _ _ _ _ hc]
    cases p with
    | fir _ _ _ => rfl
    | other _ => rfl
    | rr _ rs => exact (recordIncomingRR_writes s rate now rs).frame remoteOutboundRtt (fun _ _ => rfl) st
    | sr _ _ _ _ rs => exact (recordIncomingRR_writes s rate now rs).frame remoteOutboundRtt (fun _ _ => rfl) _
    | xr ssrc bs =>
      rw [dlrrSubsOfPkt_xr]
      exact recordIncomingXR_ro s now bs st
    | _ => simp only [inSwitch, dlrrSubsOfPkt]; split <;> rfl

theorem inFold_ro (s : Nat) (rate : Rat) (now : Int) (pkts : List Rtcp) (st : IStats) :
    remoteOutboundRtt (pkts.foldl (inStep s rate now) st)
      = rttApply (remoteOutboundRtt st) (dlrrHitsAt s now st.lastRRTs (pkts.flatMap dlrrSubsOfPkt)) := by
  induction pkts generalizing st with
  | nil => rfl
  | cons p pkts ih =>
    rw [List.foldl_cons, ih, inStep_ro, inStep_frame (·.lastRRTs) (fun _ _ => rfl) (fun _ _ => rfl) (fun _ _ => rfl),
      ← rttApply_append, ← dlrrHitsAt_append, List.flatMap_cons]

theorem recStep_ro (s : Nat) (rate : Rat) (st : IStats) (pre : List Event) (e : Event)
    (hm : st.lastRRTs = lastN 5 (rrtrTimes pre)) :
    remoteOutboundRtt (recStep s rate st e) = rttApply (remoteOutboundRtt st) (dlrrHitsOfEvent s pre e) := by
  cases e with
  | bind _ _ => rfl
  | close => rfl
  | rtcpIn now pkts =>
    simp only [recStep, recordIncomingRTCP, dlrrHitsOfEvent]
    rw [inFold_ro, hm]
  | rtcpOut pkts => rw [recStep_rtcpOut_frame remoteOutboundRtt (fun _ _ => rfl)]; rfl
  | rtpIn now via p => rw [recStep_rtpIn_frame remoteOutboundRtt (fun _ _ => rfl)]; rfl
  | rtpOut via p => rw [recStep_rtpOut_frame remoteOutboundRtt (fun _ _ => rfl)]; rfl

theorem fold_ro (s : Nat) (rate : Rat) (w : List Event) (st : IStats) (pre : List Event)
    (h : MemIs (memOf st) (srTimes s pre) (rrtrTimes pre)) :
    remoteOutboundRtt (w.foldl (recStep s rate) st) = rttApply (remoteOutboundRtt st) (dlrrHitsFrom s pre w) := by
  induction w generalizing st pre with
  | nil => rfl
  | cons e w ih =>
    rw [List.foldl_cons, ih _ _ (recStep_mem s rate st pre e h), recStep_ro s rate st pre e h.2,
      ← rttApply_append]
    rfl

theorem fold_ro_init (s : Nat) (rate : Rat) (w : List Event) :
    remoteOutboundRtt (w.foldl (recStep s rate) {}) = rttFiguresOf (dlrrHits s w) := by
  rw [fold_ro s rate w {} [] ⟨rfl, rfl⟩]
  exact rttApply_init _

end Interceptor.Stats
