/-
Lemmas for C08.  The emit loop of `metricsAfter` is the pair (`ack`, `emit`) of Spec/Rfc8888: `metricsAfter_eq`;
`addU` and the truncate step are one record update each: `addU_eq`, `truncate_eq`.  On these closed forms: the representation invariant `Inv`
of `streamLog`, what a report does to the cursor, and the link from the stored records to `firstArrival`.
-/
import Interceptor.Spec.Rfc8888
namespace Interceptor.Rfc8888

theorem lookup_filter (p : Int → Bool) (m : Log) (n : Int) :
    lookup (m.filter (fun q => p q.1)) n = if p n then lookup m n else none := by
  induction m with
  | nil => simp [lookup]
  | cons a m ih =>
    obtain ⟨k, e⟩ := a
    simp only [List.filter_cons]
    cases hk : p k with
    | true =>
      simp only [if_true, lookup]
      by_cases hkn : k = n
      · subst hkn; simp [hk]
      · simp only [hkn, if_false]; exact ih
    | false =>
      simp only [Bool.false_eq_true, if_false, lookup]
      by_cases hkn : k = n
      · subst hkn; rw [ih, hk]; simp
      · simp only [hkn, if_false]; exact ih

theorem lookup_erase (m : Log) (k n : Int) :
    lookup (erase m k) n = if n = k then none else lookup m n := by
  have := lookup_filter (fun x => !decide (x = k)) m n
  unfold erase
  rw [this]
  by_cases h : n = k <;> simp [h]

theorem lookup_dropBelow (m : Log) (c n : Int) :
    lookup (dropBelow m c) n = if n < c then none else lookup m n := by
  have := lookup_filter (fun x => !decide (x < c)) m n
  unfold dropBelow
  rw [this]
  by_cases h : n < c <;> simp [h]

theorem emit_length (ref : Int) (m : Log) (n : Nat) (i : Int) : (emit ref m n i).length = n := by
  induction n generalizing i with
  | zero => rfl
  | succ n ih => simp [emit, ih]

theorem emit_congr (ref : Int) (m m' : Log) (n : Nat) (i : Int)
    (h : ∀ j, i ≤ j → lookup m j = lookup m' j) : emit ref m n i = emit ref m' n i := by
  induction n generalizing i with
  | zero => rfl
  | succ n ih =>
    simp only [emit]
    rw [h i (Int.le_refl i), ih (i + 1) (fun j hj => h j (by omega))]

theorem emit_get (ref : Int) (m : Log) (n : Nat) (i : Int) (j : Nat) (hj : j < n) :
    (emit ref m n i)[j]? = some (mkMetric ref (lookup m (i + j))) := by
  induction n generalizing i j with
  | zero => omega
  | succ n ih =>
    cases j with
    | zero => simp [emit]
    | succ j =>
      simp only [emit, List.getElem?_cons_succ]
      rw [ih (i + 1) j (by omega)]
      congr 3
      omega

theorem emit_get_none (ref : Int) (m : Log) (n : Nat) (i : Int) (j : Nat) (hj : n ≤ j) :
    (emit ref m n i)[j]? = none := by
  apply List.getElem?_eq_none
  rw [emit_length]; exact hj

theorem ack_bounds (m : Log) (n : Nat) (i : Int) : i ≤ (ack m n i).2 ∧ (ack m n i).2 ≤ i + n := by
  induction n generalizing m i with
  | zero => simp [ack]
  | succ n ih =>
    simp only [ack]
    split
    · have := ih (erase m i) (i + 1); omega
    · simp only []; omega

theorem ack_lookup (m : Log) (n : Nat) (i j : Int) :
    lookup (ack m n i).1 j = if i ≤ j ∧ j < (ack m n i).2 then none else lookup m j := by
  induction n generalizing m i with
  | zero =>
    have : ¬ (i ≤ j ∧ j < i) := by omega
    simp [ack, this]
  | succ n ih =>
    simp only [ack]
    split
    · rw [ih (erase m i) (i + 1), lookup_erase]
      have hb := ack_bounds (erase m i) n (i + 1)
      by_cases hj : j = i
      · subst hj
        rw [if_neg (by omega), if_pos rfl, if_pos (by omega)]
      · rw [if_neg hj]
        by_cases h2 : i + 1 ≤ j ∧ j < (ack (erase m i) n (i + 1)).2
        · rw [if_pos h2, if_pos (by omega)]
        · rw [if_neg h2, if_neg (by omega)]
    · have : ¬ (i ≤ j ∧ j < i) := by omega
      simp [this]

theorem ack_prefix (m : Log) (n : Nat) (i j : Int) (h1 : i ≤ j) (h2 : j < (ack m n i).2) :
    lookup m j ≠ none := by
  induction n generalizing m i with
  | zero => simp only [ack] at h2; omega
  | succ n ih =>
    simp only [ack] at h2
    split at h2
    · rename_i hs
      by_cases hj : j = i
      · subst hj; intro hn; rw [hn] at hs; simp at hs
      · have := ih (erase m i) (i + 1) (by omega) h2
        rw [lookup_erase, if_neg hj] at this
        exact this
    · simp only [] at h2; omega

theorem ack_stop (m : Log) (n : Nat) (i : Int) (h : (ack m n i).2 < i + n) :
    lookup m (ack m n i).2 = none := by
  induction n generalizing m i with
  | zero => simp only [ack] at h; omega
  | succ n ih =>
    simp only [ack] at h ⊢
    split
    · rename_i hs
      simp only [hs, if_true] at h
      have hb := ack_bounds (erase m i) n (i + 1)
      have := ih (erase m i) (i + 1) (by omega)
      rw [lookup_erase, if_neg (by omega)] at this
      exact this
    · rename_i hs
      simp only []
      cases hl : lookup m i with
      | none => rfl
      | some e => rw [hl] at hs; simp at hs

/-- The emit loop has two phases.  Second phase: once the loop variable `i` has run ahead of the cursor `next` (a
number was missing), no step acknowledges anything any more — log and cursor stay, whatever the `gap` flag says. -/
theorem loopStep_stuck (st : LoopSt) (i : Int) (r : Bool) (h : st.next < i) :
    (loopStep st i r).log = st.log ∧ (loopStep st i r).next = st.next := by
  unfold loopStep
  split
  · exact ⟨rfl, rfl⟩
  · have hne : ¬ (r = true ∧ i = st.next) := by omega
    simp only [hne, if_false]
    split <;> exact ⟨rfl, rfl⟩

/-- Once the loop variable is ahead of the cursor (`loopStep_stuck`), the rest of the loop leaves log and cursor alone
and only emits. -/
theorem loop_stuck (ref : Int) (n : Nat) (i : Int) (st : LoopSt) (h : st.next < i) :
    (loop ref n i st).1.log = st.log ∧ (loop ref n i st).1.next = st.next ∧
    (loop ref n i st).2 = emit ref st.log n i := by
  induction n generalizing i st with
  | zero => exact ⟨rfl, rfl, rfl⟩
  | succ n ih =>
    have hs := loopStep_stuck st i (lookup st.log i).isSome h
    have := ih (i + 1) (loopStep st i (lookup st.log i).isSome) (by rw [hs.2]; omega)
    simp only [loop, emit]
    rw [this.1, this.2.1, this.2.2, hs.1, hs.2]
    exact ⟨rfl, rfl, rfl⟩

/-- First phase: while the cursor is at the loop variable and no gap was seen, a received number is acknowledged and
the phase goes on (`ack`'s recursion); the first missing number ends it and `loop_stuck` takes over.  `h3`:
`lastReceived` is `i − 1` after an acknowledgement and `i` at the start (the code initialises it with `next`); either
way the gap test `i > lastReceived + 1` fails at `i`. -/
theorem loop_active (ref : Int) (n : Nat) (i : Int) (st : LoopSt) (h1 : st.next = i)
    (h2 : st.gap = false) (h3 : st.lastReceived = i - 1 ∨ st.lastReceived = i) :
    (loop ref n i st).1.log = (ack st.log n i).1 ∧ (loop ref n i st).1.next = (ack st.log n i).2 ∧
    (loop ref n i st).2 = emit ref st.log n i := by
  induction n generalizing i st with
  | zero => exact ⟨rfl, h1, rfl⟩
  | succ n ih =>
    simp only [loop, ack, emit]
    by_cases hr : (lookup st.log i).isSome = true
    · have hstep : loopStep st i (lookup st.log i).isSome =
          { st with log := erase st.log i, next := st.next + 1, lastReceived := i } := by
        unfold loopStep
        simp only [h2, hr, h1, and_self, if_true, Bool.false_eq_true, if_false]
        rw [if_neg (by omega)]
      rw [hstep, if_pos hr]
      have := ih (i + 1) { st with log := erase st.log i, next := st.next + 1, lastReceived := i }
        (by simp only []; omega) h2 (Or.inl (by simp only []; omega))
      simp only [] at this
      refine ⟨this.1, this.2.1, ?_⟩
      rw [this.2.2]
      congr 1
      apply emit_congr
      intro j hj
      rw [lookup_erase, if_neg (by omega)]
    · have hstep : loopStep st i (lookup st.log i).isSome = st := by
        unfold loopStep
        simp only [h2, hr, false_and, if_false, Bool.false_eq_true]
        rw [if_neg (by omega)]
      rw [hstep, if_neg hr]
      have := loop_stuck ref n (i + 1) st (by omega)
      exact ⟨this.1, by rw [this.2.1]; exact h1, by rw [this.2.2]⟩

/-- the truncate step in closed form: the cursor moves to `rangeBegin`, and what lies below it is dropped. -/
theorem truncate_eq (l : StreamLog) (b : Int) :
    truncate l b =
      { l with log := if l.next < rangeBegin l b then dropBelow l.log (rangeBegin l b) else l.log,
               next := rangeBegin l b } := by
  unfold truncate rangeBegin
  split
  · simp only []
    rw [Int.max_eq_right (by omega), if_pos (by omega)]
  · rw [Int.max_eq_left (by omega), if_neg (Int.lt_irrefl _)]

theorem truncate_init (l : StreamLog) (b : Int) : (truncate l b).init = l.init := by
  rw [truncate_eq]

theorem truncate_last (l : StreamLog) (b : Int) : (truncate l b).last = l.last := by
  rw [truncate_eq]

theorem truncate_ssrc (l : StreamLog) (b : Int) : (truncate l b).ssrc = l.ssrc := by
  rw [truncate_eq]

theorem truncate_seq (l : StreamLog) (b : Int) : (truncate l b).seq = l.seq := by
  rw [truncate_eq]

theorem truncate_next (l : StreamLog) (b : Int) : (truncate l b).next = rangeBegin l b := by
  rw [truncate_eq]

theorem truncate_lookup (l : StreamLog) (b k : Int) :
    lookup (truncate l b).log k = if k < rangeBegin l b ∧ l.next < rangeBegin l b then none else lookup l.log k := by
  rw [truncate_eq]
  by_cases h : l.next < rangeBegin l b
  · simp only [h, if_true, and_true, lookup_dropBelow]
  · simp only [h, if_false, and_false]

theorem metricsAfter_empty (l : StreamLog) (ref b : Int) (he : l.log = []) :
    metricsAfter l ref b = (l, ⟨l.ssrc, u16 l.next, []⟩) := by
  unfold metricsAfter
  simp [he]

theorem metricsAfter_nonempty (l : StreamLog) (ref b : Int) (hne : l.log ≠ []) :
    metricsAfter l ref b =
      (let t := truncate l b
       let r := loop ref (t.last - t.next + 1).toNat t.next ⟨t.log, t.next, t.next, false⟩
       ({ t with log := r.1.log, next := r.1.next }, ⟨t.ssrc, u16 t.next, r.2⟩)) := by
  unfold metricsAfter
  have : l.log.isEmpty = false := by cases h : l.log with
    | nil => exact absurd h hne
    | cons a m => rfl
  simp only [this, Bool.false_eq_true, if_false]

theorem metricsAfter_eq (l : StreamLog) (ref b : Int) (hne : l.log ≠ []) :
    metricsAfter l ref b =
      (let n := (l.last - rangeBegin l b + 1).toNat
       let a := ack (truncate l b).log n (rangeBegin l b)
       ({ l with log := a.1, next := a.2 }, ⟨l.ssrc, u16 (rangeBegin l b), emit ref (truncate l b).log n (rangeBegin l b)⟩)) := by
  rw [metricsAfter_nonempty l ref b hne]
  have hl := loop_active ref ((truncate l b).last - (truncate l b).next + 1).toNat (truncate l b).next
    ⟨(truncate l b).log, (truncate l b).next, (truncate l b).next, false⟩ rfl rfl (Or.inr rfl)
  simp only [] at hl ⊢
  rw [hl.1, hl.2.1, hl.2.2]
  simp only [truncate_next, truncate_last, truncate_ssrc, truncate_seq, truncate_init]

theorem metricsAfter_frame (l : StreamLog) (ref b : Int) :
    (metricsAfter l ref b).1 =
      { l with log := (metricsAfter l ref b).1.log, next := (metricsAfter l ref b).1.next } := by
  by_cases he : l.log = []
  · rw [metricsAfter_empty l ref b he]
  · rw [metricsAfter_eq l ref b he]

theorem metricsAfter_init (l : StreamLog) (ref b : Int) : (metricsAfter l ref b).1.init = l.init := by
  rw [metricsAfter_frame]

theorem metricsAfter_last (l : StreamLog) (ref b : Int) : (metricsAfter l ref b).1.last = l.last := by
  rw [metricsAfter_frame]

theorem metricsAfter_ssrc (l : StreamLog) (ref b : Int) : (metricsAfter l ref b).1.ssrc = l.ssrc := by
  rw [metricsAfter_frame]

/-- The representation invariant of a `streamLog`: before the first packet everything is zero; the stored numbers lie
between the cursor and the highest number; the cursor is at most one past the highest; `top`: the highest number received
is itself stored as long as it is not acknowledged (so a non-empty range ends in a received number); `nn`: the highest
number is not negative.  Arriving numbers are never negative (`NonNeg`: they are the unwrapper's results), and `top` needs
that: the first packet has to raise `last` from its initial 0 to its own number. -/
structure Inv (l : StreamLog) : Prop where
  uninit : l.init = false → l.log = [] ∧ l.next = 0 ∧ l.last = 0
  keys : ∀ k, lookup l.log k ≠ none → l.next ≤ k ∧ k ≤ l.last
  ord : l.init = true → l.next ≤ l.last + 1
  top : l.init = true → l.next ≤ l.last → lookup l.log l.last ≠ none
  nn : 0 ≤ l.last

theorem inv_new (ssrc : Nat) : Inv (StreamLog.new ssrc) := by
  refine ⟨fun _ => ⟨rfl, rfl, rfl⟩, ?_, ?_, ?_, ?_⟩ <;> simp [StreamLog.new, lookup]

/-- the cursor value `add` compares against (the first packet initialises it). -/
def addNext (l : StreamLog) (u : Int) : Int := if l.init then l.next else u

theorem addU_eq (l : StreamLog) (ts u : Int) (ecn : Nat) :
    addU l ts u ecn =
      { l with init := true, next := addNext l u,
               log := if u < addNext l u then l.log else
                 match lookup l.log u with
                 | some _ => l.log
                 | none => (u, ⟨ts, ecn⟩) :: l.log,
               last := if u < addNext l u then l.last else if l.last < u then u else l.last } := by
  obtain ⟨ssrc, seq, init, next, last, log⟩ := l
  unfold addU addNext
  cases init
  · simp only [Bool.false_eq_true, if_false, Int.lt_irrefl]
    cases lookup log u <;> simp only [] <;> split <;> rfl
  · simp only [if_true]
    by_cases h : u < next
    · simp only [h, if_true]
    · simp only [h, if_false]
      cases lookup log u <;> simp only [] <;> split <;> rfl

theorem addU_init (l : StreamLog) (ts u : Int) (ecn : Nat) : (addU l ts u ecn).init = true := by
  rw [addU_eq]

theorem addU_next (l : StreamLog) (ts u : Int) (ecn : Nat) : (addU l ts u ecn).next = addNext l u := by
  rw [addU_eq]

theorem addU_ssrc (l : StreamLog) (ts u : Int) (ecn : Nat) : (addU l ts u ecn).ssrc = l.ssrc := by
  rw [addU_eq]

theorem addU_seq (l : StreamLog) (ts u : Int) (ecn : Nat) : (addU l ts u ecn).seq = l.seq := by
  rw [addU_eq]

theorem addU_last (l : StreamLog) (ts u : Int) (ecn : Nat) :
    (addU l ts u ecn).last = if u < addNext l u then l.last else if l.last < u then u else l.last := by
  rw [addU_eq]

theorem lookup_addIfAbsent (m : Log) (u k : Int) (e : Entry) :
    lookup (match lookup m u with
      | some _ => m
      | none => (u, e) :: m) k =
    match lookup m k with
    | some x => some x
    | none => if u = k then some e else none := by
  cases hl : lookup m u with
  | some e0 =>
    simp only []
    cases hk : lookup m k with
    | some x => rfl
    | none =>
      simp only []
      by_cases huk : u = k
      · subst huk; rw [hl] at hk; cases hk
      · rw [if_neg huk]
  | none =>
    simp only [lookup]
    by_cases huk : u = k
    · subst huk; rw [if_pos rfl, hl]; exact (if_pos rfl).symm
    · rw [if_neg huk]
      cases lookup m k with
      | some x => rfl
      | none => exact (if_neg huk).symm

theorem addU_lookup (l : StreamLog) (ts u : Int) (ecn : Nat) (k : Int) :
    lookup (addU l ts u ecn).log k = if u < addNext l u then lookup l.log k else
      match lookup l.log k with
      | some e => some e
      | none => if u = k then some ⟨ts, ecn⟩ else none := by
  rw [addU_eq]
  show lookup (if u < addNext l u then _ else _) k = _
  split
  · rfl
  · exact lookup_addIfAbsent l.log u k ⟨ts, ecn⟩

theorem addNext_init {l : StreamLog} (h : l.init = true) (u : Int) : addNext l u = l.next := by
  unfold addNext; rw [h]; rfl

theorem addNext_uninit {l : StreamLog} (h : l.init = false) (u : Int) : addNext l u = u := by
  unfold addNext; rw [h]; rfl

theorem inv_addU (l : StreamLog) (ts u : Int) (ecn : Nat) (hI : Inv l) (hu : 0 ≤ u) :
    Inv (addU l ts u ecn) := by
  by_cases hun : u < addNext l u
  · -- below the cursor, so not the first packet: only `init := true` is written, and it is true already
    have hi : l.init = true := by
      cases hi : l.init with
      | true => rfl
      | false => rw [addNext_uninit hi] at hun; exact absurd hun (Int.lt_irrefl u)
    have e : addU l ts u ecn = l := by
      rw [addU_eq, if_pos hun, if_pos hun, addNext_init hi]; cases l; cases hi; rfl
    rw [e]; exact hI
  · -- the packet is stored unless it is a duplicate, and may raise `last`; the first packet puts the cursor at `u`.
    -- What the old state contributes is the same whether or not it had a packet:
    have hkeys : ∀ k, lookup l.log k ≠ none → addNext l u ≤ k ∧ k ≤ l.last := by
      cases hi : l.init with
      | true => rw [addNext_init hi]; exact hI.keys
      | false => intro k hk; rw [(hI.uninit hi).1] at hk; exact absurd rfl hk
    have htop : u < l.last → lookup l.log l.last ≠ none := fun h => by
      cases hi : l.init with
      | true => rw [addNext_init hi] at hun; exact hI.top hi (by omega)
      | false => have := (hI.uninit hi).2.2; omega
    have hL : (addU l ts u ecn).last = if l.last < u then u else l.last := by rw [addU_last, if_neg hun]
    have hK := fun k => addU_lookup l ts u ecn k
    simp only [hun, if_false] at hK
    refine ⟨fun h => ?_, fun k hk => ?_, fun _ => ?_, fun _ _ => ?_, ?_⟩
    · rw [addU_init] at h; cases h
    · rw [hK] at hk
      rw [addU_next, hL]
      cases hl : lookup l.log k with
      | some e => have := hkeys k (by rw [hl]; exact nofun); split <;> omega
      | none =>
        rw [hl] at hk
        by_cases e : u = k
        · subst e; split <;> omega
        · exact absurd (if_neg e) hk
    · rw [addU_next, hL]; split <;> omega
    · rw [hL, hK]
      by_cases hlu : l.last < u
      · rw [if_pos hlu]; cases lookup l.log u <;> simp
      · rw [if_neg hlu]
        by_cases hul : u = l.last
        · rw [← hul]; cases lookup l.log u <;> simp
        · cases hl : lookup l.log l.last with
          | some e => exact nofun
          | none => exact absurd hl (htop (by omega))
    · have := hI.nn
      rw [hL]; split <;> omega

theorem metricsAfter_next_ge (l : StreamLog) (ref b : Int) : l.next ≤ (metricsAfter l ref b).1.next := by
  by_cases he : l.log = []
  · rw [metricsAfter_empty l ref b he]; exact Int.le_refl _
  · rw [metricsAfter_eq l ref b he]
    exact Int.le_trans (Int.le_max_left _ _) (ack_bounds _ _ _).1

theorem metricsAfter_lookup_ge (l : StreamLog) (ref b k : Int) (hk : (metricsAfter l ref b).1.next ≤ k) :
    lookup (metricsAfter l ref b).1.log k = lookup l.log k := by
  by_cases he : l.log = []
  · rw [metricsAfter_empty l ref b he]
  · rw [metricsAfter_eq l ref b he] at hk ⊢
    simp only [] at hk ⊢
    have := ack_bounds (truncate l b).log (l.last - rangeBegin l b + 1).toNat (rangeBegin l b)
    rw [ack_lookup, if_neg (by omega), truncate_lookup, if_neg (by omega)]

theorem metricsAfter_keys (l : StreamLog) (ref b : Int) (hb : 0 ≤ b)
    (hk : ∀ k, lookup l.log k ≠ none → l.next ≤ k ∧ k ≤ l.last) (hord : l.next ≤ l.last + 1) :
    (∀ k, lookup (metricsAfter l ref b).1.log k ≠ none → (metricsAfter l ref b).1.next ≤ k ∧ k ≤ l.last) ∧
      (metricsAfter l ref b).1.next ≤ l.last + 1 := by
  by_cases he : l.log = []
  · rw [metricsAfter_empty l ref b he]; exact ⟨hk, hord⟩
  · rw [metricsAfter_eq l ref b he]
    simp only [ack_lookup, truncate_lookup]
    have hb2 := ack_bounds (truncate l b).log (l.last - rangeBegin l b + 1).toNat (rangeBegin l b)
    have hr : l.next ≤ rangeBegin l b ∧ rangeBegin l b ≤ l.last + 1 :=
      ⟨Int.le_max_left _ _, Int.max_le.mpr ⟨hord, by omega⟩⟩
    refine ⟨fun k hk' => ?_, by omega⟩
    split at hk'
    · exact absurd rfl hk'
    · split at hk'
      · exact absurd rfl hk'
      · have := hk k hk'; omega

theorem Inv.ord' {l : StreamLog} (hI : Inv l) : l.next ≤ l.last + 1 := by
  cases hi : l.init with
  | true => exact hI.ord hi
  | false => obtain ⟨_, h1, h2⟩ := hI.uninit hi; omega

theorem inv_metricsAfter (l : StreamLog) (ref b : Int) (hI : Inv l) (hb : 0 ≤ b) :
    Inv (metricsAfter l ref b).1 := by
  obtain ⟨hk, hord⟩ := metricsAfter_keys l ref b hb hI.keys hI.ord'
  have hge := metricsAfter_next_ge l ref b
  refine ⟨fun h => ?_, ?_, fun _ => ?_, fun hi h2 => ?_, ?_⟩
  · rw [metricsAfter_init] at h
    rw [metricsAfter_empty l ref b (hI.uninit h).1]
    exact hI.uninit h
  · rw [metricsAfter_last]; exact hk
  · rw [metricsAfter_last]; exact hord
  · rw [metricsAfter_init] at hi
    rw [metricsAfter_last] at h2 ⊢
    rw [metricsAfter_lookup_ge l ref b l.last h2]
    exact hI.top hi (by omega)
  · rw [metricsAfter_last]; exact hI.nn

theorem metricsAfter_passed (l : StreamLog) (ref b j : Int) (h1 : rangeBegin l b ≤ j)
    (h2 : j < (metricsAfter l ref b).1.next) : lookup l.log j ≠ none := by
  by_cases he : l.log = []
  · rw [metricsAfter_empty l ref b he] at h2
    have : l.next ≤ rangeBegin l b := Int.le_max_left _ _
    simp only [] at h2
    omega
  · rw [metricsAfter_eq l ref b he] at h2
    have := ack_prefix _ _ _ j h1 h2
    rwa [truncate_lookup, if_neg (by omega)] at this

theorem metricsAfter_cursor (l : StreamLog) (ref b : Int) (hI : Inv l) (hi : l.init = true) (hb : 0 ≤ b) :
    rangeBegin l b ≤ (metricsAfter l ref b).1.next ∧ (metricsAfter l ref b).1.next ≤ l.last + 1 ∧
    ((metricsAfter l ref b).1.next ≤ l.last → lookup l.log (metricsAfter l ref b).1.next = none) := by
  have hord := hI.ord hi
  refine ⟨?_, (metricsAfter_keys l ref b hb hI.keys hord).2, ?_⟩
  · by_cases he : l.log = []
    · have hnl : ¬ l.next ≤ l.last := fun h => hI.top hi h (by rw [he]; rfl)
      rw [metricsAfter_empty l ref b he]
      show rangeBegin l b ≤ l.next
      exact Int.max_le.mpr ⟨Int.le_refl _, by omega⟩
    · rw [metricsAfter_eq l ref b he]
      exact (ack_bounds _ _ _).1
  · by_cases he : l.log = []
    · intro _; rw [he]; rfl
    · rw [metricsAfter_eq l ref b he]
      simp only []
      intro h
      have hrb : l.next ≤ rangeBegin l b := Int.le_max_left _ _
      have hbd := ack_bounds (truncate l b).log (l.last - rangeBegin l b + 1).toNat (rangeBegin l b)
      have := ack_stop (truncate l b).log (l.last - rangeBegin l b + 1).toNat (rangeBegin l b) (by omega)
      rwa [truncate_lookup, if_neg (by omega)] at this

theorem metricsAfter_block (l : StreamLog) (ref b : Int) (hI : Inv l) (hi : l.init = true) (hb : 0 ≤ b) :
    (metricsAfter l ref b).2 =
      ⟨l.ssrc, u16 (rangeBegin l b), emit ref l.log (l.last + 1 - rangeBegin l b).toNat (rangeBegin l b)⟩ := by
  have hord := hI.ord hi
  by_cases he : l.log = []
  · have hnl : ¬ l.next ≤ l.last := fun h => hI.top hi h (by rw [he]; rfl)
    have hr : rangeBegin l b = l.next := Int.max_eq_left (by omega)
    rw [metricsAfter_empty l ref b he, hr, show (l.last + 1 - l.next).toNat = 0 by omega]
    rfl
  · rw [metricsAfter_eq l ref b he]
    simp only []
    rw [show l.last - rangeBegin l b + 1 = l.last + 1 - rangeBegin l b by omega]
    congr 1
    exact emit_congr ref _ _ _ _ fun j hj => by rw [truncate_lookup, if_neg (by omega)]

theorem inv_exec (ssrc : Nat) (h : List Ev) (hn : NonNeg h) : Inv (exec ssrc h) := by
  induction h with
  | nil => exact inv_new ssrc
  | cons e h ih =>
    cases e with
    | add ts u ecn => exact inv_addU _ ts u ecn (ih hn.2) hn.1
    | report ref b => exact inv_metricsAfter _ ref b (ih hn.2) hn.1

theorem exec_ssrc (ssrc : Nat) (h : List Ev) : (exec ssrc h).ssrc = ssrc := by
  induction h with
  | nil => rfl
  | cons e h ih =>
    cases e with
    | add ts u ecn => simp only [exec, addU_ssrc, ih]
    | report ref b => simp only [exec, metricsAfter_ssrc, ih]

theorem exec_uninit (ssrc : Nat) (h : List Ev) (hi : (exec ssrc h).init = false) :
    (exec ssrc h).log = [] ∧ ∀ n, firstArrival h n = none := by
  induction h with
  | nil => exact ⟨rfl, fun _ => rfl⟩
  | cons e h ih =>
    cases e with
    | add ts u ecn => simp only [exec, addU_init] at hi; cases hi
    | report ref b =>
      simp only [exec, metricsAfter_init] at hi
      simp only [exec, firstArrival]
      rw [metricsAfter_empty _ ref b (ih hi).1]
      exact ih hi

/-- the stored records of the not yet acknowledged numbers are exactly the first arrivals. -/
theorem exec_first (ssrc : Nat) (h : List Ev) (n : Int) (hn : (exec ssrc h).next ≤ n) :
    lookup (exec ssrc h).log n = firstArrival h n := by
  induction h with
  | nil => rfl
  | cons e h ih =>
    cases e with
    | report ref b =>
      simp only [exec, firstArrival] at hn ⊢
      rw [metricsAfter_lookup_ge _ ref b n hn]
      exact ih (Int.le_trans (metricsAfter_next_ge _ ref b) hn)
    | add ts u ecn =>
      simp only [exec, firstArrival] at hn ⊢
      rw [addU_next] at hn
      rw [addU_lookup]
      cases hi : (exec ssrc h).init with
      | false =>
        obtain ⟨h3, h1⟩ := exec_uninit ssrc h hi
        simp only [addNext_uninit hi, if_false, Int.lt_irrefl, h3, lookup, h1 n]
      | true =>
        rw [addNext_init hi] at hn ⊢
        rw [ih hn]
        by_cases hun : u < (exec ssrc h).next
        · simp only [hun, if_true]
          cases firstArrival h n with
          | some e => rfl
          | none => simp only []; rw [if_neg (by omega)]
        · simp only [hun, if_false]
          rfl

theorem firstArrival_mono (h1 h2 : List Ev) (n : Int) (e : Entry) (h : firstArrival h1 n = some e) :
    firstArrival (h2 ++ h1) n = some e := by
  induction h2 with
  | nil => exact h
  | cons ev h2 ih =>
    cases ev with
    | add ts u ecn => simp only [List.cons_append, firstArrival, ih]
    | report ref b => simp only [List.cons_append, firstArrival, ih]

theorem exec_init_mono (ssrc : Nat) (h1 h2 : List Ev) (h : (exec ssrc h1).init = true) :
    (exec ssrc (h2 ++ h1)).init = true := by
  induction h2 with
  | nil => exact h
  | cons ev h2 ih =>
    cases ev with
    | add ts u ecn => simp only [List.cons_append, exec, addU_init]
    | report ref b => simp only [List.cons_append, exec, metricsAfter_init]; exact ih

end Interceptor.Rfc8888
