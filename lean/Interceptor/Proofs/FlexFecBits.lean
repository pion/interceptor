/-
Helper lemmas for C14 (bit level): the probe word of BitArray get/set and what the two do to a bit, the
uint64 range of the words, the coverage rows built by `fillRow`.  Core Lean only.
-/
import Interceptor.Model.FlexFec
import Interceptor.Base.GoBitmap
namespace Interceptor.FlexFec

theorem getD_ge {α : Type} (l : List α) (i : Nat) (d : α) (h : l.length ≤ i) : l.getD i d = d := by
  rw [List.getD_eq_getElem?_getD, List.getElem?_eq_none h]; rfl

theorem getD_replicate {α : Type} (n i : Nat) (d : α) : (List.replicate n d).getD i d = d := by
  rw [List.getD_eq_getElem?_getD, List.getElem?_replicate]
  split <;> rfl

theorem or_two_pow (x k : Nat) (h : x < 2 ^ k) : x ||| 2 ^ k = x + 2 ^ k := by
  rw [Nat.or_comm, Nat.add_comm, ← Nat.one_mul (2 ^ k)]
  exact GoSem.or_field 1 x k h

/-- the probe word of `SetBit`/`GetBit`: `uint64(1) << (63 - j)`, `j` the index inside the word.  The count is
computed in uint32: for `j > 63` it wraps to 2^32 - 64 or more and the bit falls off the word. -/
def probe (j : Nat) : Nat := if j ≤ 63 then 1 <<< (63 - j) else 0

theorem probe_lt (j : Nat) : probe j < 2 ^ 64 := by
  unfold probe
  split
  · rw [Nat.one_shiftLeft]; exact Nat.pow_lt_pow_right (by decide) (by omega)
  · decide

theorem setBit_lo (b : BitArray) (i : Nat) (h : i < 64) : b.setBit i = { b with lo := b.lo ||| probe i } := by
  rw [BitArray.setBit, if_pos h, probe, if_pos (show i ≤ 63 by omega)]

theorem setBit_hi (b : BitArray) (i : Nat) (h : ¬ i < 64) :
    b.setBit i = { b with hi := b.hi ||| probe (i - 64) } := by
  rw [BitArray.setBit, if_neg h, probe]
  split
  · rfl
  · rw [Nat.or_zero]

theorem getBit_lo (b : BitArray) (i : Nat) (h : i < 64) :
    b.getBit i = if b.lo &&& probe i > 0 then 1 else 0 := by
  rw [BitArray.getBit, if_pos h, probe, if_pos (show i ≤ 63 by omega)]

theorem getBit_hi (b : BitArray) (i : Nat) (h : ¬ i < 64) :
    b.getBit i = if b.hi &&& probe (i - 64) > 0 then 1 else 0 := by
  rw [BitArray.getBit, if_neg h, probe]
  split
  · rfl
  · rw [Nat.and_zero, if_neg (Nat.lt_irrefl 0)]

theorem setBit_bounds (b : BitArray) (i : Nat) (h : b.lo < 2 ^ 64 ∧ b.hi < 2 ^ 64) :
    (b.setBit i).lo < 2 ^ 64 ∧ (b.setBit i).hi < 2 ^ 64 := by
  by_cases hi : i < 64
  · rw [setBit_lo b i hi]; exact ⟨Nat.or_lt_two_pow h.1 (probe_lt i), h.2⟩
  · rw [setBit_hi b i hi]; exact ⟨h.1, Nat.or_lt_two_pow h.2 (probe_lt _)⟩

theorem fillRow_bounds (f n : Nat) : ∀ (fuel c : Nat) (b : BitArray), (b.lo < 2 ^ 64 ∧ b.hi < 2 ^ 64) →
    ((fillRow f n fuel c b).lo < 2 ^ 64 ∧ (fillRow f n fuel c b).hi < 2 ^ 64) := by
  intro fuel
  induction fuel with
  | zero => intro c b h; exact h
  | succ fuel ih =>
    intro c b h
    unfold fillRow
    split
    · exact ih _ _ (setBit_bounds b c h)
    · exact h

theorem and_probe_pos (x j : Nat) (hj : j ≤ 63) : (x &&& probe j > 0) ↔ x.testBit (63 - j) = true := by
  rw [probe, if_pos hj, Nat.one_shiftLeft, GoSem.and_two_pow_eq]
  cases x.testBit (63 - j) <;> simp [Nat.two_pow_pos]

theorem ite_one_iff (P : Prop) [Decidable P] : ((if P then 1 else 0 : Nat) = 1) ↔ P := by
  split <;> simp [*]

theorem testBit_or_probe (x j k : Nat) (hj : j ≤ 63) (hk : k ≤ 63) :
    (x ||| probe j).testBit (63 - k) = (decide (j = k) || x.testBit (63 - k)) := by
  have : (63 - j = 63 - k) ↔ j = k := by omega
  rw [probe, if_pos hj, Nat.one_shiftLeft, Nat.testBit_or, Nat.testBit_two_pow, Bool.or_comm, decide_eq_decide.2 this]

/-- the bit of a BitArray at index `j` (most significant first), as a Bool. -/
def bitOf (b : BitArray) (j : Nat) : Bool :=
  if j < 64 then b.lo.testBit (63 - j) else b.hi.testBit (127 - j)

theorem getBit_eq_one (b : BitArray) (j : Nat) (hj : j < 128) :
    (b.getBit j = 1) ↔ bitOf b j = true := by
  unfold bitOf
  by_cases h : j < 64
  · rw [getBit_lo b j h, if_pos h, ite_one_iff, and_probe_pos _ _ (by omega)]
  · rw [getBit_hi b j h, if_neg h, ite_one_iff, and_probe_pos _ _ (by omega), show 63 - (j - 64) = 127 - j by omega]

theorem getBit_beq_one (b : BitArray) (j : Nat) (hj : j < 128) :
    (b.getBit j == 1) = bitOf b j := by
  have := getBit_eq_one b j hj
  by_cases h : bitOf b j = true
  · simp [h, this.2 h]
  · have h' : ¬ b.getBit j = 1 := fun e => h (this.1 e)
    simp at h; simp [h, h']

theorem bitOf_setBit (b : BitArray) (i j : Nat) (hi : i < 128) (hj : j < 128) :
    bitOf (b.setBit i) j = (decide (i = j) || bitOf b j) := by
  unfold bitOf
  by_cases h : i < 64
  · rw [setBit_lo b i h]
    by_cases h2 : j < 64
    · rw [if_pos h2, if_pos h2]; exact testBit_or_probe _ _ _ (by omega) (by omega)
    · rw [if_neg h2, if_neg h2, decide_eq_false (by omega), Bool.false_or]
  · rw [setBit_hi b i h]
    by_cases h2 : j < 64
    · rw [if_pos h2, if_pos h2, decide_eq_false (by omega), Bool.false_or]
    · rw [if_neg h2, if_neg h2, show 127 - j = 63 - (j - 64) by omega]
      rw [testBit_or_probe _ _ _ (by omega) (by omega), decide_eq_decide.2 (show i - 64 = j - 64 ↔ i = j by omega)]

theorem bitOf_empty (j : Nat) : bitOf BitArray.empty j = false := by
  unfold bitOf BitArray.empty; simp

theorem add_le_of_mod_eq (f c j : Nat) (hlt : c < j) (h : j % f = c % f) : c + f ≤ j := by
  have := Nat.le_of_dvd (by omega) (Nat.dvd_of_mod_eq_zero (Nat.sub_mod_eq_zero_of_mod_eq h))
  omega

/-- bits of a coverage row after the fill loop (enough fuel): the loop sets the `j < n` from `c` on in its
residue class. -/
theorem bitOf_fillRow (f n : Nat) (hf : 1 ≤ f) (hn : n ≤ 128) (j : Nat) (hj : j < 128) :
    ∀ (fuel c : Nat) (b : BitArray), n ≤ c + fuel →
      bitOf (fillRow f n fuel c b) j = (bitOf b j || decide (c ≤ j ∧ j < n ∧ j % f = c % f)) := by
  intro fuel
  induction fuel with
  | zero =>
    intro c b h
    rw [fillRow, decide_eq_false (by omega), Bool.or_false]
  | succ fuel ih =>
    intro c b h
    unfold fillRow
    split
    · next hc =>
      rw [ih (c + f) (b.setBit c) (by omega), bitOf_setBit b c j (by omega) hj, Nat.add_mod_right, Bool.or_comm (decide _),
        Bool.or_assoc, ← Bool.decide_or]
      congr 2
      apply propext
      constructor
      · rintro (e | ⟨h1, h2, h3⟩)
        · exact e ▸ ⟨Nat.le_refl _, hc, rfl⟩
        · exact ⟨by omega, h2, h3⟩
      · rintro ⟨h1, h2, h3⟩
        by_cases e : c = j
        · exact .inl e
        · exact .inr ⟨add_le_of_mod_eq f c j (by omega) h3, h2, h3⟩
    · rw [decide_eq_false (by omega), Bool.or_false]

theorem buildMasks_getD (n f i : Nat) (hi : i < 110) :
    (buildMasks n f).getD i BitArray.empty = if i < f then fillRow f n n i BitArray.empty else BitArray.empty := by
  unfold buildMasks maxFecPackets
  simp [List.getD_eq_getElem?_getD, hi]

theorem buildMasks_bounds (n f i : Nat) :
    ((buildMasks n f).getD i BitArray.empty).lo < 2 ^ 64 ∧ ((buildMasks n f).getD i BitArray.empty).hi < 2 ^ 64 := by
  by_cases hi : i < 110
  · rw [buildMasks_getD n f i hi]
    split
    · exact fillRow_bounds _ _ _ _ _ (by decide)
    · decide
  · rw [getD_ge _ _ _ (by simp [buildMasks, maxFecPackets]; omega)]
    decide

theorem bitOf_buildMasks (n f i j : Nat) (hn : n ≤ 128) (hi : i < 110) (hj : j < 128) :
    bitOf ((buildMasks n f).getD i BitArray.empty) j = decide (i < f ∧ j < n ∧ j % f = i) := by
  rw [buildMasks_getD n f i hi]
  split
  · next h =>
    rw [bitOf_fillRow f n (by omega) hn j hj n i _ (by omega), bitOf_empty, Bool.false_or, Nat.mod_eq_of_lt h]
    congr 1
    apply propext
    constructor
    · rintro ⟨_, h2, h3⟩; exact ⟨h, h2, h3⟩
    · rintro ⟨_, h2, h3⟩; exact ⟨h3 ▸ Nat.mod_le j f, h2, h3⟩
  · next h => rw [bitOf_empty, decide_eq_false (fun h' => h h'.1)]

end Interceptor.FlexFec
