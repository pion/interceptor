/-
The running-sum decoder (`TwccSpec.timed`) on the statuses (`pair`) of a feedback.  `FbLog f syms log`: decoding
what `f` holds reports every `(sequence number, time)` of `log`, each time within 125 µs (`Reports`); it holds after
`setBase` and is kept by `add` (`fbLog_setBase`, `fbLog_add`), hence for every `BuiltLog`.  Then the packet side:
`Packet.statuses`, `Packet.decodeStruct`, what `getRTCP` puts there, and `timed_shift`.
-/
import Interceptor.Proofs.TwccFeedback
import Interceptor.Spec.Twcc
namespace Interceptor.Twcc
open Interceptor.TwccSpec (Entry timed)

/-- attach to every received status the next recv delta (in 250 µs ticks), as draft §3.1.5 says. -/
def pair : List Sym → List (Sym × Int) → List (Nat × Option Int)
  | [], _ => []
  | .nr :: ss, ds => (0, none) :: pair ss ds
  | s :: ss, [] => (s.code, none) :: pair ss []
  | s :: ss, d :: ds => (s.code, some (d.2 / 250)) :: pair ss ds

def ticks : List (Nat × Option Int) → Int
  | [] => 0
  | (_, none) :: r => ticks r
  | (_, some d) :: r => d + ticks r

theorem pair_append (a b : List Sym) (ds es : List (Sym × Int))
    (h : ds.length = (a.filter (fun s => decide (s ≠ Sym.nr))).length) :
    pair (a ++ b) (ds ++ es) = pair a ds ++ pair b es := by
  induction a generalizing ds with
  | nil =>
    simp only [List.filter_nil, List.length_nil, List.length_eq_zero_iff] at h
    subst h; simp [pair]
  | cons s a ih =>
    cases s with
    | nr =>
      simp only [List.cons_append, pair]
      rw [ih ds (by simpa using h)]
    | small | large =>
      cases ds with
      | nil => simp at h
      | cons d ds =>
        simp only [List.cons_append, pair]
        rw [ih ds (by simpa using h)]

theorem pair_nrs (n : Nat) (ds : List (Sym × Int)) (rest : List Sym) :
    pair (List.replicate n Sym.nr ++ rest) ds = List.replicate n (0, none) ++ pair rest ds := by
  induction n with
  | zero => simp
  | succ n ih => simp only [List.replicate_succ, List.cons_append, pair, ih]

theorem timed_append (seq : Nat) (acc : Int) (a b : List (Nat × Option Int)) :
    timed seq acc (a ++ b) = timed seq acc a ++ timed (seq + a.length) (acc + 250 * ticks a) b := by
  induction a generalizing seq acc with
  | nil => simp [timed, ticks]
  | cons x a ih =>
    obtain ⟨s, d⟩ := x
    cases d with
    | none =>
      simp only [List.cons_append, timed, ticks, List.length_cons, ih]
      rw [show seq + 1 + a.length = seq + (a.length + 1) by omega]
    | some d =>
      simp only [List.cons_append, timed, ticks, List.length_cons, ih]
      rw [show seq + 1 + a.length = seq + (a.length + 1) by omega,
        show acc + 250 * d + 250 * ticks a = acc + 250 * (d + ticks a) by omega]

/-- a gap of `n` missing numbers and then a received one with a delta of `q` ticks (what one `addReceived`
appends to the statuses) decodes to one timed entry, `n` numbers on and `q` ticks later. -/
theorem timed_gap (seq : Nat) (acc : Int) (n c : Nat) (q : Int) :
    (timed seq acc (List.replicate n (0, none) ++ [(c, some q)])).filter (fun e => e.time.isSome) =
      [⟨(seq + n) % 65536, c, some (acc + 250 * q)⟩] := by
  induction n generalizing seq with
  | zero => simp [timed]
  | succ n ih =>
    simp only [List.replicate_succ, List.cons_append, timed, List.filter_cons, Option.isSome_none,
      Bool.false_eq_true, if_false, ih]
    rw [show seq + 1 + n = seq + (n + 1) by omega]

theorem ticks_gap (n c : Nat) (q : Int) : ticks (List.replicate n (0, none) ++ [(c, some q)]) = q := by
  induction n with
  | zero => simp [ticks]
  | succ n ih => simpa only [List.replicate_succ, List.cons_append, ticks] using ih

/-- one logged addition is reported by one decoded entry. -/
def Reports (e : Entry) (x : Nat × Int) : Prop :=
  e.seq = x.1 ∧ e.status ≠ 0 ∧ ∃ τ, e.time = some τ ∧ -125 ≤ τ - x.2 ∧ τ - x.2 ≤ 125

/-- the received entries of `es` report exactly `log`, in order. -/
def ReportsAll : List Entry → List (Nat × Int) → Prop
  | [], [] => True
  | e :: es, x :: xs => Reports e x ∧ ReportsAll es xs
  | _, _ => False

theorem reportsAll_append {es fs : List Entry} {xs ys : List (Nat × Int)}
    (h1 : ReportsAll es xs) (h2 : ReportsAll fs ys) : ReportsAll (es ++ fs) (xs ++ ys) := by
  induction es generalizing xs with
  | nil => cases xs with
    | nil => simpa using h2
    | cons x xs => simp [ReportsAll] at h1
  | cons e es ih => cases xs with
    | nil => simp [ReportsAll] at h1
    | cons x xs => exact ⟨h1.1, ih h1.2⟩

/-- invariant with the log of additions. -/
structure FbLog (f : Feedback) (syms : List Sym) (log : List (Nat × Int)) : Prop where
  inv : FbInv f syms
  base : f.base < 65536
  next : f.nextSeq = (f.base + syms.length) % 65536
  sum : 250 * ticks (pair syms f.deltas.toList) = (f.deltas.toList.map (·.2)).sum
  rep : ReportsAll ((timed f.base (f.ref64 * 64000) (pair syms f.deltas.toList)).filter
          (fun e => e.time.isSome)) log
  nrs : ∀ x ∈ pair syms f.deltas.toList, x.2 = none → x.1 = 0

theorem fbLog_setBase (s m c seq : Nat) (t : Int) (hs : seq < 65536) :
    FbLog ((newFeedback s m c).setBase seq t) [] [] := by
  refine ⟨fbInv_setBase s m c seq t, hs, ?_, ?_, ?_, ?_⟩ <;>
    simp [newFeedback, Feedback.setBase, pair, ticks, timed, ReportsAll]
  omega

theorem pair_length (a : List Sym) (ds : List (Sym × Int)) : (pair a ds).length = a.length := by
  induction a generalizing ds with
  | nil => simp [pair]
  | cons s a ih => cases s <;> cases ds <;> simp [pair, ih]

theorem ticks_append (a b : List (Nat × Option Int)) : ticks (a ++ b) = ticks a + ticks b := by
  induction a with
  | nil => simp [ticks]
  | cons x a ih => obtain ⟨s, d⟩ := x; cases d <;> simp [ticks, ih] <;> omega

theorem fbLog_extend {f : Feedback} {syms : List Sym} {log : List (Nat × Int)} (h : FbLog f syms log)
    (n : Nat) {sym : Sym} {q : Int}
    (hsym : (sym = Sym.small ∧ 0 ≤ q ∧ q ≤ 255) ∨ (sym = Sym.large ∧ -32768 ≤ q ∧ q ≤ 32767))
    {seq : Nat} (hseq : (f.base + syms.length + n) % 65536 = seq) {t : Int}
    (ht : -125 ≤ f.lastUS + q * 250 - t ∧ f.lastUS + q * 250 - t ≤ 125) :
    FbLog (f.extend n sym q seq) (syms ++ List.replicate n .nr ++ [sym]) (log ++ [(seq, t)]) := by
  have hinv := fbInv_extend h.inv n hsym seq
  have hne : sym ≠ Sym.nr := by rcases hsym with ⟨e, _⟩ | ⟨e, _⟩ <;> rw [e] <;> decide
  have hcode : sym.code ≠ 0 := by cases sym <;> simp [Sym.code] at hne ⊢
  have hpair : pair (syms ++ List.replicate n Sym.nr ++ [sym]) (f.extend n sym q seq).deltas.toList =
      pair syms f.deltas.toList ++ (List.replicate n (0, none) ++ [(sym.code, some q)]) := by
    show pair _ (f.deltas.push (sym, q * 250)).toList = _
    rw [Array.toList_push, List.append_assoc, pair_append _ _ _ _ h.inv.deltas_length, pair_nrs]
    cases sym <;> simp [pair] at hne ⊢
  refine ⟨hinv, h.base, ?_, ?_, ?_, ?_⟩
  · show (seq + 1) % 65536 = (f.base + _) % 65536
    rw [← hseq, Nat.mod_add_mod]
    simp only [List.length_append, List.length_replicate, List.length_cons, List.length_nil,
      Nat.zero_add, Nat.add_assoc]
  · rw [hpair, ticks_append, ticks_gap]
    show _ = ((f.deltas.push (sym, q * 250)).toList.map (·.2)).sum
    rw [Array.toList_push, List.map_append, List.sum_append, ← h.sum]
    simp only [List.map_cons, List.map_nil, List.sum_cons, List.sum_nil]
    rw [Int.mul_add, Int.add_zero, Int.mul_comm 250 q]
  · rw [hpair]
    show ReportsAll ((timed f.base (f.ref64 * 64000) _).filter _) _
    rw [timed_append, List.filter_append, timed_gap, pair_length, h.sum, ← h.inv.time, Int.mul_comm 250 q]
    exact reportsAll_append h.rep ⟨⟨hseq, hcode, _, rfl, ht⟩, trivial⟩
  · intro x hx hnone
    rw [hpair] at hx
    simp only [List.mem_append, List.mem_replicate, List.mem_singleton] at hx
    rcases hx with hx | ⟨_, hx⟩ | hx
    · exact h.nrs x hx hnone
    · rw [hx]
    · rw [hx] at hnone; simp at hnone

theorem fbLog_add {f f' : Feedback} {syms : List Sym} {log : List (Nat × Int)} (h : FbLog f syms log)
    {seq : Nat} {t : Int} (hs : seq < 65536) (hadd : f.addReceived seq t = some f') :
    ∃ syms', FbLog f' syms' (log ++ [(seq, t)]) := by
  obtain ⟨n, sym, q, hn, hq, _, _, _, hsym, rfl⟩ := addReceived_some hadd
  -- the loop of `addReceived` ends at the number received: the statuses so far lead to `next`,
  -- `sub16 seq next` more to `seq`
  have hreach := sub16_reach hs h.next
  have hc := delta250_close (t - f.lastUS)
  rw [← hn] at hreach
  rw [← hq] at hc
  exact ⟨_, fbLog_extend h n hsym hreach (by omega)⟩

theorem timed_length (seq : Nat) (acc : Int) (a : List (Nat × Option Int)) :
    (timed seq acc a).length = a.length := by
  induction a generalizing seq acc with
  | nil => simp [timed]
  | cons x a ih => obtain ⟨s, d⟩ := x; cases d <;> simp [timed, ih]

theorem timed_none (seq : Nat) (acc : Int) (a : List (Nat × Option Int))
    (h : ∀ x ∈ a, x.2 = none → x.1 = 0) : ∀ e ∈ timed seq acc a, e.time = none → e.status = 0 := by
  induction a generalizing seq acc with
  | nil => simp [timed]
  | cons x a ih =>
    obtain ⟨s, d⟩ := x
    cases d with
    | none =>
      intro e he hn
      simp only [timed, List.mem_cons] at he
      rcases he with he | he
      · rw [he]; exact h (s, none) (by simp) rfl
      · exact ih _ _ (fun x hx => h x (by simp [hx])) e he hn
    | some d =>
      intro e he hn
      simp only [timed, List.mem_cons] at he
      rcases he with he | he
      · rw [he] at hn; simp at hn
      · exact ih _ _ (fun x hx => h x (by simp [hx])) e he hn

/-- feedbacks with the log of what was added to them (sequence numbers are uint16). -/
inductive BuiltLog : Feedback → List (Nat × Int) → Prop
  | base (s m c seq : Nat) (t : Int) : seq < 65536 → BuiltLog ((newFeedback s m c).setBase seq t) []
  | add {f f' : Feedback} {log : List (Nat × Int)} (seq : Nat) (t : Int) : BuiltLog f log → seq < 65536 →
      f.addReceived seq t = some f' → BuiltLog f' (log ++ [(seq, t)])

theorem builtLog_inv {f : Feedback} {log : List (Nat × Int)} (h : BuiltLog f log) :
    ∃ syms, FbLog f syms log := by
  induction h with
  | base s m c seq t hs => exact ⟨[], fbLog_setBase s m c seq t hs⟩
  | add seq t _ hs hadd ih =>
    obtain ⟨syms, hi⟩ := ih
    exact fbLog_add hi hs hadd

theorem builtLog_built {f : Feedback} {log : List (Nat × Int)} (h : BuiltLog f log) : Built f := by
  induction h with
  | base s m c seq t _ => exact Built.base s m c seq t
  | add seq t _ _ hadd ih => exact Built.add seq t ih hadd

/-- the statuses of a packet (first `count` symbols of the decoded chunks) paired with its deltas. -/
def Packet.statuses (p : Packet) : List (Nat × Option Int) :=
  pair ((decodeChunks p.chunks).take p.count) p.deltas

/-- the packet decoded as the draft prescribes, from the structured (chunk / delta) form; the
reference time is the 24-bit field. -/
def Packet.decodeStruct (p : Packet) : List Entry :=
  timed p.base (((p.ref % 16777216 : Nat) : Int) * 64000) p.statuses

theorem getRTCP_statuses {f : Feedback} {syms : List Sym} (h : FbInv f syms) (hc : f.count < 65536) :
    f.getRTCP.count = syms.length ∧ f.getRTCP.statuses = pair syms f.deltas.toList := by
  obtain ⟨_, ⟨pad, hdec⟩, hd, hcnt⟩ := getRTCP_spec h
  rw [Nat.mod_eq_of_lt (h.count ▸ hc)] at hcnt
  refine ⟨hcnt, ?_⟩
  unfold Packet.statuses
  rw [hd, hcnt, hdec, List.take_left' rfl]

theorem getRTCP_delta_kinds {f : Feedback} {syms : List Sym} (h : FbInv f syms) (hc : f.count < 65536) :
    f.getRTCP.deltas.map (·.1) =
      ((decodeChunks f.getRTCP.chunks).take f.getRTCP.count).filter (fun s => decide (s ≠ Sym.nr)) := by
  obtain ⟨_, ⟨pad, hdec⟩, hd, _⟩ := getRTCP_spec h
  rw [hd, (getRTCP_statuses h hc).1, hdec, h.kinds, List.take_left' rfl]

/-- add `K` µs to every decoded time (used with `K` a multiple of the reference-time range). -/
def shiftEntry (K : Int) (e : Entry) : Entry := { e with time := e.time.map (· + K) }

theorem timed_shift (seq : Nat) (acc K : Int) (l : List (Nat × Option Int)) :
    (timed seq acc l).map (shiftEntry K) = timed seq (acc + K) l := by
  induction l generalizing seq acc with
  | nil => simp [timed]
  | cons x l ih =>
    obtain ⟨s, d⟩ := x
    cases d with
    | none => simp [timed, shiftEntry, ih]
    | some d =>
      simp only [timed, List.map_cons, ih, shiftEntry, Option.map_some]
      rw [show acc + 250 * d + K = acc + K + 250 * d by omega]

end Interceptor.Twcc
