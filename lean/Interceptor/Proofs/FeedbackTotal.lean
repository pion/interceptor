/- loop invariants of the feedback decoders: no panic (C02), and what the adapter returns are history
entries (C09.T2) -/
import Interceptor.Proofs.FeedbackBasics
import Interceptor.Model.FeedbackAdapter
import Interceptor.Spec.Feedback
import Interceptor.Model.Rtpfb
namespace Interceptor
open Feedback

namespace FeedbackAdapter

theorem get_mem (h : Hist) (ssrc seq : Nat) (p : Ack) (hg : get h ssrc seq = some p) :
    p ∈ h ∧ p.ssrc = ssrc ∧ p.seq = seq := by
  unfold get at hg
  have hk := List.find?_some hg
  simp only [sameKey, Bool.and_eq_true, beq_iff_eq] at hk
  exact ⟨List.mem_of_find?_eq_some hg, hk⟩

/-- an entry is the zero value (number not in the history) or the recorded packet with (at
most) its arrival time changed. -/
theorem entry_cases (h : Hist) (i : Nat) (t : Option Int) :
    (get h 0 i = none ∧ entry h i t = Ack.zero) ∨
    ∃ p, get h 0 i = some p ∧ p ∈ h ∧ p.ssrc = 0 ∧ p.seq = i ∧ (entry h i t).seq = p.seq ∧
      (entry h i t).ssrc = p.ssrc ∧ (entry h i t).size = p.size ∧
      (entry h i t).departure = p.departure ∧ (entry h i t).ecn = p.ecn ∧
      (entry h i t).arrival = t.getD p.arrival := by
  unfold entry
  cases hg : get h 0 i with
  | none => exact .inl ⟨rfl, rfl⟩
  | some p =>
    obtain ⟨hm, hs, hq⟩ := get_mem h 0 i p hg
    refine .inr ⟨p, rfl, hm, hs, hq, ?_⟩
    cases t <;> simp

/-- the symbol loop never panics; on success the delta index stays within the delta list and every
entry produced is the history entry of some number. -/
theorem symLoop_sat (h : Hist) (deltas : List Int) (ss : List Nat) :
    ∀ (i di : Nat) (ref : Int), di ≤ deltas.length →
      (symLoop h deltas ss i di ref).sat
        (fun r => r.1 ≤ deltas.length ∧ ∀ a ∈ r.2.2, ∃ q t, a = entry h q t) := by
  induction ss with
  | nil => intro i di ref hd; exact ⟨hd, fun a ha => nomatch ha⟩
  | cons s ss ih =>
    intro i di ref hd
    -- either branch: the rest of the symbols by `ih`, one more entry in front
    have step : ∀ (di' : Nat) (ref' : Int) (t : Option Int), di' ≤ deltas.length →
        (do let (n, r, rest) ← symLoop h deltas ss ((i + 1) % 65536) di' ref'
            pure (n, r, entry h i t :: rest) : Res (Nat × Int × List Ack)).sat
          (fun r => r.1 ≤ deltas.length ∧ ∀ a ∈ r.2.2, ∃ q t, a = entry h q t) := by
      intro di' ref' t hd'
      refine Res.sat_bind (ih _ di' ref' hd') ?_
      intro ⟨n, r, acks⟩ ⟨h1, h3⟩
      refine ⟨h1, fun a ha => ?_⟩
      rcases List.mem_cons.mp ha with rfl | ha
      · exact ⟨_, _, rfl⟩
      · exact h3 a ha
    unfold symLoop
    by_cases h0 : s = symNotReceived
    · rw [if_pos h0]; exact step di ref none hd
    · rw [if_neg h0]
      by_cases hg : (deltas.length : Int) - 1 < (di : Int)
      · rw [if_pos hg]; trivial
      · have hlt : di < deltas.length := by omega
        rw [if_neg hg, idx_lt _ _ _ hlt]
        exact step (di + 1) _ (some _) hlt

theorem chunkLoop_cons (h : Hist) (c : Chunk) (cs : List Chunk) (index : Nat) (ref : Int) (deltas : List Int)
    (hc : c ≠ .other) :
    chunkLoop h (c :: cs) index ref deltas =
      (do
        let (n, ref', acks) ← symLoop h deltas (Spec.expand c) index 0 ref
        let deltas' ← sliceFrom "feedback_adapter.go: recvDeltas[n:]" deltas n
        let rest ← chunkLoop h cs ((index + acks.length) % 65536) ref' deltas'
        pure (acks ++ rest)) := by
  cases c with
  | other => exact absurd rfl hc
  | rl sym run => rw [chunkLoop]; rfl
  | sv syms => rw [chunkLoop]; rfl

/-- the chunk loop never panics (`deltas[deltaIndex]`, `recvDeltas[n:]`), and every acknowledgement it
returns is the history entry of some number. -/
theorem chunkLoop_sat (h : Hist) (cs : List Chunk) :
    ∀ (index : Nat) (ref : Int) (deltas : List Int),
      (chunkLoop h cs index ref deltas).sat (fun acks => ∀ a ∈ acks, ∃ q t, a = entry h q t) := by
  induction cs with
  | nil => intro _ _ _ a ha; exact nomatch ha
  | cons c cs ih =>
    intro index ref deltas
    by_cases hc : c = .other
    · subst hc; rw [chunkLoop]; trivial
    · rw [chunkLoop_cons h c cs index ref deltas hc]
      refine Res.sat_bind (symLoop_sat h deltas _ index 0 ref (Nat.zero_le _)) ?_
      intro ⟨n, r', acks⟩ ⟨hn, hacks⟩
      simp only [sliceFrom, hn, if_true, Res.bind_ok]
      refine Res.sat_bind (ih _ _ _) ?_
      intro rest hrest a ha
      rcases List.mem_append.mp ha with ha | ha
      · exact hacks a ha
      · exact hrest a ha

end FeedbackAdapter

namespace Rtpfb

theorem metricLoop_ok (ref : Int) (begin : Nat) (ms : List Metric) :
    ∀ (i : Nat) (latest : Int) (reports : List RAck), reports.length = i + ms.length →
      ∃ r, metricLoop ref begin ms i latest reports = .ok r := by
  induction ms with
  | nil => intro _ _ _ _; exact ⟨_, rfl⟩
  | cons m ms ih =>
    intro i latest reports hl
    unfold metricLoop
    have hi : i < reports.length := by simp at hl; omega
    by_cases hr : m.received
    · simp only [hr, if_true, setIdx, hi, Res.bind_ok]
      exact ih _ _ _ (by simp at hl ⊢; omega)
    · simp only [hr, setIdx, hi, if_true, Res.bind_ok]
      exact ih _ _ _ (by simp at hl ⊢; omega)

theorem blockLoop_ok (ref : Int) (bs : List Block) :
    ∀ (res : List (Nat × List RAck)) (latest : Int) (found : Bool),
      ∃ r, blockLoop ref bs res latest found = .ok r := by
  induction bs with
  | nil => intro _ _ _; exact ⟨_, rfl⟩
  | cons b bs ih =>
    intro res latest found
    unfold blockLoop convertMetricBlock
    obtain ⟨r, hr⟩ := metricLoop_ok ref b.begin b.metrics 0 0
      (List.replicate b.metrics.length ⟨0, false, 0, 0⟩) (by simp)
    rw [hr]
    obtain ⟨la, acks⟩ := r
    simp only [Res.bind_ok]
    split
    · exact ih _ _ _
    · exact ih _ _ _

end Rtpfb
end Interceptor
