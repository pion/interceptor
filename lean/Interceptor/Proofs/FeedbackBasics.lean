/- helper lemmas about the panic monad used by the C09 / C02 feedback proofs -/
import Interceptor.Base.Res
namespace Interceptor

@[simp] theorem Res.bind_ok {α β} (a : α) (f : α → Res β) : (Res.ok a >>= f) = f a := rfl
@[simp] theorem Res.bind_err {α β} (e : String) (f : α → Res β) : (Res.err e >>= f) = Res.err e := rfl
@[simp] theorem Res.bind_panic {α β} (s : String) (f : α → Res β) : (Res.panic s >>= f) = Res.panic s := rfl
@[simp] theorem Res.pure_eq {α} (a : α) : (pure a : Res α) = Res.ok a := rfl

theorem Res.bind_ok_right {α} (x : Res α) : (x >>= fun a => Res.ok a) = x := by cases x <;> rfl

theorem Res.bind_assoc {α β γ} (x : Res α) (f : α → Res β) (g : β → Res γ) :
    x >>= f >>= g = x >>= fun a => f a >>= g := by
  cases x <;> rfl

theorem idx_lt {α} (site : String) (xs : List α) (i : Nat) (h : i < xs.length) :
    idx site xs i = .ok xs[i] := by
  unfold idx
  simp [h]

/-- `r` does not panic, and satisfies `p` when it returns normally. -/
def Res.sat {α} (p : α → Prop) : Res α → Prop
  | .ok a => p a
  | .err _ => True
  | .panic _ => False

theorem Res.sat_bind {α β} {p : α → Prop} {q : β → Prop} {r : Res α} {f : α → Res β}
    (hr : r.sat p) (hf : ∀ a, p a → (f a).sat q) : (r >>= f).sat q := by
  cases r with
  | ok a => exact hf a hr
  | err e => trivial
  | panic s => exact hr.elim

theorem Res.sat_mono {α} {p q : α → Prop} {r : Res α} (hr : r.sat p) (h : ∀ a, p a → q a) : r.sat q := by
  cases r with
  | ok a => exact h a hr
  | err e => trivial
  | panic s => exact hr.elim

theorem Res.sat_ne_panic {α} {p : α → Prop} {r : Res α} (hr : r.sat p) (s : String) : r ≠ .panic s := by
  intro h; rw [h] at hr; exact hr

theorem Res.sat_of_ok {α} {p : α → Prop} {r : Res α} {a : α} (hr : r.sat p) (h : r = .ok a) : p a := by
  rw [h] at hr; exact hr
end Interceptor
