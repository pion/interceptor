/-
Every additive counter of the recorder's fold equals the recount.
-/
import Interceptor.Proofs.StatsSteps
namespace Interceptor.Stats
open Interceptor.Stats.Spec

instance : Add Counters where
  add a b :=
    { inPR := a.inPR + b.inPR, inHB := a.inHB + b.inHB, inB := a.inB + b.inB, inFIR := a.inFIR + b.inFIR,
      inPLI := a.inPLI + b.inPLI, inNACK := a.inNACK + b.inNACK, outPS := a.outPS + b.outPS,
      outBS := a.outBS + b.outBS, outHB := a.outHB + b.outHB, outNACK := a.outNACK + b.outNACK,
      outFIR := a.outFIR + b.outFIR, outPLI := a.outPLI + b.outPLI, roReports := a.roReports + b.roReports }

theorem Counters.add_def (a b : Counters) : a + b =
    { inPR := a.inPR + b.inPR, inHB := a.inHB + b.inHB, inB := a.inB + b.inB, inFIR := a.inFIR + b.inFIR,
      inPLI := a.inPLI + b.inPLI, inNACK := a.inNACK + b.inNACK, outPS := a.outPS + b.outPS,
      outBS := a.outBS + b.outBS, outHB := a.outHB + b.outHB, outNACK := a.outNACK + b.outNACK,
      outFIR := a.outFIR + b.outFIR, outPLI := a.outPLI + b.outPLI, roReports := a.roReports + b.roReports } := rfl

theorem Counters.add_assoc (a b c : Counters) : a + b + c = a + (b + c) := by
  simp only [Counters.add_def, Nat.add_assoc]

theorem recountW_append (s : Nat) (a b : List Event) :
    recountW s (a ++ b) = recountW s a + recountW s b := by
  simp only [recountW, received, sent, rtcpInPkts, rtcpOutPkts, Counters.add_def, List.filterMap_append,
    List.flatMap_append, List.countP_append, List.length_append, List.map_append, List.sum_append]

theorem xrOutBlock_counters (st : IStats) (b : XrBlock) : countersOf (xrOutBlock st b) = countersOf st := by
  cases b <;> rfl

theorem recountW_in_single (s : Nat) (now : Int) (p : Rtcp) :
    recountW s [.rtcpIn now [p]] =
      { inPR := 0, inHB := 0, inB := 0, inFIR := 0, inPLI := 0, inNACK := 0, outPS := 0, outBS := 0, outHB := 0,
        outNACK := if isNackFor s p then 1 else 0
        outFIR := if isFirInFor s p then 1 else 0
        outPLI := if isPliFor s p then 1 else 0
        roReports := if isSrFor s p then 1 else 0 } := by
  simp only [recountW, rtcpInPkts, List.flatMap_cons, List.flatMap_nil, List.append_nil, List.countP_cons,
    List.countP_nil, Nat.zero_add]
  rfl

theorem recountW_out_single (s : Nat) (p : Rtcp) :
    recountW s [.rtcpOut [p]] =
      { inPR := 0, inHB := 0, inB := 0
        inFIR := if isFirOutFor s p then 1 else 0
        inPLI := if isPliFor s p then 1 else 0
        inNACK := if isNackFor s p then 1 else 0
        outPS := 0, outBS := 0, outHB := 0, outNACK := 0, outFIR := 0, outPLI := 0, roReports := 0 } := by
  simp only [recountW, rtcpOutPkts, List.flatMap_cons, List.flatMap_nil, List.append_nil, List.countP_cons,
    List.countP_nil, Nat.zero_add]
  rfl

theorem singleton_contains (m s : Nat) : [m].contains s = (m == s) := by
  rw [List.contains_cons, List.contains_nil, Bool.or_false, BEq.comm]

/-- one incoming packet, as an event of its own, adds its recount. -/
theorem inStep_counters (s : Nat) (rate : Rat) (now : Int) (st : IStats) (p : Rtcp) :
    countersOf (inStep s rate now st p) = countersOf st + recountW s [.rtcpIn now [p]] := by
  rw [recountW_in_single]
  -- only a packet addressed to `s` moves a counter, and only that of its kind, by one
  cases p with
  | nack sender media =>
    cases h : media == s
    · rw [inStep_skip _ _ _ _ _ ((singleton_contains media s).trans h)]
      simp only [isNackFor, h]; rfl
    · rw [inStep_hit _ _ _ _ _ ((singleton_contains media s).trans h)]
      simp only [inSwitch, isNackFor, h, if_pos (beq_iff_eq.mp h)]; rfl
  | pli sender media =>
    cases h : media == s
    · rw [inStep_skip _ _ _ _ _ ((singleton_contains media s).trans h)]
      simp only [isPliFor, h]; rfl
    · rw [inStep_hit _ _ _ _ _ ((singleton_contains media s).trans h)]
      simp only [inSwitch, isPliFor, h, if_pos (beq_iff_eq.mp h)]; rfl
  | fir sender media es =>
    cases h : es.contains s
    · rw [inStep_skip _ _ _ _ _ h]
      simp only [isFirInFor, h]; rfl
    · rw [inStep_hit _ _ _ _ _ h]
      simp only [isFirInFor, h]; rfl
  | sr ssrc ntp pc oc rs =>
    have hd := sr_dest_contains ssrc s rs
    cases hc : ssrc == s || rs.any (·.ssrc == s)
    · rw [inStep_skip _ _ _ _ _ (hd.trans hc)]
      simp only [isSrFor, hc]; rfl
    · rw [inStep_hit _ _ _ _ _ (hd.trans hc)]
      simp only [inSwitch]
      rw [(recordIncomingRR_writes s rate now rs).frame countersOf fun _ _ => rfl]
      simp only [isSrFor, hc]; rfl
  | rr ssrc rs =>
    simp only [inStep]
    split
    · rfl
    · exact (recordIncomingRR_writes s rate now rs).frame countersOf (fun _ _ => rfl) st
  | xr ssrc bs =>
    simp only [inStep]
    split
    · rfl
    · exact (recordIncomingXR_writes s now bs).frame countersOf (fun _ _ => rfl) st
  | other d =>
    simp only [inStep]
    split <;> rfl

theorem outStep_counters (s : Nat) (st : IStats) (p : Rtcp) :
    countersOf (outStep s st p) = countersOf st + recountW s [.rtcpOut [p]] := by
  rw [recountW_out_single]
  cases p with
  | nack sender media =>
    cases h : media == s <;>
    · simp only [outStep, Rtcp.dest, singleton_contains, isNackFor, h]; rfl
  | pli sender media =>
    cases h : media == s <;>
    · simp only [outStep, Rtcp.dest, singleton_contains, isPliFor, h]; rfl
  | fir sender media es =>
    cases h : es.contains s <;>
    · simp only [outStep, Rtcp.dest, isFirOutFor, h]; rfl
  | sr ssrc ntp pc oc rs =>
    simp only [outStep]
    split <;> rfl
  | xr ssrc bs => exact foldl_frame _ countersOf xrOutBlock_counters bs st
  | rr ssrc rs => rfl
  | other d => rfl

theorem recountW_in_cons (s : Nat) (now : Int) (p : Rtcp) (pkts : List Rtcp) :
    recountW s [.rtcpIn now (p :: pkts)] = recountW s [.rtcpIn now [p]] + recountW s [.rtcpIn now pkts] := by
  rw [← recountW_append]
  simp only [recountW, received, sent, rtcpInPkts, rtcpOutPkts, List.cons_append, List.nil_append,
    List.filterMap_cons, List.flatMap_cons, List.flatMap_nil, List.append_nil]

theorem recountW_out_cons (s : Nat) (p : Rtcp) (pkts : List Rtcp) :
    recountW s [.rtcpOut (p :: pkts)] = recountW s [.rtcpOut [p]] + recountW s [.rtcpOut pkts] := by
  rw [← recountW_append]
  simp only [recountW, received, sent, rtcpInPkts, rtcpOutPkts, List.cons_append, List.nil_append,
    List.filterMap_cons, List.flatMap_cons, List.flatMap_nil, List.append_nil]

theorem recordIncomingRTP_counters (s : Nat) (rate : Rat) (now : Int) (st : IStats) (p : Rtp) (h : p.ssrc = s) :
    countersOf (recordIncomingRTP s rate st now p) =
      { countersOf st with inPR := st.inPR + 1, inHB := st.inHB + p.hs, inB := st.inB + p.len } := by
  rw [recordIncomingRTP_eq s rate now st p h]; rfl

theorem recordOutgoingRTP_counters (s : Nat) (st : IStats) (p : Rtp) (h : p.ssrc = s) :
    countersOf (recordOutgoingRTP s st p) =
      { countersOf st with outPS := st.outPS + 1, outBS := st.outBS + (p.hs + p.len), outHB := st.outHB + p.hs } := by
  rw [recordOutgoingRTP_eq s st p h]; rfl

theorem inFold_counters (s : Nat) (rate : Rat) (now : Int) (pkts : List Rtcp) (st : IStats) :
    countersOf (pkts.foldl (inStep s rate now) st) = countersOf st + recountW s [.rtcpIn now pkts] := by
  induction pkts generalizing st with
  | nil => rfl
  | cons p pkts ih => rw [List.foldl_cons, ih, inStep_counters, Counters.add_assoc, ← recountW_in_cons]

theorem outFold_counters (s : Nat) (pkts : List Rtcp) (st : IStats) :
    countersOf (pkts.foldl (outStep s) st) = countersOf st + recountW s [.rtcpOut pkts] := by
  induction pkts generalizing st with
  | nil => rfl
  | cons p pkts ih => rw [List.foldl_cons, ih, outStep_counters, Counters.add_assoc, ← recountW_out_cons]

theorem recStep_counters (s : Nat) (rate : Rat) (st : IStats) (e : Event) :
    countersOf (recStep s rate st e) = countersOf st + recountW s [e] := by
  cases e with
  | bind s' r => rfl
  | close => rfl
  | rtcpIn now pkts => exact inFold_counters s rate now pkts st
  | rtcpOut pkts => exact outFold_counters s pkts st
  | rtpIn now via p =>
    rw [recStep_rtpIn]
    simp only [recountW, received, List.filterMap_cons]
    split
    · next h => rw [recordIncomingRTP_counters s rate now st p h.2]; rfl
    · rfl
  | rtpOut via p =>
    rw [recStep_rtpOut]
    simp only [recountW, sent, List.filterMap_cons]
    split
    · next h => rw [recordOutgoingRTP_counters s st p h.2]; rfl
    · rfl

theorem fold_counters (s : Nat) (rate : Rat) (w : List Event) (st : IStats) :
    countersOf (w.foldl (recStep s rate) st) = countersOf st + recountW s w := by
  induction w generalizing st with
  | nil => simp [recountW, received, sent, rtcpInPkts, rtcpOutPkts, Counters.add_def, countersOf]
  | cons e w ih => rw [List.foldl_cons, ih, recStep_counters, Counters.add_assoc, ← recountW_append]; rfl

theorem fold_counters_init (s : Nat) (rate : Rat) (w : List Event) :
    countersOf (w.foldl (recStep s rate) {}) = recountW s w := by
  rw [fold_counters]
  simp [Counters.add_def, countersOf, recountW]

end Interceptor.Stats
