/-
What `Recorder.Record` does to the arrival map and the cursor.
-/
import Interceptor.Proofs.TwccBuild
namespace Interceptor.Twcc
open ArrivalMap

theorem get_nonneg_window (m : ArrivalMap) (x : Int) (h : 0 ≤ m.get x) : m.beginSN ≤ x ∧ x < m.endSN := by
  rw [get_def] at h
  by_cases hx : x < m.beginSN ∨ x ≥ m.endSN
  · simp [hx] at h
  · omega

/-- `maybeCullOldPackets`: once the cursor has reached the end of the map and 500 ms have passed, entries older
than the window are removed. -/
def Recorder.cull (r : Recorder) (sn t : Int) : Recorder :=
  match r.start with
  | some s =>
    if s ≥ r.map.endSN ∧ t ≥ packetWindowMicroseconds then
      { r with map := r.map.removeOld sn (t - packetWindowMicroseconds) }
    else r
  | none => r

/-- `if r.startSequenceNumber == nil || sequenceNumber < *r.startSequenceNumber`: the cursor moves down to `sn`. -/
def Recorder.lower (r : Recorder) (sn : Int) : Recorder :=
  match r.start with
  | none => { r with start := some sn }
  | some s => if sn < s then { r with start := some sn } else r

/-- the rest of `Record`: `AddPacket` unless already received, then the cursor is raised to the window. -/
def Recorder.insert (r : Recorder) (sn t : Int) : Recorder :=
  if r.map.hasReceived sn then r else
  let r := { r with map := r.map.addPacket sn t, held := r.held + 1 }
  match r.start with
  | some s => if s < r.map.beginSN then { r with start := some r.map.beginSN } else r
  | none => r

/-- `Record` is its three steps in a row. -/
theorem record_steps (r : Recorder) (ssrc seq : Nat) (t : Int) :
    r.record ssrc seq t =
      (({ r with media := ssrc, unw := (Unwrapper.unwrap r.unw seq).1 }.cull (Unwrapper.unwrap r.unw seq).2 t).lower
        (Unwrapper.unwrap r.unw seq).2).insert (Unwrapper.unwrap r.unw seq).2 t := rfl

/-- what `Recorder.cull` does to the map, given the cursor. -/
def culled (m : ArrivalMap) (start : Option Int) (sn t : Int) : ArrivalMap :=
  match start with
  | some s => if s ≥ m.endSN ∧ t ≥ packetWindowMicroseconds then m.removeOld sn (t - packetWindowMicroseconds) else m
  | none => m

/-- the cursor after `Recorder.lower`. -/
def lowered (start : Option Int) (sn : Int) : Int :=
  match start with
  | none => sn
  | some s => if sn < s then sn else s

theorem cull_eq (r : Recorder) (sn t : Int) : r.cull sn t = { r with map := culled r.map r.start sn t } := by
  unfold Recorder.cull culled
  split
  · split <;> rfl
  · rfl

theorem lower_eq (r : Recorder) (sn : Int) : r.lower sn = { r with start := some (lowered r.start sn) } := by
  unfold Recorder.lower lowered
  split
  · rfl
  · next s hs =>
    split
    · rfl
    · rw [← hs]

/-- what `Recorder.insert` does to the map and to a cursor `s`. -/
def addCore (m : ArrivalMap) (s sn t : Int) : ArrivalMap × Int :=
  if m.hasReceived sn then (m, s)
  else
    let m2 := m.addPacket sn t
    (m2, if s < m2.beginSN then m2.beginSN else s)

theorem insert_eq (r : Recorder) (sn t s : Int) (hs : r.start = some s) :
    ∃ held, r.insert sn t =
      { r with map := (addCore r.map s sn t).1, start := some (addCore r.map s sn t).2, held := held } := by
  unfold Recorder.insert addCore
  simp only [hs]
  split
  · exact ⟨_, by rw [← hs]⟩
  · split <;> exact ⟨_, rfl⟩

/-- the map/cursor part of `Record`. -/
def recordCore (m : ArrivalMap) (start : Option Int) (sn t : Int) : ArrivalMap × Int :=
  addCore (culled m start sn t) (lowered start sn) sn t

theorem record_eq (r : Recorder) (ssrc seq : Nat) (t : Int) :
    ∃ held, r.record ssrc seq t =
      { media := ssrc, unw := (Unwrapper.unwrap r.unw seq).1, sender := r.sender, fbCnt := r.fbCnt, held := held,
        map := (recordCore r.map r.start (Unwrapper.unwrap r.unw seq).2 t).1,
        start := some (recordCore r.map r.start (Unwrapper.unwrap r.unw seq).2 t).2 } := by
  rw [record_steps, cull_eq, lower_eq]
  exact insert_eq _ _ _ _ rfl

theorem culled_spec (m : ArrivalMap) (hwf : WF m) (s sn t : Int) (h1 : m.beginSN ≤ s) {m1 : ArrivalMap}
    (hm : culled m (some s) sn t = m1) :
    WF m1 ∧ m1.endSN = m.endSN ∧ m1.beginSN ≤ s ∧ (∀ x, m1.get x = m.get x ∨ m1.get x = -1) ∧
    (m1.get sn < 0 → m.get sn < 0) := by
  unfold culled at hm
  simp only at hm
  by_cases hc : s ≥ m.endSN ∧ t ≥ packetWindowMicroseconds
  · rw [if_pos hc] at hm; subst hm
    obtain ⟨w, e, _, b2, g, _, _⟩ := removeOld_spec m hwf sn (t - packetWindowMicroseconds)
    have ho := hwf.order
    refine ⟨w, e, by omega, fun x => ?_, fun hn => ?_⟩
    · rw [g]; split
      · exact Or.inl rfl
      · exact Or.inr rfl
    · -- a received `sn` lies in the window, and culling stops at `sn`
      by_cases hg : 0 ≤ m.get sn
      · have hw := get_nonneg_window m sn hg
        rw [g, if_pos (Int.le_trans b2 (Int.max_le.mpr ⟨hw.1, Int.min_le_left ..⟩))] at hn; exact hn
      · omega
  · rw [if_neg hc] at hm; subst hm
    exact ⟨hwf, rfl, h1, fun x => Or.inl rfl, id⟩

/-- what `Record` may do to an entry: keep it, drop it, or (for the recorded number, if it had none)
set it to the new arrival. -/
def Kept (m m' : ArrivalMap) (sn t : Int) : Prop :=
  ∀ x, m'.get x = m.get x ∨ m'.get x = -1 ∨ (x = sn ∧ m.get x < 0 ∧ m'.get x = t)

theorem addCore_spec (m : ArrivalMap) (w : WF m) (s sn t : Int) (h1 : m.beginSN ≤ s ∨ s = sn) (h2 : s ≤ m.endSN)
    {p : ArrivalMap × Int} (hp : addCore m s sn t = p) :
    WF p.1 ∧ p.1.beginSN ≤ p.2 ∧ p.2 ≤ p.1.endSN ∧ Kept m p.1 sn t ∧ ∀ x, 0 ≤ p.1.get x → s ≤ x → p.2 ≤ x := by
  have ho := w.order
  unfold addCore at hp
  by_cases hrec : m.hasReceived sn = true
  · rw [if_pos hrec] at hp; subst hp
    have hwin := get_nonneg_window m sn (by simpa [hasReceived] using hrec)
    exact ⟨w, by show m.beginSN ≤ s; omega, h2, fun x => Or.inl rfl, fun x _ hx => hx⟩
  · rw [if_neg hrec] at hp; subst hp
    have hg : m.get sn < 0 := by
      have : ¬ (m.get sn ≥ 0) := by simpa [hasReceived] using hrec
      omega
    obtain ⟨w2, hcase⟩ := addPacket_spec m w sn t
    refine ⟨w2, ?_, ?_, fun x => ?_, fun x hx hor => ?_⟩
    · show (m.addPacket sn t).beginSN ≤ (if _ then _ else _); split <;> omega
    · show (if _ then _ else _) ≤ (m.addPacket sn t).endSN
      have ho2 := w2.order
      split
      · exact ho2
      · by_cases hign : sn < m.beginSN ∧ m.endSN - sn > 32768
        · rw [if_pos hign] at hcase; rw [hcase]; exact h2
        · rw [if_neg hign] at hcase; omega
    · show (m.addPacket sn t).get x = _ ∨ _
      by_cases hign : sn < m.beginSN ∧ m.endSN - sn > 32768
      · rw [if_pos hign] at hcase; rw [hcase]; exact Or.inl rfl
      · rw [if_neg hign] at hcase
        rw [hcase.2.2]
        by_cases hx : x = sn
        · exact Or.inr (Or.inr ⟨hx, hx ▸ hg, if_pos hx⟩)
        · rw [if_neg hx]
          split
          · exact Or.inl rfl
          · exact Or.inr (Or.inl rfl)
    · have hwin := get_nonneg_window (m.addPacket sn t) x hx
      show (if _ then _ else _) ≤ x
      split <;> omega


/-- `Record` on the map and cursor of a reachable recorder: the map is now well formed with the
cursor inside it, and nothing that was pending (at or above the cursor), nor the recorded number
itself, ends up below the cursor while still in the map. -/
theorem recordCore_spec (m : ArrivalMap) (start : Option Int) (sn t : Int)
    (h : (m.cap = 0 ∧ m.beginSN = m.endSN ∧ start = none) ∨
      (WF m ∧ ∃ s, start = some s ∧ m.beginSN ≤ s ∧ s ≤ m.endSN))
    {p : ArrivalMap × Int} (hp : recordCore m start sn t = p) :
    WF p.1 ∧ p.1.beginSN ≤ p.2 ∧ p.2 ≤ p.1.endSN ∧ Kept m p.1 sn t ∧
    ∀ x, 0 ≤ p.1.get x → (x = sn ∨ ∃ s, start = some s ∧ s ≤ x) → p.2 ≤ x := by
  rcases h with ⟨h0, hb, rfl⟩ | ⟨hwf, s, rfl, b1, b2⟩
  · -- the first packet: the map becomes `{sn ↦ t}` and the cursor `sn`
    obtain ⟨w, fb, fe, fg⟩ := addPacket_first m h0 sn t
    have hnr : m.hasReceived sn = false := by
      simp only [hasReceived, get_def, if_pos (show sn < m.beginSN ∨ sn ≥ m.endSN by omega)]; rfl
    have e : recordCore m none sn t = (m.addPacket sn t, sn) := by
      show addCore m sn sn t = _
      unfold addCore
      rw [hnr, if_neg Bool.false_ne_true]
      simp only [fb, Int.lt_irrefl, if_false]
    rw [e] at hp; subst hp
    have hx0 : ∀ x, m.get x = -1 := fun x => by rw [get_def, if_pos (by omega)]
    refine ⟨w, Int.le_of_eq fb, by show sn ≤ (m.addPacket sn t).endSN; omega, fun x => ?_, fun x hx _ => ?_⟩
    · show (m.addPacket sn t).get x = _ ∨ _
      rw [fg, hx0]
      by_cases hx : x = sn
      · exact Or.inr (Or.inr ⟨hx, by omega, if_pos hx⟩)
      · exact Or.inr (Or.inl (if_neg hx))
    · have := (get_nonneg_window (m.addPacket sn t) x hx).1
      show sn ≤ x
      omega
  · obtain ⟨w1, e1, b, hk, hn1⟩ := culled_spec m hwf s sn t b1 rfl
    have hl : lowered (some s) sn ≤ sn ∧ lowered (some s) sn ≤ s ∧
        (lowered (some s) sn = sn ∨ lowered (some s) sn = s) := by
      unfold lowered; simp only; split <;> omega
    obtain ⟨w, c1, c2, c3, c4⟩ := addCore_spec (culled m (some s) sn t) w1 (lowered (some s) sn) sn t
      (by omega) (by omega) hp
    refine ⟨w, c1, c2, fun x => ?_, fun x hx hor => c4 x hx ?_⟩
    · rcases c3 x with h | h | ⟨hx, hn, ht⟩
      · rcases hk x with h' | h'
        · exact Or.inl (h.trans h')
        · exact Or.inr (Or.inl (h.trans h'))
      · exact Or.inr (Or.inl h)
      · subst hx
        exact Or.inr (Or.inr ⟨rfl, hn1 hn, ht⟩)
    · rcases hor with h | ⟨s2, h2, h3⟩
      · omega
      · cases h2; omega

/-- `Record` on any reachable recorder. `sn` is the unwrapped sequence number. -/
theorem record_spec (r : Recorder) (h : RecInv r) (ssrc seq : Nat) (t : Int) :
    RecInv (r.record ssrc seq t) ∧ (r.record ssrc seq t).fbCnt = r.fbCnt ∧
    (r.record ssrc seq t).sender = r.sender ∧ (r.record ssrc seq t).media = ssrc ∧
    (r.record ssrc seq t).unw = (Unwrapper.unwrap r.unw seq).1 ∧
    ∃ s', (r.record ssrc seq t).start = some s' ∧
      Kept r.map (r.record ssrc seq t).map (Unwrapper.unwrap r.unw seq).2 t ∧
      (∀ x, 0 ≤ (r.record ssrc seq t).map.get x →
        (x = (Unwrapper.unwrap r.unw seq).2 ∨ ∃ s, r.start = some s ∧ s ≤ x) → s' ≤ x) := by
  obtain ⟨held, e⟩ := record_eq r ssrc seq t
  obtain ⟨w, c1, c2, c3, c4⟩ := recordCore_spec r.map r.start (Unwrapper.unwrap r.unw seq).2 t h.st rfl
  rw [e]
  exact ⟨⟨h.cnt, Or.inr ⟨w, _, rfl, c1, c2⟩⟩, rfl, rfl, rfl, rfl, _, rfl, c3, c4⟩


/-- every state a recorder can be in: any interleaving of `Record` and `BuildFeedbackPacket`. -/
inductive Reach : Recorder → Prop
  | new (sender : Nat) : Reach (newRecorder sender)
  | record {r : Recorder} (ssrc seq : Nat) (t : Int) : Reach r → Reach (r.record ssrc seq t)
  | build {r : Recorder} : Reach r → Reach r.build.1

theorem reach_inv {r : Recorder} (h : Reach r) : RecInv r := by
  induction h with
  | new sender => exact recInv_new sender
  | record ssrc seq t _ ih => exact (record_spec _ ih ssrc seq t).1
  | build _ ih =>
    rename_i r _
    cases hs : r.start with
    | none => rw [(build_spec r ih).1 hs]; exact ih
    | some s =>
      obtain ⟨groups, _, _, _, _, hinv⟩ := (build_spec r ih).2 s hs
      exact hinv

end Interceptor.Twcc
