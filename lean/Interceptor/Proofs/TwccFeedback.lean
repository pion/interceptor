/-
The invariant of `feedback` under `setBase` / `addReceived`, the rounding of deltas, and what
`getRTCP` makes of a feedback that satisfies the invariant.
-/
import Interceptor.Proofs.TwccChunk
namespace Interceptor.Twcc

theorem tdiv_neg_case (a : Int) (h : a < 0) : a.tdiv 250 = -((-a) / 250) := by
  have : a = -(-a) := by omega
  rw [this, Int.neg_tdiv, Int.tdiv_eq_ediv_of_nonneg (by omega)]
  simp

theorem delta250_close (x : Int) : -125 ≤ 250 * delta250 x - x ∧ 250 * delta250 x - x ≤ 125 := by
  unfold delta250
  split
  · rw [Int.tdiv_eq_ediv_of_nonneg (by omega)]; omega
  · rw [tdiv_neg_case _ (by omega)]; omega

theorem addNRs_eq (n : Nat) (f : Feedback) :
    Feedback.addNRs n f =
      { f with last := ((List.replicate n Sym.nr).foldl packStep (f.last, f.chunks)).1
               chunks := ((List.replicate n Sym.nr).foldl packStep (f.last, f.chunks)).2
               count := f.count + n } := by
  induction n generalizing f with
  | zero => rfl
  | succ n ih =>
    rw [Feedback.addNRs, ih, pushSym_eq]
    simp only [List.replicate_succ, List.foldl_cons, Nat.add_assoc, Nat.add_comm 1 n]

/-- the feedback after `n` not-received statuses and one received status `sym` with a delta of `q`
ticks, `seq` being the number received: what a successful `addReceived` returns. -/
def Feedback.extend (f : Feedback) (n : Nat) (sym : Sym) (q : Int) (seq : Nat) : Feedback :=
  { f with
    last := ((List.replicate n Sym.nr ++ [sym]).foldl packStep (f.last, f.chunks)).1
    chunks := ((List.replicate n Sym.nr ++ [sym]).foldl packStep (f.last, f.chunks)).2
    count := f.count + n + 1
    len := f.len + deltaSize (sym, q * 250)
    deltas := f.deltas.push (sym, q * 250)
    lastUS := f.lastUS + q * 250
    nextSeq := (seq + 1) % 65536 }

/-- the loop count `sub16 seq f.nextSeq` is a variable `n` of the statement (see the note at `sub16`). -/
theorem addReceived_eq_aux (f : Feedback) (seq : Nat) (t : Int) (n : Nat) (hn : sub16 seq f.nextSeq = n) :
    f.addReceived seq t =
      if (delta250 (t - f.lastUS) < -32768 ∨ delta250 (t - f.lastUS) > 32767) ∨ f.len ≥ maxDeltaBytes
      then none
      else some (f.extend n
        (if 0 ≤ delta250 (t - f.lastUS) ∧ delta250 (t - f.lastUS) ≤ 255 then Sym.small else Sym.large)
        (delta250 (t - f.lastUS)) seq) := by
  unfold Feedback.addReceived
  rw [hn]
  simp only [Feedback.extend]
  generalize delta250 (t - f.lastUS) = q
  by_cases hc : (q < -32768 ∨ q > 32767) ∨ f.len ≥ maxDeltaBytes
  · rw [if_pos hc]
    by_cases hr : q < -32768 ∨ q > 32767
    · rw [if_pos hr]
    · rw [if_neg hr, if_pos (hc.resolve_left hr)]
  rw [if_neg hc, if_neg (fun h => hc (Or.inl h)), if_neg (fun h => hc (Or.inr h))]
  by_cases hsm : q ≥ 0 ∧ q ≤ 255
  · simp only [hsm, and_self, if_true, addNRs_eq, pushSym_eq, List.foldl_append, List.foldl_cons,
      List.foldl_nil, deltaSize, Prod.eta]
  · simp only [hsm, if_false, addNRs_eq, pushSym_eq, List.foldl_append, List.foldl_cons,
      List.foldl_nil, deltaSize, Prod.eta]

theorem addReceived_eq (f : Feedback) (seq : Nat) (t : Int) :
    f.addReceived seq t =
      if (delta250 (t - f.lastUS) < -32768 ∨ delta250 (t - f.lastUS) > 32767) ∨ f.len ≥ maxDeltaBytes
      then none
      else some (f.extend (sub16 seq f.nextSeq)
        (if 0 ≤ delta250 (t - f.lastUS) ∧ delta250 (t - f.lastUS) ≤ 255 then Sym.small else Sym.large)
        (delta250 (t - f.lastUS)) seq) :=
  addReceived_eq_aux f seq t _ rfl

theorem addReceived_none_iff (f : Feedback) (seq : Nat) (t : Int) :
    f.addReceived seq t = none ↔
      ((delta250 (t - f.lastUS) < -32768 ∨ delta250 (t - f.lastUS) > 32767) ∨ f.len ≥ maxDeltaBytes) := by
  rw [addReceived_eq]
  split <;> simp [*]

/-- what a successful `addReceived` returns; the number of skipped statuses comes as a bound variable `n`
(see the note at `sub16`). -/
theorem addReceived_some {f f' : Feedback} {seq : Nat} {t : Int} (hadd : f.addReceived seq t = some f') :
    ∃ n : Nat, ∃ sym : Sym, ∃ q : Int,
      n = sub16 seq f.nextSeq ∧ q = delta250 (t - f.lastUS) ∧ -32768 ≤ q ∧ q ≤ 32767 ∧
      f.len < maxDeltaBytes ∧
      ((sym = Sym.small ∧ 0 ≤ q ∧ q ≤ 255) ∨ (sym = Sym.large ∧ -32768 ≤ q ∧ q ≤ 32767)) ∧
      f' = f.extend n sym q seq := by
  rw [addReceived_eq] at hadd
  split at hadd
  · cases hadd
  · rename_i hc
    refine ⟨_, _, _, rfl, rfl, by omega, by omega, by omega, ?_, (Option.some.inj hadd).symm⟩
    split
    · rename_i hs; exact Or.inl ⟨rfl, hs⟩
    · exact Or.inr ⟨rfl, by omega, by omega⟩

theorem addReceived_close {f f' : Feedback} {seq : Nat} {t : Int} (hadd : f.addReceived seq t = some f') :
    -125 ≤ f'.lastUS - t ∧ f'.lastUS - t ≤ 125 ∧
    ∃ sym q, f'.deltas = f.deltas.push (sym, q * 250) ∧ -32768 ≤ q ∧ q ≤ 32767 := by
  obtain ⟨n, sym, q, _, hq, h1, h2, _, _, rfl⟩ := addReceived_some hadd
  have := delta250_close (t - f.lastUS)
  rw [← hq] at this
  refine ⟨?_, ?_, sym, q, rfl, h1, h2⟩ <;> show _ ≤ _ <;> simp only [Feedback.extend] <;> omega

/-- invariant of a feedback under construction; `syms` = every status pushed so far. -/
structure FbInv (f : Feedback) (syms : List Sym) : Prop where
  pack : PackInv (f.last, f.chunks) syms
  count : f.count = syms.length
  kinds : f.deltas.toList.map (·.1) = syms.filter (fun s => decide (s ≠ Sym.nr))
  len : f.len = (f.deltas.toList.map deltaSize).sum
  range : ∀ d ∈ f.deltas.toList, ∃ q : Int, d.2 = q * 250 ∧
    ((d.1 = Sym.small ∧ 0 ≤ q ∧ q ≤ 255) ∨ (d.1 = Sym.large ∧ -32768 ≤ q ∧ q ≤ 32767))
  time : f.lastUS = f.ref64 * 64000 + (f.deltas.toList.map (·.2)).sum

theorem FbInv.deltas_length {f : Feedback} {syms : List Sym} (h : FbInv f syms) :
    f.deltas.toList.length = (syms.filter (fun s => decide (s ≠ Sym.nr))).length := by
  rw [← h.kinds, List.length_map]

theorem fbInv_setBase (s m c seq : Nat) (t : Int) : FbInv ((newFeedback s m c).setBase seq t) [] := by
  constructor <;> simp [newFeedback, Feedback.setBase, packInv_init]

theorem fbInv_extend {f : Feedback} {syms : List Sym} (h : FbInv f syms) (n : Nat) {sym : Sym} {q : Int}
    (hs : (sym = Sym.small ∧ 0 ≤ q ∧ q ≤ 255) ∨ (sym = Sym.large ∧ -32768 ≤ q ∧ q ≤ 32767)) (seq : Nat) :
    FbInv (f.extend n sym q seq) (syms ++ List.replicate n .nr ++ [sym]) := by
  have hne : sym ≠ Sym.nr := by rcases hs with ⟨e, _⟩ | ⟨e, _⟩ <;> rw [e] <;> decide
  constructor
  · have := packInv_foldl (List.replicate n .nr ++ [sym]) h.pack
    rw [← List.append_assoc] at this
    exact this
  · simp only [Feedback.extend, h.count, List.length_append, List.length_replicate, List.length_cons,
      List.length_nil]
  · simp [Feedback.extend, h.kinds, hne, List.filter_append]
  · simp only [Feedback.extend, h.len, Array.toList_push, List.map_append, List.sum_append,
      List.map_cons, List.map_nil, List.sum_cons, List.sum_nil, Nat.add_zero]
  · intro d hd
    simp only [Feedback.extend, Array.toList_push, List.mem_append, List.mem_singleton] at hd
    rcases hd with hd | hd
    · exact h.range d hd
    · rw [hd]; exact ⟨q, rfl, hs⟩
  · simp only [Feedback.extend, h.time, Array.toList_push, List.map_append, List.sum_append,
      List.map_cons, List.map_nil, List.sum_cons, List.sum_nil]
    omega

theorem deltaSize_le (d : Sym × Int) : deltaSize d ≤ 2 := by
  obtain ⟨k, v⟩ := d
  cases k <;> simp [deltaSize]

/-- all chunks already emitted by a feedback cover at least seven statuses each. -/
def FbBig (f : Feedback) : Prop := ∀ ch ∈ f.chunks.toList, 7 ≤ ch.syms.length

/-- the feedbacks `maybeBuildFeedbackPacket` can hold: `setBase` followed by successful `addReceived`s. -/
inductive Built : Feedback → Prop
  | base (s m c seq : Nat) (t : Int) : Built ((newFeedback s m c).setBase seq t)
  | add {f f' : Feedback} (seq : Nat) (t : Int) : Built f → f.addReceived seq t = some f' → Built f'

theorem built_inv {f : Feedback} (h : Built f) :
    ∃ syms, FbInv f syms ∧ FbBig f ∧ f.len ≤ maxDeltaBytes + 1 := by
  induction h with
  | base s m c seq t =>
    exact ⟨[], fbInv_setBase s m c seq t, by intro ch hch; simp [newFeedback, Feedback.setBase] at hch,
      by simp [newFeedback, Feedback.setBase]⟩
  | add seq t _ hadd ih =>
    obtain ⟨syms, hi, hb, _⟩ := ih
    obtain ⟨n, sym, q, _, _, _, _, hlen, hs, rfl⟩ := addReceived_some hadd
    refine ⟨_, fbInv_extend hi n hs seq, packBig_foldl _ hi.pack hb, ?_⟩
    have := deltaSize_le (sym, q * 250)
    show _ + deltaSize (sym, q * 250) ≤ _
    omega

theorem getRTCP_tight {f : Feedback} {syms : List Sym} (h : FbInv f syms) :
    Tight f.getRTCP.chunks ∧ f.getRTCP.chunks.flatMap Chunk.syms = syms :=
  h.pack.flush

theorem getRTCP_spec {f : Feedback} {syms : List Sym} (h : FbInv f syms) :
    (∀ ch ∈ f.getRTCP.chunks, ch.wf) ∧
    (∃ pad, decodeChunks f.getRTCP.chunks = syms ++ List.replicate pad .nr) ∧
    f.getRTCP.deltas = f.deltas.toList ∧ f.getRTCP.count = syms.length % 65536 := by
  obtain ⟨ht, hs⟩ := getRTCP_tight h
  obtain ⟨pad, hp⟩ := tight_decode _ ht
  exact ⟨tight_wf _ ht, ⟨pad, by rw [hp, hs]⟩, rfl, by rw [← h.count]; rfl⟩

/-- arithmetic of the RTCP length field: `getRTCP` pads `n` bytes to a multiple of four and declares
the result in 32-bit words minus one, `marshalSize` rounds `n` up to the next multiple of four.  262144 = 4·2^16
is the largest size a 16-bit length field can declare. -/
theorem hdr_arith (n : Nat) (h20 : 20 ≤ n)
    (hs : (if n % 4 = 0 then n else (n / 4 + 1) * 4) ≤ 262144) :
    4 * (((if n % 4 = 0 then n else n + (4 - n % 4)) / 4 - 1) % 65536 + 1) =
      (if n % 4 = 0 then n else (n / 4 + 1) * 4) := by
  split at hs <;> simp only [*, if_true, if_false] <;> omega

theorem getRTCP_hdrLength {f : Feedback} (hl : f.len = (f.deltas.toList.map deltaSize).sum)
    (hs : f.getRTCP.marshalSize ≤ 262144) :
    4 * (f.getRTCP.hdrLength + 1) = f.getRTCP.marshalSize ∧
    (f.getRTCP.padding = true ↔
      (20 + 2 * f.getRTCP.chunks.length + (f.getRTCP.deltas.map deltaSize).sum) % 4 ≠ 0) := by
  have e : 20 + 2 * f.getRTCP.chunks.length + (f.getRTCP.deltas.map deltaSize).sum =
      20 + (flushChunks (f.last.deltas.size + 1) f.last f.chunks).size * 2 + f.len := by
    rw [hl, Nat.mul_comm]; simp [Feedback.getRTCP]
  unfold Packet.marshalSize at hs ⊢
  rw [e] at hs ⊢
  exact ⟨hdr_arith _ (by omega) hs, decide_eq_true_iff⟩

end Interceptor.Twcc
