/-
Invariant of the responder model: every stream's ring satisfies the ring invariant against a ghost
windowed spec of what was written to that stream since it was last cleared.
-/
import Interceptor.Proofs.RtpBufferInv
import Interceptor.Proofs.NewPacket
namespace Interceptor.RtpBuffer
open Interceptor

/-- ghost state: per stream index, the spec of the sends it has accepted. -/
abbrev Specs := Nat → SBuf Pkt

def emptySpec : SBuf Pkt := SBuf.new 0

def StreamOk (st : Option Stream) (s : SBuf Pkt) : Prop :=
  match st with
  | some st =>
    match st.buf with
    | some b => Inv Pkt.seq b s
    | none => s.m = []
  | none => s.m = []

structure RespInv (r : Resp) (sp : Specs) : Prop where
  valid : validSize r.size = true
  streams : ∀ w, StreamOk r.streams[w]? (sp w)

theorem getElem?_set_of_some {α : Type} {a : Array α} {w : Nat} {x : α} (hs : a[w]? = some x) (y : α)
    (v : Nat) : (a.setIfInBounds w y)[v]? = if v = w then some y else a[v]? := by
  have hlt : w < a.size := (Array.getElem?_eq_some_iff.1 hs).1
  rw [Array.getElem?_setIfInBounds]
  by_cases e : v = w
  · subst e; simp [hlt]
  · simp [e, Ne.symm e]

theorem RespInv.update {r r' : Resp} {sp : Specs} (hi : RespInv r sp) {w : Nat} {st' : Option Stream}
    {s' : SBuf Pkt} (hsz : r'.size = r.size)
    (hst : ∀ v, r'.streams[v]? = if v = w then st' else r.streams[v]?) (hok : StreamOk st' s') :
    RespInv r' (fun v => if v = w then s' else sp v) := by
  refine ⟨hsz ▸ hi.valid, fun v => ?_⟩
  rw [hst v]
  by_cases e : v = w
  · simp only [e, if_true]; exact hok
  · simp only [e, if_false]; exact hi.streams v

theorem streamGet_eq {r : Resp} {sp : Specs} (h : RespInv r sp) (w x : Nat) (hx : x < 65536) :
    streamGet r w x = (sp w).get Pkt.seq x := by
  have := h.streams w
  unfold streamGet
  unfold StreamOk at this
  cases hs : r.streams[w]? with
  | none => rw [hs] at this; simp only; exact (SBuf.get_nil this x).symm
  | some st =>
    rw [hs] at this
    simp only at this ⊢
    cases hb : st.buf with
    | none => rw [hb] at this; exact (SBuf.get_nil this x).symm
    | some b => rw [hb] at this; exact get_eq_of_inv this x hx

theorem respInv_new {n k : Nat} {r : Resp} (h : Resp.new n k = some r) : RespInv r (fun _ => emptySpec) := by
  unfold Resp.new at h
  split at h
  · rename_i hv
    cases h
    exact ⟨hv, by intro w; simp [StreamOk, emptySpec, SBuf.new]⟩
  · cases h

/-- ghost update for `bind`. -/
def specBind (r : Resp) (fb : Bool) (sp : Specs) : Specs :=
  fun w => if fb = true ∧ w = r.streams.size then SBuf.new r.size else sp w

theorem respInv_bind {r : Resp} {sp : Specs} (h : RespInv r sp) (ssrc rs rp : Nat) (fb : Bool)
    (hfresh : (sp r.streams.size).m = []) :
    RespInv (r.bind ssrc rs rp fb) (specBind r fb sp) := by
  unfold Resp.bind specBind
  cases fb with
  | true =>
    have hnew : (Buf.new r.size : Option (Buf Pkt)) = some ⟨Array.replicate r.size none, r.size, 0, false⟩ := by
      simp [Buf.new, h.valid]
    simp only [if_true, true_and, hnew]
    exact h.update rfl (fun _ => Array.getElem?_push) (inv_new hnew)
  | false =>
    refine ⟨h.valid, ?_⟩
    intro w
    simp only [Array.getElem?_push, false_and, if_false, Bool.false_eq_true]
    by_cases e : w = r.streams.size
    · simp only [e, if_true, StreamOk]; exact hfresh
    · simp only [e, if_false]; exact h.streams w

/-- ghost update for a `write`: the stored packet (if any) is sent to the stream's spec. -/
def specWrite (r : Resp) (w : Nat) (h : Hdr) (pl : List Nat) (sp : Specs) : Specs :=
  match r.streams[w]? with
  | none => sp
  | some st =>
    match st.buf with
    | none => sp
    | some _ =>
      if h.ssrc ≠ st.ssrc then sp
      else match (newPacket h pl st.rtxSsrc st.rtxPt r.rtxNext).1 with
        | .error _ => sp
        | .ok p => fun v => if v = w then (sp w).send Pkt.seq p else sp v

theorem respInv_write {r : Resp} {sp : Specs} (hi : RespInv r sp) (w : Nat) (h : Hdr) (pl : List Nat)
    (hseq : h.seq < 65536) :
    RespInv (r.write w h pl).1 (specWrite r w h pl sp) := by
  unfold Resp.write specWrite
  cases hs : r.streams[w]? with
  | none => exact hi
  | some st =>
    simp only
    cases hb : st.buf with
    | none => exact hi
    | some b =>
      simp only
      by_cases hss : h.ssrc ≠ st.ssrc
      · rw [if_pos hss, if_pos hss]; exact hi
      · rw [if_neg hss, if_neg hss]
        generalize hnp : newPacket h pl st.rtxSsrc st.rtxPt r.rtxNext = np
        obtain ⟨res, adv⟩ := np
        simp only
        cases res with
        | error e =>
          exact ⟨hi.valid, fun v => hi.streams v⟩
        | ok p =>
          have hp : p.seq = h.seq := newPacket_seq (by rw [hnp])
          have hw := hi.streams w
          rw [hs] at hw
          simp only [StreamOk, hb] at hw
          exact hi.update rfl (getElem?_set_of_some hs _)
            (inv_add hw p (by rw [show Pkt.seq p = p.seq from rfl, hp]; exact hseq))

theorem clearStream_frame (r : Resp) (w : Nat) : ∃ ss, clearStream r w = { r with streams := ss } := by
  unfold clearStream
  split
  · split
    · exact ⟨_, rfl⟩
    · exact ⟨_, rfl⟩
  · exact ⟨_, rfl⟩

theorem clearStream_streams (r : Resp) (w v : Nat) :
    (clearStream r w).streams[v]? =
      if v = w then
        (r.streams[w]?).map (fun st => match st.buf with
          | some b => { st with buf := some (clear b).1 }
          | none => st)
      else r.streams[v]? := by
  unfold clearStream
  cases h0 : r.streams[w]? with
  | none =>
    by_cases e : v = w
    · subst e; simp [h0]
    · simp [e]
  | some st0 =>
    cases hb0 : st0.buf with
    | none =>
      by_cases e : v = w
      · subst e; simp [h0, hb0]
      · simp [e, hb0]
    | some b0 => simp only [Option.map_some, hb0]; exact getElem?_set_of_some h0 _ v

theorem clearStream_inv {r : Resp} {sp : Specs} (hi : RespInv r sp) (w : Nat) :
    RespInv (clearStream r w) (fun v => if v = w then (sp w).clear else sp v) := by
  obtain ⟨ss, hf⟩ := clearStream_frame r w
  refine hi.update (by rw [hf]) (clearStream_streams r w) ?_
  have hw := hi.streams w
  cases h0 : r.streams[w]? with
  | none => rfl
  | some st =>
    rw [h0] at hw
    cases hb : st.buf with
    | none => simp only [StreamOk, Option.map_some, hb]; rfl
    | some b =>
      simp only [StreamOk, hb] at hw
      simp only [StreamOk, Option.map_some, hb]
      exact inv_clear hw

theorem spec_fresh {r : Resp} {sp : Specs} (hi : RespInv r sp) : (sp r.streams.size).m = [] := by
  have := hi.streams r.streams.size
  rw [Array.getElem?_eq_none (Nat.le_refl _)] at this
  exact this

def specUnbind (r : Resp) (ssrc : Nat) (sp : Specs) : Specs :=
  match lookupBound r.bound ssrc with
  | none => sp
  | some w => fun v => if v = w then (sp w).clear else sp v

theorem respInv_unbind {r : Resp} {sp : Specs} (hi : RespInv r sp) (ssrc : Nat) :
    RespInv (r.unbind ssrc) (specUnbind r ssrc sp) := by
  unfold Resp.unbind specUnbind
  cases lookupBound r.bound ssrc with
  | none => exact hi
  | some w =>
    have h' : RespInv { r with bound := r.bound.filter (·.1 ≠ ssrc) } sp := ⟨hi.valid, hi.streams⟩
    exact clearStream_inv h' w

def specClearList (l : List (Nat × Nat)) (sp : Specs) : Specs :=
  l.foldl (fun sp e => fun v => if v = e.2 then (sp e.2).clear else sp v) sp

theorem clearList_inv (l : List (Nat × Nat)) {r : Resp} {sp : Specs} (hi : RespInv r sp) :
    RespInv (l.foldl (fun r e => clearStream r e.2) r) (specClearList l sp) := by
  induction l generalizing r sp with
  | nil => exact hi
  | cons e l ih =>
    simp only [List.foldl_cons, specClearList]
    exact ih (clearStream_inv hi e.2)

theorem respInv_close {r : Resp} {sp : Specs} (hi : RespInv r sp) :
    RespInv r.close (specClearList r.bound sp) := by
  unfold Resp.close
  exact clearList_inv r.bound (r := { r with bound := [], closed := true,
                                             closeWaiting := r.closeWaiting || r.pending.isSome })
    ⟨hi.valid, hi.streams⟩

inductive Op
  | bind (ssrc rtxSsrc rtxPt : Nat) (fb : Bool)
  | write (w : Nat) (h : Hdr) (pl : List Nat)
  | unbind (ssrc : Nat)
  | close

def Op.ok : Op → Prop
  | .write _ h _ => h.seq < 65536
  | _ => True

def applyOp (r : Resp) : Op → Resp
  | .bind a b c fb => r.bind a b c fb
  | .write w h pl => (r.write w h pl).1
  | .unbind s => r.unbind s
  | .close => r.close

def applySpec (r : Resp) (sp : Specs) : Op → Specs
  | .bind _ _ _ fb => specBind r fb sp
  | .write w h pl => specWrite r w h pl sp
  | .unbind s => specUnbind r s sp
  | .close => specClearList r.bound sp

/-- run a history; returns the final state and the ghost specs. -/
def runOps : Resp → Specs → List Op → Resp × Specs
  | r, sp, [] => (r, sp)
  | r, sp, op :: ops => runOps (applyOp r op) (applySpec r sp op) ops

theorem respInv_op {r : Resp} {sp : Specs} (hi : RespInv r sp) (op : Op) (hok : op.ok) :
    RespInv (applyOp r op) (applySpec r sp op) := by
  cases op with
  | bind a b c fb => exact respInv_bind hi a b c fb (spec_fresh hi)
  | write w h pl => exact respInv_write hi w h pl hok
  | unbind s => exact respInv_unbind hi s
  | close => exact respInv_close hi

theorem respInv_run {r : Resp} {sp : Specs} (hi : RespInv r sp) (ops : List Op) (hok : ∀ op ∈ ops, op.ok) :
    RespInv (runOps r sp ops).1 (runOps r sp ops).2 := by
  induction ops generalizing r sp with
  | nil => exact hi
  | cons op ops ih =>
    simp only [runOps]
    exact ih (respInv_op hi op (hok op (by simp))) (fun o ho => hok o (by simp [ho]))

theorem expand_lt (pairs : List (Nat × Nat)) (h : ∀ pr ∈ pairs, pr.1 < 65536) : ∀ x ∈ expand pairs, x < 65536 := by
  intro x hx
  unfold expand at hx
  simp only [List.mem_flatMap] at hx
  obtain ⟨pr, hpr, hx⟩ := hx
  unfold pairSeqs at hx
  simp only [List.mem_cons, List.mem_map] at hx
  rcases hx with rfl | ⟨i, _, rfl⟩
  · exact h pr hpr
  · exact add16_lt _ _

theorem filterMap_congr' {α β : Type} {l : List α} {f g : α → Option β} (h : ∀ x ∈ l, f x = g x) :
    l.filterMap f = l.filterMap g := by
  induction l with
  | nil => rfl
  | cons a l ih =>
    simp only [List.filterMap_cons, h a (by simp)]
    rw [ih (fun x hx => h x (by simp [hx]))]

theorem resendAll_eq {r : Resp} {sp : Specs} (hi : RespInv r sp) (w : Nat) (seqs : List Nat)
    (h : ∀ x ∈ seqs, x < 65536) :
    resendAll r w seqs = seqs.filterMap ((sp w).get Pkt.seq) := by
  unfold resendAll
  exact filterMap_congr' (fun x hx => streamGet_eq hi w x (h x hx))

end Interceptor.RtpBuffer
