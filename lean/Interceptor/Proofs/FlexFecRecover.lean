/-
Helper lemmas for C14: the draft's recovery procedure applied to the encoder's repair packet
with one covered packet removed returns that packet.  Core Lean only.
-/
import Interceptor.Proofs.FlexFecXor
namespace Interceptor.FlexFec
open Interceptor.FlexFecSpec (xorBytes bitString recoverAt FecHeader beVal slice)

/-- a prefix of known length written out byte by byte (evaluate `List.range n` at the `n` needed). -/
theorem take_eq_map_getD (m : Bytes) : ∀ n, n ≤ m.length → m.take n = (List.range n).map (m.getD · 0)
  | 0, _ => rfl
  | n + 1, h => by
    rw [List.take_add_one, take_eq_map_getD m n (by omega), List.range_succ, List.map_append, List.map_singleton,
      List.getD_eq_getElem?_getD, List.getElem?_eq_getElem h]
    rfl

theorem exists_cons8 (m : Bytes) (h : 8 ≤ m.length) :
    ∃ a0 a1 a2 a3 a4 a5 a6 a7 rest, m = a0 :: a1 :: a2 :: a3 :: a4 :: a5 :: a6 :: a7 :: rest :=
  ⟨_, _, _, _, _, _, _, _, m.drop 8,
    (List.take_append_drop 8 m).symm.trans (by rw [take_eq_map_getD m 8 h]; rfl)⟩

theorem exists_cons12 (m : Bytes) (h : 12 ≤ m.length) :
    ∃ a0 a1 a2 a3 a4 a5 a6 a7 a8 a9 a10 a11 rest,
      m = a0 :: a1 :: a2 :: a3 :: a4 :: a5 :: a6 :: a7 :: a8 :: a9 :: a10 :: a11 :: rest :=
  ⟨_, _, _, _, _, _, _, _, _, _, _, _, m.drop 12,
    (List.take_append_drop 12 m).symm.trans (by rw [take_eq_map_getD m 12 h]; rfl)⟩

theorem bitString_eq (p : Bytes) (h : 8 ≤ p.length) : bitString p = fields p := by
  obtain ⟨a0, a1, a2, a3, a4, a5, a6, a7, rest, e⟩ := exists_cons8 p h
  subst e
  simp [bitString, slice, fields]

theorem list8_eq (l : Bytes) (h : l.length = 8) :
    l = [l.getD 0 0, l.getD 1 0, l.getD 2 0, l.getD 3 0, l.getD 4 0, l.getD 5 0, l.getD 6 0, l.getD 7 0] :=
  (List.take_of_length_le (Nat.le_of_eq h)).symm.trans (by rw [take_eq_map_getD l 8 (Nat.le_of_eq h.symm)]; rfl)

theorem version_byte (x : Nat) (hv : x / 64 = 2) : 128 ||| (x % 64) = x := by
  rw [Nat.or_comm, or_two_pow _ 7 (by omega)]
  omega

/-- reassembling a packet from its recovered fields. -/
theorem rebuild (m : Bytes) (h12 : 12 ≤ m.length) (hb : ∀ x ∈ m, x < 256) (hv : m.getD 0 0 / 64 = 2) :
    [128 ||| (m.getD 0 0 % 64), m.getD 1 0, seqOf m / 256, seqOf m % 256]
      ++ [m.getD 4 0, m.getD 5 0, m.getD 6 0, m.getD 7 0] ++ slice m 8 4 ++ m.drop 12 = m := by
  obtain ⟨a0, a1, a2, a3, a4, a5, a6, a7, a8, a9, a10, a11, rest, e⟩ := exists_cons12 m h12
  subst e
  have h3 : a3 < 256 := hb a3 (by simp)
  have e0 : 128 ||| (a0 % 64) = a0 := version_byte a0 hv
  have e2 : (a2 * 256 + a3) / 256 = a2 := by omega
  have e3 : (a2 * 256 + a3) % 256 = a3 := by omega
  simp [seqOf, slice, e0, e2, e3]

/-- the zero accumulator the encoder starts from (`make([]byte, …)`). -/
def acc0 (mp : Nat) : Acc := ⟨0, 0, 0, 0, 0, 0, 0, 0, List.replicate mp 0⟩

section
variable (L : List Nat) (hnd : L.Nodup) (g : Nat → Bytes) (j : Nat) (hj : j ∈ L) (mp : Nat)
include hnd hj

/-- every recovered field: (xor over the cover) xor (xor over the others) is the lost packet's value. -/
theorem field_recover (f : Bytes → Nat) :
    (0 ^^^ xsum ((L.map g).map f)) ^^^ xsum (((L.filter (· != j)).map g).map f) = f (g j) := by
  simp only [List.map_map, Nat.zero_xor]
  rw [xsum_remove (f ∘ g) j L hnd hj, Nat.xor_assoc, Nat.xor_self, Nat.xor_zero]
  rfl

/-- the 64-bit string recovered from the encoder's header bytes and the other covered packets is the lost
packet's, up to the two version bits the encoder clears. -/
theorem hdr_recover (hlen : ∀ k ∈ L, 8 ≤ (g k).length) (R : Bytes)
    (hR : ((L.filter (· != j)).map g).foldl (fun acc p => xorInto acc (bitString p))
      ((L.map g).foldl Acc.step (acc0 mp)).hdr = R) :
    R.length = 8 ∧ R.getD 0 0 % 64 = (g j).getD 0 0 % 64 ∧
      ∀ k, R.getD (k + 1) 0 = (fields (g j)).getD (k + 1) 0 := by
  have hothers : ∀ q ∈ (L.filter (· != j)).map g, 8 ≤ q.length := by
    intro q hq
    obtain ⟨k, hk, rfl⟩ := List.mem_map.1 hq
    exact hlen k (List.mem_filter.1 hk).1
  have hRk : ∀ k, R.getD k 0 = ((L.map g).foldl Acc.step (acc0 mp)).hdr.getD k 0
      ^^^ xsum (((L.filter (· != j)).map g).map fun p => (fields p).getD k 0) := by
    intro k
    rw [← hR, foldl_xorInto_getD]
    congr 2
    exact List.map_congr_left fun p hp => by rw [bitString_eq p (hothers p hp)]
  refine ⟨?_, ?_, fun k => ?_⟩
  · rw [← hR, foldl_xorInto_length_eq bitString]
    · rfl
    · intro q hq; rw [bitString_eq q (hothers q hq)]; exact Nat.le_refl 8
  · have e64 : (64 : Nat) = 2 ^ 6 := rfl
    rw [hRk 0]
    show (((L.map g).foldl Acc.step (acc0 mp)).h0 ^^^ _) % 64 = _
    rw [e64, Nat.xor_mod_two_pow, ← e64, foldl_step_h0, e64, ← Nat.xor_mod_two_pow]
    exact congrArg (· % 2 ^ 6) (field_recover L hnd g j hj (·.getD 0 0))
  · rw [hRk (k + 1)]
    show ((L.map g).foldl Acc.step (acc0 mp)).hdr.tail.getD k 0 ^^^ _ = _
    rw [foldl_step_hdr_tail, foldl_xorInto_getD fun p => (fields p).tail]
    have z : (acc0 mp).hdr.tail.getD k 0 = 0 := getD_replicate 7 k 0
    rw [z]
    exact field_recover L hnd g j hj fun p => (fields p).getD (k + 1) 0

/-- the body recovered from the encoder's repair payload and the other covered packets starts with the lost
packet's bytes after the fixed header. -/
theorem body_recover (B : Bytes)
    (hB : ((L.filter (· != j)).map g).foldl (fun acc p => xorInto acc (p.drop 12))
      ((L.map g).foldl Acc.step (acc0 mp)).rep = B) :
    B.take ((g j).length - 12) = (g j).drop 12 := by
  have hrep : ((L.map g).foldl Acc.step (acc0 mp)).rep
      = (L.map g).foldl (fun r p => xorInto r (p.drop 12)) (List.replicate mp 0) := foldl_step_rep _ _
  have hBk : ∀ i, B.getD i 0 = ((g j).drop 12).getD i 0 := by
    intro i
    rw [← hB, foldl_xorInto_getD (fun p => p.drop 12), hrep, foldl_xorInto_getD (fun p => p.drop 12),
      getD_replicate]
    exact field_recover L hnd g j hj fun p => (p.drop 12).getD i 0
  have hBlen : ((g j).drop 12).length ≤ B.length := by
    rw [← hB]
    refine Nat.le_trans ?_ (foldl_xorInto_length_init (fun p => p.drop 12) _ _)
    rw [hrep]
    exact foldl_xorInto_length_mem (fun p => p.drop 12) _ _ (g j) (List.mem_map.2 ⟨j, hj, rfl⟩)
  rw [← List.length_drop]
  exact take_eq_of_getD _ _ hBlen fun i _ => hBk i

end

/-- ★ core of `recover_exact`: FEC header bytes 0..7 and repair payload as the encoder computes them
over the cover `L`, the draft's recovery run on the others returns the lost packet. -/
theorem recoverAt_core
    (L : List Nat) (hnd : L.Nodup) (g : Nat → Bytes) (j : Nat) (hj : j ∈ L)
    (hlen : ∀ k ∈ L, 12 ≤ (g k).length)
    (hlenj : (g j).length - 12 < 65536)
    (hbytes : ∀ x ∈ g j, x < 256) (hver : (g j).getD 0 0 / 64 = 2)
    (mp : Nat) (pre : Bytes) (h : FecHeader) (pos : Nat) (a : Acc)
    (ha : (L.map g).foldl Acc.step (acc0 mp) = a)
    (hpre : pre.take 8 = a.hdr)
    (hsize : pre.length = h.size)
    (hssrc : h.ssrc = slice (g j) 8 4)
    (hsn : (h.snBase + pos) % 65536 = seqOf (g j)) :
    recoverAt (pre ++ a.rep) h pos ((L.filter (· != j)).map g) = some (g j) := by
  have hpre8 : 8 ≤ pre.length := by
    have : (pre.take 8).length = 8 := by rw [hpre]; rfl
    rw [List.length_take] at this
    omega
  have hslice : slice (pre ++ a.rep) 0 8 = a.hdr := by
    unfold slice
    rw [List.drop_zero, List.take_append_of_le_length hpre8, hpre]
  have hdrop : (pre ++ a.rep).drop h.size = a.rep := by
    rw [← hsize]; simp
  have hfun1 : (fun (acc p : Bytes) => xorBytes acc (bitString p)) = (fun acc p => xorInto acc (bitString p)) := by
    funext acc p; exact xorBytes_eq_xorInto _ _
  have hfun2 : (fun (acc p : Bytes) => xorBytes acc (p.drop 12)) = (fun acc p => xorInto acc (p.drop 12)) := by
    funext acc p; exact xorBytes_eq_xorInto _ _
  subst ha
  generalize hR : ((L.filter (· != j)).map g).foldl (fun acc p => xorInto acc (bitString p)) _ = R
  generalize hB : ((L.filter (· != j)).map g).foldl (fun acc p => xorInto acc (p.drop 12)) _ = B
  obtain ⟨hRlen, r0, rk⟩ := hdr_recover L hnd g j hj mp (fun k hk => Nat.le_trans (by decide) (hlen k hk)) R hR
  have hBtake := body_recover L hnd g j hj mp B hB
  have eR : R = [R.getD 0 0, (g j).getD 1 0, ((g j).length - 12) / 256 % 256, ((g j).length - 12) % 256,
      (g j).getD 4 0, (g j).getD 5 0, (g j).getD 6 0, (g j).getD 7 0] := by
    have := list8_eq R hRlen
    rw [rk 0, rk 1, rk 2, rk 3, rk 4, rk 5, rk 6] at this
    exact this
  have hy : (((g j).length - 12) / 256 % 256) * 256 + ((g j).length - 12) % 256 = (g j).length - 12 := by omega
  have e0 : R.getD 0 0 &&& 63 = (g j).getD 0 0 % 64 := by
    rw [← r0]; exact Nat.and_two_pow_sub_one_eq_mod _ 6
  have hnot : ¬ B.length < (g j).length - 12 := by
    have := congrArg List.length hBtake
    rw [List.length_take, List.length_drop] at this
    omega
  unfold recoverAt
  simp only [hslice, hdrop, hfun1, hfun2, hR, hB]
  rw [eR]
  simp only [slice, beVal, List.drop, List.take, List.foldl, List.getD_cons_zero, List.getD_cons_succ,
    Nat.zero_mul, Nat.zero_add, hy, e0, if_neg hnot, hBtake, hssrc, hsn]
  exact congrArg some (rebuild (g j) (hlen j hj) hbytes hver)

end Interceptor.FlexFec
