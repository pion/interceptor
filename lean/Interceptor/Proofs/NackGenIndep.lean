/-
C03, generator level: the streams of one interceptor do not influence each other.
-/
import Interceptor.Model.ReceiveLog
namespace Interceptor.ReceiveLog
open Interceptor

/-- operations on the interceptor (the configuration is fixed at construction). -/
inductive GOp where
  | bind (a : Nat)          -- BindRemoteStream of a stream with NACK feedback
  | unbind (a : Nat)
  | rtp (a q : Nat)         -- a packet read successfully on the stream's reader
  | tick
  deriving Repr, DecidableEq

/-- does the operation concern SSRC `a`?  (a tick concerns every stream) -/
def GOp.concerns (a : Nat) : GOp → Bool
  | .bind b => b == a
  | .unbind b => b == a
  | .rtp b _ => b == a
  | .tick => true

def gstep (g : Gen) : GOp → Gen × List (Nat × List Nat)
  | .bind a => (bind g a, [])
  | .unbind a => (unbind g a, [])
  | .rtp a q => (rtp g a q, [])
  | .tick => tick g

/-- the NACKs written at each tick of a run. -/
def grun (g : Gen) : List GOp → List (List (Nat × List Nat))
  | [] => []
  | .tick :: ops => (tick g).2 :: grun (tick g).1 ops
  | op :: ops => grun (gstep g op).1 ops

theorem grun_cons_of_ne_tick (g : Gen) {op : GOp} (ops : List GOp) (h : op ≠ .tick) :
    grun g (op :: ops) = grun (gstep g op).1 ops := by
  cases op with
  | tick => exact absurd rfl h
  | _ => rfl

/-- the part of a tick's output / of the state that belongs to SSRC `a`. -/
def only {β : Type} (a : Nat) (xs : List (Nat × β)) : List (Nat × β) := xs.filter (·.1 == a)

def restrict (g : Gen) (a : Nat) : Gen := { g with streams := only a g.streams }

theorem only_only {β : Type} (a : Nat) (xs : List (Nat × β)) : only a (only a xs) = only a xs := by
  simp [only, List.filter_filter]

theorem only_erase (a b : Nat) (xs : List (Nat × Stream)) :
    only a (erase xs b) = if b = a then [] else only a xs := by
  unfold only erase
  rw [List.filter_filter]
  split
  · subst b
    rw [List.filter_eq_nil_iff]
    intro p _; simp
  · rename_i hb
    apply List.filter_congr
    intro p _
    by_cases hp : p.1 = a
    · simp [hp, Ne.symm hb]
    · simp [hp]

theorem lookup_only (g : Gen) (a : Nat) : lookup (restrict g a) a = lookup g a := by
  unfold lookup restrict only
  simp only [List.find?_filter]
  congr 2
  funext x
  by_cases h : x.1 = a <;> simp [h]

theorem only_map_key {β γ : Type} (a : Nat) (f : Nat × β → Nat × γ) (hf : ∀ p, (f p).1 = p.1) (xs : List (Nat × β)) :
    only a (xs.map f) = (only a xs).map f := by
  simp only [only, List.filter_map]
  congr 1
  apply List.filter_congr
  intro p _
  simp [hf]

theorem only_filterMap_key {β γ : Type} (a : Nat) (f : Nat × β → Option (Nat × γ))
    (hf : ∀ p r, f p = some r → r.1 = p.1) (xs : List (Nat × β)) :
    only a (xs.filterMap f) = (only a xs).filterMap f := by
  induction xs with
  | nil => rfl
  | cons p ps ih =>
    simp only [List.filterMap_cons, only, List.filter_cons] at ih ⊢
    cases hfp : f p with
    | none =>
      by_cases hp : (p.1 == a) = true
      · simp [hp, hfp, ih]
      · simp [hp, ih]
    | some r =>
      have hr := hf p r hfp
      by_cases hp : (p.1 == a) = true
      · have : (r.1 == a) = true := by rw [hr]; exact hp
        simp [hp, hfp, this, ih]
      · have : ¬ (r.1 == a) = true := by rw [hr]; exact hp
        simp [hp, this, ih]

/-- one step: the `a`-part of the new state and of the output depends only on the `a`-part of the state. -/
theorem gstep_concerns (g1 g2 : Gen) (a : Nat) (hc : g1.cfg = g2.cfg) (hs : only a g1.streams = only a g2.streams)
    (op : GOp) (hop : op.concerns a = true) :
    (gstep g1 op).1.cfg = (gstep g2 op).1.cfg ∧
    only a (gstep g1 op).1.streams = only a (gstep g2 op).1.streams ∧
    only a (gstep g1 op).2 = only a (gstep g2 op).2 := by
  cases op with
  | bind b =>
    obtain rfl : b = a := eq_of_beq hop
    have hl : lookup g1 b = lookup g2 b := by
      rw [← lookup_only g1 b, ← lookup_only g2 b]; simp [lookup, restrict, hs]
    refine ⟨hc, ?_, rfl⟩
    simp only [gstep, bind, hl, hc]
    simp only [only, List.filter_cons]
    have e := only_erase b b
    simp only [only] at e
    simp [e]
  | unbind b =>
    obtain rfl : b = a := eq_of_beq hop
    exact ⟨hc, by simp only [gstep, unbind, only_erase, if_pos], rfl⟩
  | rtp b q =>
    obtain rfl : b = a := eq_of_beq hop
    refine ⟨hc, ?_, rfl⟩
    simp only [gstep, rtp]
    rw [only_map_key, only_map_key, hs] <;> (intro p; split <;> rfl)
  | tick =>
    have k1 : ∀ (g : Gen), only a (g.streams.map fun p => (p.1, tickStream g.cfg p.2)) =
        (only a g.streams).map fun p => (p.1, tickStream g.cfg p.2) :=
      fun g => only_map_key a (fun p : Nat × Stream => (p.1, tickStream g.cfg p.2)) (fun _ => rfl) g.streams
    have k2 : ∀ (xs : List (Nat × (Stream × Option (List Nat)))),
        only a (xs.map fun p => (p.1, p.2.1)) = (only a xs).map fun p => (p.1, p.2.1) :=
      fun xs => only_map_key a (fun p : Nat × (Stream × Option (List Nat)) => (p.1, p.2.1)) (fun _ => rfl) xs
    have k3 : ∀ (p : Nat × (Stream × Option (List Nat))) (r : Nat × List Nat),
        (p.2.2.map fun l => (p.1, l)) = some r → r.1 = p.1 := by
      intro p r h
      cases h2 : p.2.2 with
      | none => simp [h2] at h
      | some l => simp [h2] at h; rw [← h]
    refine ⟨hc, ?_, ?_⟩
    · simp only [gstep, tick]
      rw [k2, k2, k1, k1, hs, hc]
    · simp only [gstep, tick]
      rw [only_filterMap_key a _ k3, only_filterMap_key a _ k3, k1, k1, hs, hc]

/-- an operation on another SSRC leaves the `a`-part untouched. -/
theorem gstep_other (g : Gen) (a : Nat) (op : GOp) (hop : op.concerns a = false) :
    (gstep g op).1.cfg = g.cfg ∧ only a (gstep g op).1.streams = only a g.streams := by
  cases op with
  | bind b =>
    have hb : b ≠ a := ne_of_beq_false hop
    refine ⟨rfl, ?_⟩
    have e := only_erase a b g.streams
    rw [if_neg hb] at e
    simp only [gstep, bind, only, List.filter_cons] at e ⊢
    simpa [hb] using e
  | unbind b => exact ⟨rfl, by rw [gstep, unbind, only_erase, if_neg (ne_of_beq_false hop)]⟩
  | rtp b q =>
    have hb : b ≠ a := ne_of_beq_false hop
    refine ⟨rfl, ?_⟩
    simp only [gstep, rtp]
    rw [only_map_key _ _ (fun p => by split <;> rfl)]
    conv => rhs; rw [← List.map_id (only a g.streams)]
    apply List.map_congr_left
    intro p hp
    have hpa : p.1 = a := by simpa [only] using (List.mem_filter.mp hp).2
    simp [hpa, Ne.symm hb]
  | tick => cases hop

end Interceptor.ReceiveLog
