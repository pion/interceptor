/-
C03: `add` preserves `R` for every arrival (all branches together), hence along every history;
`missingSeqNumbers` returns exactly the specification's missing set, as a list and element-wise.
-/
import Interceptor.Proofs.ReceiveLogFwd
import Interceptor.Spec.NackRun
namespace Interceptor.ReceiveLog
open Interceptor

variable {size : Nat} {l : Log} {a : NackSpec.Stream} {lcU : Int}

/-- ★ the invariant is preserved by `add` for EVERY 16-bit sequence number. -/
theorem R_add (hs : SizeOK size) (h : R size l a lcU) (q : Nat) (hq : q < 65536) :
    ∃ (a' : NackSpec.Stream) (lcU' : Int),
      NackSpec.arrive size (some a) q = some a' ∧ R size (add l q) a' lcU' := by
  obtain ⟨hx1, hx2, hx3⟩ := unwrapAt_spec a.hi q hq
  have hp := hs.pos
  unfold NackSpec.arrive
  simp only []
  generalize NackSpec.unwrapAt a.hi q = x at *
  subst hx1
  by_cases c1 : a.hi < x
  · obtain ⟨lcU', hR⟩ := R_add_fwd hs h x c1 hx3
    refine ⟨_, lcU', ?_, hR⟩
    have : x - (size : Int) < x := by omega
    simp [c1, this]
  · by_cases c2 : x = a.hi
    · subst c2
      refine ⟨_, lcU, ?_, R_add_dup h⟩
      have : a.hi - (size : Int) < a.hi := by omega
      simp [this]
    · have c3 : x < a.hi := by omega
      by_cases c4 : a.hi - size < x
      · obtain ⟨lcU', hR⟩ := R_add_late hs h x c3 c4
        refine ⟨_, lcU', ?_, hR⟩
        simp [c1, c4]
      · refine ⟨a, lcU, ?_, ?_⟩
        · simp [c1, c4]
        · rw [R_add_old h x c3 hx2 (by omega)]; exact h

theorem R_foldl (hs : SizeOK size) (qs : List Nat) (hq : ∀ x ∈ qs, x < 65536) (h : R size l a lcU) :
    ∃ (a' : NackSpec.Stream) (lcU' : Int),
      qs.foldl (NackSpec.arrive size) (some a) = some a' ∧ R size (qs.foldl add l) a' lcU' := by
  induction qs generalizing l a lcU with
  | nil => exact ⟨a, lcU, rfl, h⟩
  | cons p ps ih =>
    obtain ⟨a1, lc1, e1, h1⟩ := R_add hs h p (hq p List.mem_cons_self)
    rw [List.foldl_cons, List.foldl_cons, e1]
    exact ih (fun x hx => hq x (List.mem_cons_of_mem _ hx)) h1

theorem R_of_runSpec (hs : SizeOK size) (qs : List Nat) (hq : ∀ x ∈ qs, x < 65536)
    (ha : runSpec size qs = some a) : ∃ lcU : Int, R size (runLog size qs) a lcU := by
  cases qs with
  | nil => cases ha
  | cons q qs =>
    obtain ⟨a', lcU, e, hR⟩ := R_foldl hs qs (fun x hx => hq x (List.mem_cons_of_mem _ hx))
      (R_init hs q (hq q List.mem_cons_self))
    cases ha.symm.trans e
    exact ⟨lcU, hR⟩

theorem filter_map_range_drop {α : Type} (P : α → Bool) (g : Nat → α) (k n : Nat)
    (h : ∀ j, j < k → j < n → P (g j) = false) :
    ((List.range n).map g).filter P = ((List.range (n - k)).map (fun j => g (k + j))).filter P := by
  have hnil : ∀ m, m ≤ k → m ≤ n → ((List.range m).map g).filter P = [] := by
    intro m hk hn
    rw [List.filter_eq_nil_iff]
    intro y hy
    obtain ⟨j, hj, rfl⟩ := List.mem_map.mp hy
    rw [List.mem_range] at hj
    rw [h j (by omega) (by omega)]
    exact Bool.false_ne_true
  by_cases hn : n ≤ k
  · rw [Nat.sub_eq_zero_of_le hn, hnil n hn (Nat.le_refl n)]; rfl
  · obtain ⟨m, rfl⟩ : ∃ m, n = k + m := ⟨n - k, by omega⟩
    rw [Nat.add_sub_cancel_left, List.range_add, List.map_append, List.filter_append,
      hnil k (Nat.le_refl k) (by omega), List.nil_append, List.map_map]
    rfl

/-- the specification's missing list may be started from the cursor: everything between its lower end and the
cursor has been received. -/
theorem missingU_from_cursor (h : R size l a lcU) (skip : Nat) :
    NackSpec.missingU size a skip =
      ((List.range ((a.hi - lcU).toNat - skip)).map (fun (j : Nat) => lcU + 1 + (j : Int))).filter
        (fun x => !a.recv.contains x) := by
  have hlo := h.hlo
  have hle := h.hle
  have hfirst := h.hfirst
  unfold NackSpec.missingU
  dsimp only
  generalize hlo' : (if a.first < a.hi - ↑size then a.hi - ↑size else a.first) = lo
  have hlo3 : a.first ≤ lo ∧ a.hi - size ≤ lo ∧ lo ≤ lcU := by rw [← hlo']; split <;> omega
  clear hlo' hlo hfirst
  -- with k = lcU − lo and d = hi − lcU as natural numbers the two lengths are k + d − skip and d − skip
  obtain ⟨k, hk⟩ := Int.eq_ofNat_of_zero_le (Int.sub_nonneg.mpr hlo3.2.2)
  obtain ⟨d, hd⟩ := Int.eq_ofNat_of_zero_le (Int.sub_nonneg.mpr hle)
  rw [show a.hi - (skip : Int) - lo = ((k + d : Nat) : Int) - (skip : Nat) by omega, Int.toNat_sub,
    filter_map_range_drop _ _ k, Nat.sub_right_comm, Nat.add_sub_cancel_left, hd, Int.toNat_natCast]
  · congr 2
    funext j
    omega
  · intro j hj _
    have := h.hrecv (lo + 1 + (j : Int)) (by omega) (by omega) (by omega)
    simp [this]

/-- ★ on related states the bitmap scan returns exactly the specification's missing list. -/
theorem missing_R (hs : SizeOK size) (h : R size l a lcU) (skip : Nat) :
    missing l skip = NackSpec.missing size (some a) skip := by
  have hle := hs.le
  have hlo := h.hlo
  have hlcle := h.hle
  have hD : sub16 l.end_ l.lc = (a.hi - lcU).toNat := by
    rw [h.hend, h.hlc, sub16_sq_of_le _ _ hlcle (by omega)]
  unfold missing NackSpec.missing
  dsimp only
  rw [missingU_from_cursor h skip, hD]
  by_cases hsk : skip > (a.hi - lcU).toNat
  · rw [if_pos hsk, Nat.sub_eq_zero_of_le (Nat.le_of_lt hsk)]; rfl
  · have e1 : sub16 (sub16 l.end_ skip) l.lc = (a.hi - lcU).toNat - skip := by
      rw [h.hend, h.hlc, sub16_sq_nat, sub16_sq_of_le _ _ (by omega) (by omega), Int.sub_sub, Int.add_comm, ← Int.sub_sub, Int.toNat_sub']
    have e2 : (fun j => add16 (add16 l.lc 1) j) = sq ∘ fun (j : Nat) => lcU + 1 + (j : Int) := by
      funext j; rw [h.hlc, add16_sq_one, add16_sq]; rfl
    rw [if_neg hsk, e1, e2, ← List.map_map, List.filter_map]
    refine congrArg (List.map sq) (List.filter_congr fun y hy => ?_)
    obtain ⟨j, hj, rfl⟩ := List.mem_map.mp hy
    rw [List.mem_range] at hj
    show (!getBit l (sq (lcU + 1 + (j : Int)))) = !a.recv.contains (lcU + 1 + (j : Int))
    rw [h.hbit (lcU + 1 + (j : Int)) (by omega) (by omega), List.contains_eq_mem]

theorem mem_missingU (size skip : Nat) (a : NackSpec.Stream) (x : Int) :
    x ∈ NackSpec.missingU size a skip ↔ MissingU size skip a x := by
  unfold NackSpec.missingU MissingU
  dsimp only
  generalize hlo : (if a.first < a.hi - ↑size then a.hi - ↑size else a.first) = lo
  have hlo' : ∀ z : Int, lo < z ↔ a.first < z ∧ a.hi - size < z := by
    intro z; rw [← hlo]; split <;> omega
  simp only [List.mem_filter, List.mem_map, List.mem_range, Bool.not_eq_eq_eq_not, Bool.not_true,
    List.contains_eq_mem, decide_eq_false_iff_not]
  constructor
  · rintro ⟨⟨j, hj, rfl⟩, hy⟩
    exact ⟨((hlo' _).mp (by omega)).1, ((hlo' _).mp (by omega)).2, by omega, hy⟩
  · rintro ⟨h1, h2, h3, h4⟩
    have := (hlo' x).mpr ⟨h1, h2⟩
    exact ⟨⟨(x - lo - 1).toNat, by omega, by omega⟩, h4⟩

theorem mem_missing_R (hs : SizeOK size) (h : R size l a lcU) (skip : Nat) (y : Nat) :
    y ∈ missing l skip ↔ ∃ x : Int, MissingU size skip a x ∧ sq x = y := by
  rw [missing_R hs h skip, NackSpec.missing, List.mem_map]
  simp only [mem_missingU]
  rfl

/-- inside the window the 16-bit value determines the packet: `x` is requested iff it is missing. -/
theorem requested_iff_R (hs : SizeOK size) (h : R size l a lcU) (skip : Nat) (x : Int)
    (hx1 : a.hi - 65536 < x) (hx2 : x ≤ a.hi) :
    sq x ∈ missing l skip ↔ MissingU size skip a x := by
  have hle := hs.le
  rw [mem_missing_R hs h]
  constructor
  · rintro ⟨x', hm, e⟩
    have h1 := hm.2.1
    have h2 := hm.2.2.1
    rwa [sq_inj x' x e (by omega) (by omega)] at hm
  · exact fun hm => ⟨x, hm, rfl⟩

end Interceptor.ReceiveLog
