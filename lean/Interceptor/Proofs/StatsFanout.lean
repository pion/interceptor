/-
The interceptor as seen from one stream: `Get(s)` = the fold of the per-recorder step of `s` over
the active window of `s` (fan-out, `running` flag, first bind wins), and the recorder slot of `s`
only sees the sub-history concerning `s`.
-/
import Interceptor.Proofs.StatsSteps
namespace Interceptor.Stats
open Interceptor.Stats.Spec

/-- what the history does to the recorder slot of `s`. -/
def projStep (s : Nat) (o : Option Rec) (e : Event) : Option Rec :=
  match o with
  | some r => some (r.step e)
  | none =>
    match e with
    | .bind s' rate => if s' = s then some (Rec.new s rate) else none
    | _ => none

theorem Rec.step_ssrc (e : Event) (r : Rec) : (r.step e).ssrc = r.ssrc := by
  unfold Rec.step
  split
  · rfl
  · split <;> rfl

theorem Rec.step_rate (e : Event) (r : Rec) : (r.step e).rate = r.rate := by
  unfold Rec.step
  split
  · rfl
  · split <;> rfl

theorem Rec.step_bind (s' rate : Nat) (r : Rec) : r.step (.bind s' rate) = r := by
  unfold Rec.step
  simp only [recStep]
  split <;> rfl

theorem find_map_step (e : Event) (s : Nat) (i : List Rec) :
    (i.map (Rec.step e)).find? (·.ssrc == s) = (i.find? (·.ssrc == s)).map (Rec.step e) := by
  induction i with
  | nil => rfl
  | cons r i ih =>
    simp only [List.map_cons, List.find?_cons, Rec.step_ssrc]
    split
    · rfl
    · exact ih

theorem find_step (s : Nat) (i : Icpt) (e : Event) :
    (i.step e).find? (·.ssrc == s) = projStep s (i.find? (·.ssrc == s)) e := by
  cases e with
  | bind s' rate =>
    simp only [Icpt.step]
    split
    · next hany =>
      cases hf : i.find? (·.ssrc == s) with
      | some r => simp [projStep, Rec.step_bind]
      | none =>
        simp only [projStep]
        split
        · next hs =>
          subst hs
          rw [List.find?_eq_none] at hf
          rw [List.any_eq_true] at hany
          obtain ⟨x, hx, hx2⟩ := hany
          exact absurd hx2 (hf x hx)
        · rfl
    · next hany =>
      rw [List.find?_append]
      cases hf : i.find? (·.ssrc == s) with
      | some r => simp [projStep, Rec.step_bind]
      | none =>
        simp only [projStep, Option.none_or, List.find?_cons, List.find?_nil, Rec.new]
        by_cases hs : s' = s
        · simp [hs]
        · have hb : (s' == s) = false := by simp [hs]
          simp [hs, hb]
  | _ =>
    simp only [Icpt.step, find_map_step, projStep]
    cases i.find? (·.ssrc == s) <;> rfl

theorem find_foldl (s : Nat) (evs : List Event) (i : Icpt) :
    (evs.foldl Icpt.step i).find? (·.ssrc == s) = evs.foldl (projStep s) (i.find? (·.ssrc == s)) := by
  induction evs generalizing i with
  | nil => rfl
  | cons e evs ih => simp only [List.foldl_cons, ih, find_step]

theorem find_run (s : Nat) (evs : List Event) :
    (Icpt.run evs).find? (·.ssrc == s) = evs.foldl (projStep s) none := by
  unfold Icpt.run
  rw [find_foldl]
  rfl

theorem foldl_proj_some (s : Nat) (evs : List Event) (r : Rec) :
    evs.foldl (projStep s) (some r) = some (evs.foldl (fun r e => r.step e) r) := by
  induction evs generalizing r with
  | nil => rfl
  | cons e evs ih => simp only [List.foldl_cons, projStep, ih]

theorem foldl_stopped (evs : List Event) (r : Rec) (h : r.running = false) :
    evs.foldl (fun r e => r.step e) r = r := by
  induction evs generalizing r with
  | nil => rfl
  | cons e evs ih =>
    simp only [List.foldl_cons]
    have : r.step e = r := by
      unfold Rec.step
      split
      · cases r; simp_all
      · simp [h]
    rw [this]
    exact ih r h

theorem step_running (e : Event) (r : Rec) (h : r.running = true) (hc : isClose e = false) :
    r.step e = { r with st := recStep r.ssrc r.rate r.st e } := by
  cases e <;> first | (simp [isClose] at hc; done) | simp [Rec.step, h]

theorem foldl_running (evs : List Event) (r : Rec) (h : r.running = true) :
    (evs.foldl (fun r e => r.step e) r).st
      = (evs.takeWhile (fun e => !isClose e)).foldl (recStep r.ssrc r.rate) r.st := by
  induction evs generalizing r with
  | nil => rfl
  | cons e evs ih =>
    simp only [List.foldl_cons]
    cases hc : isClose e with
    | true =>
      have he : e = .close := by cases e <;> simp [isClose] at hc; rfl
      subst he
      rw [List.takeWhile_cons, hc]
      simp only [Bool.not_true, Bool.false_eq_true, if_false, List.foldl_nil]
      rw [foldl_stopped]
      · rfl
      · rfl
    | false =>
      rw [List.takeWhile_cons, hc]
      simp only [Bool.not_false, if_true, List.foldl_cons]
      rw [step_running e r h hc]
      exact ih _ h

theorem projStep_skip (s : Nat) (e : Event) (h : isBind s e = false) : projStep s none e = none := by
  cases e with
  | bind s' rate => exact if_neg fun hs => by simp [isBind, hs] at h
  | _ => rfl

theorem activation_skip (s : Nat) (e : Event) (evs : List Event) (h : isBind s e = false) :
    activation s (e :: evs) = activation s evs := by
  simp only [activation, List.dropWhile_cons, h, Bool.not_false, if_true]

theorem foldl_proj_none (s : Nat) (evs : List Event) :
    (evs.foldl (projStep s) none).map (·.st)
      = (activation s evs).map fun a => a.2.foldl (recStep s (F64.ofInt (a.1 : Int))) {} := by
  induction evs with
  | nil => rfl
  | cons e evs ih =>
    rw [List.foldl_cons]
    cases hb : isBind s e
    · rw [projStep_skip s e hb, ih, activation_skip s e evs hb]
    · cases e with
      | bind s' rate =>
        obtain rfl : s' = s := by simpa [isBind] using hb
        simp only [projStep, if_true, activation, List.dropWhile_cons, hb, Bool.not_true, Bool.false_eq_true,
          if_false, Option.map_some]
        rw [foldl_proj_some, Option.map_some, foldl_running _ _ rfl]
        rfl
      | _ => cases hb

/-- `Get(s)` after any history = the per-recorder fold over the active window of `s`. -/
theorem get_eq_fold (s : Nat) (evs : List Event) :
    (Icpt.run evs).get s
      = (activation s evs).map fun a => a.2.foldl (recStep s (F64.ofInt (a.1 : Int))) {} := by
  unfold Icpt.get
  rw [find_run, foldl_proj_none]

/-- a view `f` of the recorder that, on the fold over any window `w` from the empty recorder at any
`rate`, is `g rate w`, is at every query `g` of the first binding's rate and the active window of `s`. -/
theorem get_map_activation {β : Type} (s : Nat) (f : IStats → β) (g : Rat → List Event → β)
    (h : ∀ rate w, f (w.foldl (recStep s rate) {}) = g rate w) (evs : List Event) :
    ((Icpt.run evs).get s).map f = (activation s evs).map fun a => g (F64.ofInt (a.1 : Int)) a.2 := by
  rw [get_eq_fold]
  cases activation s evs with
  | none => rfl
  | some a => exact congrArg some (h _ _)

theorem get_map_window {β : Type} (s : Nat) (f : IStats → β) (g : List Event → β)
    (h : ∀ rate w, f (w.foldl (recStep s rate) {}) = g w) (evs : List Event) :
    ((Icpt.run evs).get s).map f = (window s evs).map g := by
  rw [get_map_activation s f (fun _ => g) h, window, Option.map_map]
  rfl

theorem foldl_filter_skip {α β : Type} (f : α → β → α) (g : β → Bool)
    (h : ∀ a b, g b = false → f a b = a) (l : List β) (a : α) :
    l.foldl f a = (l.filter g).foldl f a := by
  induction l generalizing a with
  | nil => rfl
  | cons b l ih =>
    rw [List.foldl_cons, List.filter_cons]
    cases hg : g b
    · rw [h a b hg]; simpa using ih a
    · simpa using ih (f a b)

theorem outStep_skip (s : Nat) (st : IStats) (p : Rtcp) (h : keepOut s p = false) : outStep s st p = st := by
  cases p with
  | xr _ _ => simp [keepOut] at h
  | rr _ _ => rfl
  | other _ => rfl
  | sr ssrc ntp pc oc rs => simp only [keepOut] at h; unfold outStep; rw [h]; rfl
  | nack a m => simp only [keepOut] at h; unfold outStep; rw [h]; rfl
  | pli a m => simp only [keepOut] at h; unfold outStep; rw [h]; rfl
  | fir a m es => simp only [keepOut] at h; unfold outStep; rw [h]; rfl

/-- only the part of an event that concerns `s` matters to the statistics of `s`. -/
theorem recStep_restrict (s : Nat) (rate : Rat) (st : IStats) (e : Event) :
    recStep s rate st e = (restrictEvent s e).elim st (recStep s rate st) := by
  cases e with
  | bind s' r => simp only [restrictEvent]; split <;> rfl
  | close => rfl
  | rtcpIn now pkts => exact foldl_filter_skip _ (keepIn s) (inStep_skip s rate now) pkts st
  | rtcpOut pkts => exact foldl_filter_skip _ (keepOut s) (outStep_skip s) pkts st
  | rtpIn now via p =>
    simp only [restrictEvent, recStep_rtpIn]
    split
    · next h => exact ((recStep_rtpIn s rate st now via p).trans (if_pos h)).symm
    · rfl
  | rtpOut via p =>
    simp only [restrictEvent, recStep_rtpOut]
    split
    · next h => exact ((recStep_rtpOut s rate st via p).trans (if_pos h)).symm
    · rfl

theorem Rec.step_restrict (s : Nat) (r : Rec) (hr : r.ssrc = s) (e : Event) :
    r.step e = (restrictEvent s e).elim r r.step := by
  subst hr
  have h := recStep_restrict r.ssrc r.rate r.st e
  cases e with
  | close => rfl
  | bind s' rate => simp only [restrictEvent]; split <;> first | rfl | exact Rec.step_bind _ _ r
  | rtcpIn now pkts => simp only [Rec.step, h]; rfl
  | rtcpOut pkts => simp only [Rec.step, h]; rfl
  | rtpIn now via p =>
    simp only [restrictEvent] at h ⊢
    split
    · rfl
    · next hc => rw [if_neg hc] at h; simp only [Rec.step, h]; split <;> rfl
  | rtpOut via p =>
    simp only [restrictEvent] at h ⊢
    split
    · rfl
    · next hc => rw [if_neg hc] at h; simp only [Rec.step, h]; split <;> rfl

/-- the slot of `s` holds a recorder for `s`. -/
def SlotOk (s : Nat) (o : Option Rec) : Prop := ∀ r, o = some r → r.ssrc = s

theorem projStep_ok (s : Nat) (o : Option Rec) (e : Event) (h : SlotOk s o) : SlotOk s (projStep s o e) := by
  intro r hr
  cases o with
  | some r0 =>
    simp only [projStep, Option.some.injEq] at hr
    rw [← hr, Rec.step_ssrc]
    exact h r0 rfl
  | none =>
    cases e with
    | bind s' rate =>
      simp only [projStep] at hr
      split at hr
      · simp only [Option.some.injEq] at hr; rw [← hr]; rfl
      · simp at hr
    | _ => simp [projStep] at hr

theorem projStep_restrict (s : Nat) (o : Option Rec) (h : SlotOk s o) (e : Event) :
    projStep s o e = (restrictEvent s e).elim o (projStep s o) := by
  cases o with
  | some r =>
    simp only [projStep, Rec.step_restrict s r (h r rfl) e]
    cases restrictEvent s e <;> rfl
  | none =>
    cases e with
    | bind s' rate =>
      simp only [restrictEvent, projStep]
      split
      · next hs => exact (if_pos hs).symm
      · rfl
    | rtpIn now via p => simp only [restrictEvent]; split <;> rfl
    | rtpOut via p => simp only [restrictEvent]; split <;> rfl
    | _ => rfl

theorem foldl_proj_restrict (s : Nat) (evs : List Event) (o : Option Rec) (h : SlotOk s o) :
    evs.foldl (projStep s) o = (restrict s evs).foldl (projStep s) o := by
  induction evs generalizing o with
  | nil => rfl
  | cons e evs ih =>
    rw [List.foldl_cons, ih _ (projStep_ok s o e h), projStep_restrict s o h e]
    unfold restrict
    rw [List.filterMap_cons]
    cases restrictEvent s e <;> rfl

end Interceptor.Stats
