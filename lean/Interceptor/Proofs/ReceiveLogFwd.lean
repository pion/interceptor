/-
C03: forward arrival (`0 < seq - end < 2^15`): slots between `end` and `seq` are cleared, `end`
moves, the cursor is re-anchored when the window slides past it.
-/
import Interceptor.Proofs.ReceiveLogAdd
namespace Interceptor.ReceiveLog
open Interceptor

variable {size : Nat} {l : Log} {a : NackSpec.Stream} {lcU : Int}

/-- what the cursor update does, in unwrapped numbers: from the old cursor, or from the window floor if that
is ahead of it, the cursor moves forward over the new number itself and over numbers whose bit is set. -/
theorem fwdCursor_spec (hs : SizeOK size) (l2 : Log) (x lcU : Int)
    (hsize : l2.size = size) (hlc : l2.lc = sq lcU) (hend : l2.end_ = sq x)
    (h1 : lcU < x) (h2 : x - lcU < 65536) :
    ∃ c : Int, lcU ≤ c ∧ x - size ≤ c ∧ c ≤ x ∧ fwdCursor l2 (sq x) = { l2 with lc := sq c } ∧
      ∀ y : Int, lcU < y → x - size < y → y ≤ c → y = x ∨ getBit l2 (sq y) = true := by
  subst hsize
  have hle := hs.le
  unfold fwdCursor
  by_cases hc : add16 l2.lc 1 = sq x
  · rw [if_pos hc]
    have hx : lcU + 1 = x := succ_eq_of_add16 (hlc ▸ hc) (by omega) h2
    subst hx
    exact ⟨lcU + 1, Int.le_add_one (Int.le_refl _), Int.sub_le_self _ (Int.natCast_nonneg _), Int.le_refl _, rfl,
      fun y y1 _ y3 => Or.inl (Int.le_antisymm y3 y1)⟩
  · rw [if_neg hc, hlc, sub16_sq_of_le x lcU (Int.le_of_lt h1) h2]
    by_cases hg : (x - lcU).toNat > l2.size
    · rw [if_pos hg, sub16_sq_nat]
      obtain ⟨c, hc0, hc1, hfix, hset⟩ := fix_spec l2 (x - l2.size) x hend (Int.sub_le_self _ (Int.natCast_nonneg _))
        (by omega)
      exact ⟨c, by omega, hc0, hc1, hfix, fun y _ y2 y3 => Or.inr (hset y y2 y3)⟩
    · rw [if_neg hg]
      exact ⟨lcU, Int.le_refl lcU, by omega, Int.le_of_lt h1, by rw [← hlc],
        fun y y1 _ y3 => absurd y3 (Int.not_le.mpr y1)⟩

/-- the log after the clearing loop of a forward arrival `x`, on the part of the new window ahead of the cursor:
cleared above the old highest number (where nothing has been received), untouched below. -/
theorem clearFrom_window (hs : SizeOK size) (h : R size l a lcU) (x : Int) (h1 : a.hi < x)
    (y : Int) (y1 : lcU < y) (y2 : x - size < y) (y3 : y < x) :
    getBit (clearFrom l (sq (a.hi + 1)) ((x - a.hi).toNat - 1)) (sq y) = decide (y ∈ a.recv) := by
  have hwin := h.hwin y
  rw [getBit_clearFrom_sq hs l h.hsize h.hbits (a.hi + 1) _ y (by omega) (by omega)]
  by_cases hy : a.hi + 1 ≤ y
  · rw [if_pos hy]
    exact (decide_eq_false fun hin => Int.not_lt.mpr (hwin hin).2 hy).symm
  · rw [if_neg hy, h.hbit y y1 (Int.not_lt.mp hy)]

theorem R_add_fwd (hs : SizeOK size) (h : R size l a lcU) (x : Int) (h1 : a.hi < x) (h2 : x < a.hi + 32768) :
    ∃ lcU' : Int, R size (add l (sq x))
      { first := a.first, hi := x, recv := (x :: a.recv).filter (fun y => decide (x - size < y)) } lcU' := by
  have hle := hs.le
  have hlo := h.hlo
  have hlcle := h.hle
  have e1 : sub16 (sq x) l.end_ = (x - a.hi).toNat := by
    rw [h.hend, sub16_sq_of_le x a.hi (Int.le_of_lt h1) (by omega)]
  rw [add_of_started l _ h.hstarted, if_neg (by rw [e1]; omega), if_pos (by rw [e1]; omega), e1, h.hend,
    add16_sq_one]
  clear e1
  obtain ⟨c1, c2, c3, c4, c5⟩ := clearFrom_fields l (sq (a.hi + 1)) ((x - a.hi).toNat - 1)
  have hL1 := clearFrom_window hs h x h1
  generalize clearFrom l (sq (a.hi + 1)) ((x - a.hi).toNat - 1) = L1 at *
  obtain ⟨c, k1, k2, k3, hfc, hk⟩ := fwdCursor_spec hs { L1 with end_ := sq x } x lcU (c1.trans h.hsize)
    (c3.trans h.hlc) rfl (Int.lt_of_le_of_lt hlcle h1) (by omega)
  have hxw : x - size < x := Int.sub_lt_self _ (Int.natCast_pos.mpr hs.pos)
  rw [hfc]
  exact ⟨c, h.arrive hs x x (Int.le_of_lt h1) hxw (Int.le_refl x) { L1 with end_ := sq x, lc := sq c } (c1.trans h.hsize)
    (c5.trans h.hbits) (c4.trans h.hstarted) rfl c rfl (fun y y1 y2 y3 e => hL1 y y1 y2 (Int.lt_iff_le_and_ne.mpr ⟨y3, e⟩)) k1 k2 k3 hk
    _ (mem_recv' a.recv x (x - size)) ((mem_recv' a.recv x (x - size) x).mpr ⟨Or.inl rfl, hxw⟩)⟩

end Interceptor.ReceiveLog
