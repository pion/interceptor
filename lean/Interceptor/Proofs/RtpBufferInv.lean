/-
The ring invariant of RTPBuffer against the windowed spec `SBuf`, and its preservation.
-/
import Interceptor.Proofs.SpecChar
namespace Interceptor.RtpBuffer
open Interceptor

/-- "slot i holds the newest in-window packet whose number maps to i, or nothing". -/
structure Inv {α : Type} (seqOf : α → Nat) (b : Buf α) (s : SBuf α) : Prop where
  valid : validSize b.size = true
  ssize : b.slots.size = b.size
  size_eq : s.size = b.size
  started_eq : b.started = s.started
  hi_eq : b.highest = s.hi
  hi_lt : s.hi < 65536
  inwin : ∀ q ∈ s.m, seqOf q < 65536 ∧ sub16 s.hi (seqOf q) < s.size
  slots : ∀ i, i < b.size → slot b.slots i = s.m.find? (fun q => ix b.size (seqOf q) = i)
  fresh : s.started = false → s.m = []

variable {α : Type} {seqOf : α → Nat}

theorem inv_new {n : Nat} {b : Buf α} (h : Buf.new n = some b) : Inv seqOf b (SBuf.new n) := by
  unfold Buf.new at h
  split at h
  · rename_i hv
    cases h
    exact { valid := hv, ssize := by simp, size_eq := rfl, started_eq := rfl, hi_eq := rfl,
            hi_lt := by simp [SBuf.new], inwin := by simp [SBuf.new],
            slots := by intro i _; simp [slot_replicate, SBuf.new], fresh := fun _ => rfl }
  · cases h

theorem inv_clear {b : Buf α} {s : SBuf α} (h : Inv seqOf b s) : Inv seqOf (clear b).1 s.clear := by
  exact { valid := h.valid, ssize := by simp [clear, h.ssize], size_eq := h.size_eq, started_eq := rfl,
          hi_eq := h.hi_eq, hi_lt := h.hi_lt, inwin := by simp [SBuf.clear],
          slots := by intro i _; simp [clear, slot_replicate, SBuf.clear], fresh := fun _ => rfl }

theorem Inv.wf {b : Buf α} {s : SBuf α} (h : Inv seqOf b s) : SBuf.WF seqOf s :=
  ⟨h.size_eq ▸ (validSize_spec h.valid).1, h.hi_lt, h.inwin, h.fresh⟩

/-- sizes are at most 2^15, so the half-range test of `Get` is subsumed by its window test. -/
theorem get_eq {b : Buf α} (hle : b.size ≤ 32768) (x : Nat) :
    get seqOf b x =
      if sub16 b.highest x < b.size then (slot b.slots (ix b.size x)).filter (fun p => seqOf p = x)
      else none := by
  unfold get
  dsimp only
  by_cases hw : sub16 b.highest x < b.size
  · rw [if_pos hw, if_neg (Nat.not_le.2 (Nat.lt_of_lt_of_le hw hle)), if_neg (Nat.not_le.2 hw)]
    cases slot b.slots (ix b.size x) with
    | none => rfl
    | some p => by_cases e : seqOf p = x <;> simp [Option.filter, e]
  · rw [if_neg hw]
    split
    · rfl
    · rw [if_pos (Nat.le_of_not_lt hw)]

theorem filter_find? {l : List α} {p : α → Bool} : (l.find? p).filter p = l.find? p := by
  cases h : l.find? p with
  | none => rfl
  | some a => simp [Option.filter, List.find?_some h]

/-- under the ring invariant `Get x` is the spec's retransmittable packet for `x` (Props/C04 `get_eq_spec`). -/
theorem get_eq_of_inv {b : Buf α} {s : SBuf α} (h : Inv seqOf b s) (x : Nat) (hx : x < 65536) :
    get seqOf b x = s.get seqOf x := by
  have hv := validSize_spec h.valid
  rw [get_eq hv.2.1, SBuf.get, inWin, h.hi_eq, h.size_eq]
  by_cases hw : sub16 s.hi x < b.size
  · -- inside the window, "same slot" and "same number" coincide
    have hc : s.m.find? (fun q => decide (ix b.size (seqOf q) = ix b.size x))
            = s.m.find? (fun q => decide (seqOf q = x)) := by
      apply find?_congr'
      intro q hq
      have := h.inwin q hq
      rw [h.size_eq] at this
      exact decide_eq_decide.2 ⟨ix_inj hv.2.2 this.1 hx this.2 hw, fun e => by rw [e]⟩
    rw [if_pos hw, if_pos (decide_eq_true hw), h.slots _ (ix_lt h.valid x), hc, filter_find?]
  · rw [if_neg hw, if_neg (by simpa using hw)]

/-! ### `Add`, case by case (the conditions are those of `SBuf.send_cases`) -/

theorem add_first {b : Buf α} (p : α) (h : b.started = false) :
    add seqOf b p =
      ({ b with slots := b.slots.setIfInBounds (ix b.size (seqOf p)) (some p), highest := seqOf p,
                started := true }, []) := by
  unfold add; simp only [h, if_true]

theorem add_repeat {b : Buf α} (p : α) (hs : b.started = true) (h0 : sub16 (seqOf p) b.highest = 0) :
    add seqOf b p = (b, []) := by
  unfold add; simp only [hs, h0, Bool.true_eq_false, if_false, if_true]

theorem add_newer {b : Buf α} (p : α) (hs : b.started = true) (h0 : sub16 (seqOf p) b.highest ≠ 0)
    (hd : sub16 (seqOf p) b.highest < 32768) :
    add seqOf b p =
      ({ b with slots := (clearSlots b.size b.slots (add16 b.highest 1) (sub16 (seqOf p) b.highest - 1)).setIfInBounds
                           (ix b.size (seqOf p)) (some p),
                highest := seqOf p },
       clearRel b.size b.slots (add16 b.highest 1) (sub16 (seqOf p) b.highest - 1) ++
         (slot (clearSlots b.size b.slots (add16 b.highest 1) (sub16 (seqOf p) b.highest - 1))
            (ix b.size (seqOf p))).toList) := by
  unfold add; simp only [hs, h0, hd, Bool.true_eq_false, if_false, if_true]

theorem add_late {b : Buf α} (p : α) (hs : b.started = true) (h0 : sub16 (seqOf p) b.highest ≠ 0)
    (hd : ¬ sub16 (seqOf p) b.highest < 32768) (hw : sub16 b.highest (seqOf p) < b.size) :
    add seqOf b p =
      ({ b with slots := b.slots.setIfInBounds (ix b.size (seqOf p)) (some p) },
       (slot b.slots (ix b.size (seqOf p))).toList) := by
  unfold add; simp only [hs, h0, hd, Nat.not_le.2 hw, Bool.true_eq_false, if_false]

theorem add_old {b : Buf α} (p : α) (hs : b.started = true) (h0 : sub16 (seqOf p) b.highest ≠ 0)
    (hd : ¬ sub16 (seqOf p) b.highest < 32768) (hw : ¬ sub16 b.highest (seqOf p) < b.size) :
    add seqOf b p = (b, [p]) := by
  unfold add; simp only [hs, h0, hd, Nat.not_lt.1 hw, Bool.true_eq_false, if_false, if_true]

/-- storing `p` in its slot matches putting `p` in front of the list: the three branches of `Add`
that store differ only in what the other slots hold. -/
theorem inv_store {b : Buf α} {s : SBuf α} (h : Inv seqOf b s) (p : α) {sl : Array (Option α)}
    {m : List α} {hi hi' : Nat} {st st' : Bool} (ehi : hi = hi') (est : st = st')
    (wf : SBuf.WF seqOf ⟨s.size, st', hi', p :: m⟩) (hsz : sl.size = b.size)
    (hsl : ∀ i, i < b.size → i ≠ ix b.size (seqOf p) →
      slot sl i = m.find? (fun q => ix b.size (seqOf q) = i)) :
    Inv seqOf ⟨sl.setIfInBounds (ix b.size (seqOf p)) (some p), b.size, hi, st⟩
      ⟨s.size, st', hi', p :: m⟩ where
  valid := h.valid
  ssize := by simp [hsz]
  size_eq := h.size_eq
  started_eq := est
  hi_eq := ehi
  hi_lt := wf.hi_lt
  inwin := wf.inwin
  fresh := wf.fresh
  slots i hi := by
    show slot _ i = List.find? _ (p :: m)
    rw [slot_set, List.find?_cons]
    by_cases e : ix b.size (seqOf p) = i
    · subst e; simp [hsz, ix_lt h.valid]
    · rw [if_neg (fun c => e c.1), hsl i hi (Ne.symm e)]; simp [e]

/-- the window slides to `sp`: after the clearing loop every slot other than that of `sp` holds
what the spec keeps.  A packet that stays in the window sits in a slot the loop does not visit;
one that leaves sits in a slot the loop clears. -/
theorem slots_slide {b : Buf α} {s : SBuf α} (h : Inv seqOf b s) {sp : Nat}
    (hd : sub16 sp b.highest < 32768) (i : Nat) (hi : i < b.size) (e : i ≠ ix b.size sp) :
    slot (clearSlots b.size b.slots (add16 b.highest 1) (sub16 sp b.highest - 1)) i
      = (s.m.filter (fun q => inWin s.size sp (seqOf q))).find? (fun q => ix b.size (seqOf q) = i) := by
  have hv := validSize_spec h.valid
  rw [h.hi_eq] at hd ⊢
  rw [h.size_eq]
  cases hq0 : s.m.find? (fun q => decide (ix b.size (seqOf q) = i)) with
  | none =>
    rw [clearSlots_none _ _ _ _ _ (by rw [h.slots i hi, hq0])]
    exact (List.find?_eq_none.2 fun a ha => List.find?_eq_none.1 hq0 a (List.mem_filter.1 ha).1).symm
  | some q0 =>
    have hq0i : ix b.size (seqOf q0) = i := by simpa using List.find?_some hq0
    have hq0w := h.inwin q0 (List.mem_of_find?_eq_some hq0)
    rw [h.size_eq] at hq0w
    have hsame : ∀ a ∈ s.m, ix b.size (seqOf a) = i → seqOf a = seqOf q0 := by
      intro a ha ea
      have haw := h.inwin a ha
      rw [h.size_eq] at haw
      exact ix_inj hv.2.2 haw.1 hq0w.1 haw.2 hq0w.2 (ea.trans hq0i.symm)
    by_cases hw : sub16 sp (seqOf q0) < b.size
    · rw [find?_filter_of_imp, hq0, clearSlots_keep _ _ _ _ _ _ (add16_lt _ _), h.slots i hi, hq0]
      · intro j hj
        rw [← hq0i]
        exact slide_keep hv.2.2 hv.2.1 h.hi_lt hq0w.1 hd hq0w.2 hw hj
      · intro a ha ea
        rw [inWin, hsame a ha (of_decide_eq_true ea)]
        exact decide_eq_true hw
    · have : (s.m.filter (fun q => inWin b.size sp (seqOf q))).find?
          (fun q => decide (ix b.size (seqOf q) = i)) = none := by
        apply List.find?_eq_none.2
        intro a ha ea
        have := List.mem_filter.1 ha
        rw [inWin, hsame a this.1 (of_decide_eq_true ea)] at this
        exact hw (of_decide_eq_true this.2)
      rw [this]
      apply clearSlots_hit _ _ _ _ _ _ (add16_lt _ _)
      rw [← hq0i]
      exact slide_hit hv.2.2 hv.2.1 h.hi_lt hq0w.1 hd hq0w.2 hw (by rw [hq0i]; exact fun c => e c.symm)

theorem inv_add {b : Buf α} {s : SBuf α} (h : Inv seqOf b s) (p : α) (hp : seqOf p < 65536) :
    Inv seqOf (add seqOf b p).1 (s.send seqOf p) := by
  have wf := SBuf.wf_send h.wf p hp
  have es := h.started_eq
  have eh := h.hi_eq
  revert wf
  refine SBuf.send_cases (motive := fun s' => SBuf.WF seqOf s' → Inv seqOf (add seqOf b p).1 s')
    s p ?_ ?_ ?_ ?_ ?_
  · intro hst wf
    rw [add_first p (es.trans hst)]
    -- `(_, _).1` is reduced in the syntax, here and below (see the note at `sub16`)
    dsimp only
    exact inv_store h p rfl rfl wf h.ssize fun i hi _ => by rw [h.slots i hi, h.fresh hst]
  · intro hs h0 _
    rw [add_repeat p (es.trans hs) (eh ▸ h0)]
    dsimp only
    exact h
  · intro hs h0 hd wf
    rw [add_newer p (es.trans hs) (eh ▸ h0) (eh ▸ hd)]
    dsimp only
    exact inv_store h p rfl es wf ((clearSlots_size ..).trans h.ssize) (slots_slide h (eh ▸ hd))
  · intro hs h0 hd hw wf
    rw [add_late p (es.trans hs) (eh ▸ h0) (eh ▸ hd) (eh ▸ h.size_eq ▸ hw)]
    dsimp only
    exact inv_store h p eh es wf h.ssize fun i hi _ => h.slots i hi
  · intro hs h0 hd hw _
    rw [add_old p (es.trans hs) (eh ▸ h0) (eh ▸ hd) (eh ▸ h.size_eq ▸ hw)]
    dsimp only
    exact h

/-- the buffer after a whole list of `Add`s. -/
def addAll (seqOf : α → Nat) (b : Buf α) (ps : List α) : Buf α := ps.foldl (fun b p => (add seqOf b p).1) b

theorem inv_addAll {b : Buf α} {s : SBuf α} (h : Inv seqOf b s) (ps : List α) (hps : ∀ p ∈ ps, seqOf p < 65536) :
    Inv seqOf (addAll seqOf b ps) (s.sendAll seqOf ps) := by
  induction ps generalizing b s with
  | nil => exact h
  | cons p ps ih =>
    simp only [addAll, SBuf.sendAll, List.foldl_cons]
    exact ih (inv_add h p (hps p (by simp))) (fun q hq => hps q (by simp [hq]))

end Interceptor.RtpBuffer
