/- rtpfb history: reports are strictly increasing in the counter over any op sequence (C09.T5) -/
import Interceptor.Model.Rtpfb
namespace Interceptor.Rtpfb

inductive HOp where
  | add (ssrc rtpSeq : Nat) (isTwcc : Bool) (twSeq : Nat) (size dep : Int)
  | ackTw (ts : Int) (a : RAck)
  | ackCc (ts : Int) (ssrc : Nat) (a : RAck)
  | build

def stepOp (h : Hist) : HOp → Hist × List PR
  | .add ssrc rtpSeq isTwcc twSeq size dep => (addOutgoing h ssrc rtpSeq isTwcc twSeq size dep, [])
  | .ackTw ts a => ((onTWCCFeedback h ts a).1, [])
  | .ackCc ts ssrc a => ((onCCFBFeedback h ts ssrc a).1, [])
  | .build => buildReport h

def runOps : Hist → List HOp → List (List PR)
  | _, [] => []
  | h, op :: ops => (stepOp h op).2 :: runOps (stepOp h op).1 ops

/-- every stored PacketReport carries its own key as counter. -/
def WF (h : Hist) : Prop := ∀ e ∈ h.packets, e.2.ctr = e.1

theorem wf_init : WF {} := by intro e he; cases he

theorem ainsert_mem {ν} (m : List (Nat × ν)) (k : Nat) (v : ν) (e : Nat × ν) (he : e ∈ ainsert m k v) :
    e ∈ m ∨ e = (k, v) := by
  unfold ainsert at he
  split at he
  · obtain ⟨e0, h0, rfl⟩ := List.mem_map.mp he
    split
    · right; rfl
    · left; exact h0
  · rcases List.mem_append.mp he with h | h
    · left; exact h
    · right; simpa using h

theorem aerase_mem {κ ν} [BEq κ] (m : List (κ × ν)) (k : κ) (e : κ × ν) (he : e ∈ aerase m k) : e ∈ m :=
  (List.mem_filter.mp he).1

theorem alookup_mem {ν} (m : List (Nat × ν)) (k : Nat) (v : ν) (h : alookup m k = some v) : (k, v) ∈ m := by
  unfold alookup at h
  simp only [Option.map_eq_some_iff] at h
  obtain ⟨e, he, rfl⟩ := h
  have hm := List.mem_of_find?_eq_some he
  have hk := List.find?_some he
  simp at hk
  rw [← hk]; exact hm

theorem wf_add (h : Hist) (hw : WF h) (ssrc rtpSeq : Nat) (isTwcc : Bool) (twSeq : Nat) (size dep : Int) :
    WF (addOutgoing h ssrc rtpSeq isTwcc twSeq size dep) ∧
    (addOutgoing h ssrc rtpSeq isTwcc twSeq size dep).nextReport = h.nextReport := by
  refine ⟨?_, rfl⟩
  intro e he
  rcases ainsert_mem _ _ _ _ he with h1 | h1
  · exact hw e h1
  · subst h1; rfl

theorem wf_onFeedback (h : Hist) (hw : WF h) (ts : Int) (c : Nat) (a : RAck) :
    WF (onFeedback h ts c a).1 ∧ (onFeedback h ts c a).1.nextReport = h.nextReport := by
  unfold onFeedback
  cases hl : alookup h.packets c with
  | none => exact ⟨hw, rfl⟩
  | some p =>
    refine ⟨?_, rfl⟩
    intro e he
    rcases ainsert_mem _ _ _ _ he with h1 | h1
    · exact hw e h1
    · subst h1; exact hw (c, p) (alookup_mem _ _ _ hl)

/-- `h'` is `h` with some packets deleted: the acknowledgement cursor is untouched, the report cursor
has not moved back. -/
structure PSub (h' h : Hist) : Prop where
  pk : ∀ e ∈ h'.packets, e ∈ h.packets
  ak : h'.acked = h.acked
  hA : h'.highestAcked = h.highestAcked
  nr : h.nextReport ≤ h'.nextReport

theorem psub_refl (h : Hist) : PSub h h := ⟨fun _ he => he, rfl, rfl, Nat.le_refl _⟩

theorem psub_trans {a b c : Hist} (x : PSub a b) (y : PSub b c) : PSub a c :=
  ⟨fun e he => y.pk e (x.pk e he), x.ak.trans y.ak, x.hA.trans y.hA, Nat.le_trans y.nr x.nr⟩

theorem psub_delete (h : Hist) (p : PR) : PSub (delete h p) h :=
  ⟨fun _ he => aerase_mem _ _ _ he, rfl, rfl, Nat.le_refl _⟩

theorem PSub.wf {h' h : Hist} (s : PSub h' h) (hw : WF h) : WF h' := fun e he => hw e (s.pk e he)

theorem wf_delete (h : Hist) (hw : WF h) (p : PR) :
    WF (delete h p) ∧ (delete h p).nextReport = h.nextReport :=
  ⟨(psub_delete h p).wf hw, rfl⟩

theorem reportLoop_none {i : Nat} {h : Hist} (is : List Nat) (acc : List PR) (hl : alookup h.packets i = none) :
    reportLoop (i :: is) h acc = reportLoop is h acc := by
  rw [reportLoop, hl]

/-- one turn of the loop at a stored packet `p`: it is deleted and reported, and the loop goes on from an
`h2` that is `delete h p` but for the report cursor, left alone if already past `p`, else set just past it. -/
theorem reportLoop_some {i : Nat} {h : Hist} {p : PR} (is : List Nat) (acc : List PR) (hl : alookup h.packets i = some p) :
    ∃ h2, reportLoop (i :: is) h acc = reportLoop is h2 (p :: acc) ∧ PSub h2 h ∧ p.ctr < h2.nextReport ∧
      h2.packets = (delete h p).packets ∧ h2.counter = h.counter ∧
      (h2.nextReport = h.nextReport ∨ h2.nextReport = p.ctr + 1) := by
  rw [reportLoop, hl]
  simp only
  split
  · rename_i hge
    exact ⟨_, rfl, ⟨(psub_delete h p).pk, rfl, rfl, Nat.le_succ_of_le hge⟩, Nat.lt_succ_self _, rfl, rfl, Or.inr rfl⟩
  · rename_i hge
    exact ⟨_, rfl, psub_delete h p, Nat.lt_of_not_ge hge, rfl, rfl, Or.inl rfl⟩

theorem reportLoop_psub (is : List Nat) : ∀ (h : Hist) (acc : List PR), PSub (reportLoop is h acc).1 h := by
  induction is with
  | nil => intro h acc; exact psub_refl h
  | cons i is ih =>
    intro h acc
    cases hl : alookup h.packets i with
    | none => rw [reportLoop_none is acc hl]; exact ih h acc
    | some p =>
      obtain ⟨h2, e, hs, _⟩ := reportLoop_some is acc hl
      rw [e]; exact psub_trans (ih _ _) hs

theorem cleanBefore_psub (h : Hist) (c : Nat) : PSub (cleanBefore h c) h := by
  have gen : ∀ (l : List Nat) (h : Hist), PSub (l.foldl cleanStep h) h := by
    intro l
    induction l with
    | nil => intro h; exact psub_refl h
    | cons i l ih =>
      intro h
      simp only [List.foldl_cons]
      unfold cleanStep
      cases alookup h.packets i with
      | none => exact ih h
      | some p => exact psub_trans (ih _) (psub_delete h p)
  have g := gen (List.range' h.cleanUntil (c - h.cleanUntil)) h
  exact ⟨g.pk, g.ak, g.hA, g.nr⟩

/-- what the loop appends to `acc` are packets stored under the counters `is`, in that order, all below
the report cursor it leaves. -/
theorem reportLoop_spec (is : List Nat) : ∀ (h : Hist) (acc : List PR), WF h →
    ∃ new, (reportLoop is h acc).2 = acc.reverse ++ new ∧ (new.map PR.ctr).Sublist is ∧
      ∀ p ∈ new, p.ctr < (reportLoop is h acc).1.nextReport ∧ (p.ctr, p) ∈ h.packets := by
  induction is with
  | nil => intro h acc hw; exact ⟨[], by simp [reportLoop], by simp, by simp⟩
  | cons i is ih =>
    intro h acc hw
    cases hl : alookup h.packets i with
    | none =>
      rw [reportLoop_none is acc hl]
      obtain ⟨new, h1, h2, h3⟩ := ih h acc hw
      exact ⟨new, h1, h2.cons _, h3⟩
    | some p =>
      have hp : p.ctr = i := hw _ (alookup_mem _ _ _ hl)
      -- whichever way the cursor is set, it ends above `p.ctr`
      obtain ⟨h2, e, hs, hlt, _⟩ := reportLoop_some is acc hl
      rw [e]
      obtain ⟨new, h1, h2', h3⟩ := ih h2 (p :: acc) (hs.wf hw)
      refine ⟨p :: new, by rw [h1]; simp, by simpa [hp] using h2'.cons_cons i, fun q hq => ?_⟩
      rcases List.mem_cons.mp hq with rfl | hq
      · exact ⟨Nat.lt_of_lt_of_le hlt (reportLoop_psub is h2 _).nr, hp ▸ alookup_mem _ _ _ hl⟩
      · exact ⟨(h3 q hq).1, hs.pk _ (h3 q hq).2⟩

theorem wf_setClean (h : Hist) (x : Nat) (hw : WF h) : WF { h with cleanUntil := x } := hw

theorem buildReport_psub (h : Hist) : PSub (buildReport h).1 h := by
  unfold buildReport
  split
  · exact psub_refl h
  · exact psub_trans (cleanBefore_psub _ _) (reportLoop_psub _ h [])

theorem buildReport_spec (h : Hist) (hw : WF h) :
    ((buildReport h).2.map PR.ctr).Pairwise (· < ·) ∧
    (∀ p ∈ (buildReport h).2, h.nextReport ≤ p.ctr ∧ p.ctr < (buildReport h).1.nextReport) ∧
    h.nextReport ≤ (buildReport h).1.nextReport ∧ WF (buildReport h).1 := by
  suffices key : ((buildReport h).2.map PR.ctr).Pairwise (· < ·) ∧
      ∀ p ∈ (buildReport h).2, h.nextReport ≤ p.ctr ∧ p.ctr < (buildReport h).1.nextReport from
    ⟨key.1, key.2, (buildReport_psub h).nr, (buildReport_psub h).wf hw⟩
  unfold buildReport
  by_cases hgt : h.acked = false ∨ h.nextReport > h.highestAcked
  · rw [if_pos hgt]; simp
  · rw [if_neg hgt]
    obtain ⟨new, e1, h2, h3⟩ :=
      reportLoop_spec (List.range' h.nextReport (h.highestAcked + 1 - h.nextReport)) h [] hw
    rw [List.reverse_nil, List.nil_append] at e1
    simp only [e1]
    refine ⟨List.Pairwise.sublist h2 (List.pairwise_lt_range' 1), fun p hp => ?_⟩
    have : p.ctr ∈ List.range' h.nextReport (h.highestAcked + 1 - h.nextReport) :=
      h2.subset (List.mem_map_of_mem hp)
    exact ⟨(List.mem_range'_1.mp this).1, Nat.lt_of_lt_of_le (h3 p hp).1 (cleanBefore_psub _ _).nr⟩

/-- both acknowledgement entry points look a counter up (`o`) and hand it to `onFeedback`: what holds
of `h` when the lookup fails and of `onFeedback`'s result when it finds `c` holds of the outcome. -/
theorem ack_cases {P : Option Nat → Hist → Prop} (h : Hist) (ts : Int) (a : RAck) (o : Option Nat)
    (hn : P none h) (hs : ∀ c, P (some c) (onFeedback h ts c a).1) :
    P o (match o with | none => (h, none) | some c => onFeedback h ts c a).1 := by
  cases o with
  | none => exact hn
  | some c => exact hs c

theorem stepOp_spec (h : Hist) (hw : WF h) (op : HOp) :
    ((stepOp h op).2.map PR.ctr).Pairwise (· < ·) ∧
    (∀ p ∈ (stepOp h op).2, h.nextReport ≤ p.ctr ∧ p.ctr < (stepOp h op).1.nextReport) ∧
    h.nextReport ≤ (stepOp h op).1.nextReport ∧ WF (stepOp h op).1 := by
  -- only `build` reports; the others keep the report cursor
  have quiet : ∀ h' : Hist, WF h' ∧ h'.nextReport = h.nextReport →
      (([] : List PR).map PR.ctr).Pairwise (· < ·) ∧
      (∀ p ∈ ([] : List PR), h.nextReport ≤ p.ctr ∧ p.ctr < h'.nextReport) ∧
      h.nextReport ≤ h'.nextReport ∧ WF h' :=
    fun h' x => ⟨List.Pairwise.nil, fun _ hp => (nomatch hp), Nat.le_of_eq x.2.symm, x.1⟩
  cases op with
  | add ssrc rtpSeq isTwcc twSeq size dep => exact quiet _ (wf_add h hw ssrc rtpSeq isTwcc twSeq size dep)
  | ackTw ts a =>
    exact quiet _ (ack_cases (P := fun _ h' => WF h' ∧ h'.nextReport = h.nextReport) h ts a (alookup h.twcc a.seq)
      ⟨hw, rfl⟩ fun c => wf_onFeedback h hw ts c a)
  | ackCc ts ssrc a =>
    exact quiet _ (ack_cases (P := fun _ h' => WF h' ∧ h'.nextReport = h.nextReport) h ts a (alookup h.ss (ssrc, a.seq))
      ⟨hw, rfl⟩ fun c => wf_onFeedback h hw ts c a)
  | build => exact buildReport_spec h hw

theorem runOps_sorted (ops : List HOp) : ∀ (h : Hist), WF h →
    ((runOps h ops).flatten.map PR.ctr).Pairwise (· < ·) ∧
    ∀ c ∈ (runOps h ops).flatten.map PR.ctr, h.nextReport ≤ c := by
  induction ops with
  | nil => intro h hw; simp [runOps]
  | cons op ops ih =>
    intro h hw
    obtain ⟨s1, s2, s3, s4⟩ := stepOp_spec h hw op
    obtain ⟨i1, i2⟩ := ih _ s4
    simp only [runOps, List.flatten_cons, List.map_append]
    refine ⟨List.pairwise_append.mpr ⟨s1, i1, ?_⟩, ?_⟩
    · intro a ha b hb
      obtain ⟨p, hp, rfl⟩ := List.mem_map.mp ha
      have := (s2 p hp).2
      have := i2 b hb
      omega
    · intro c hc
      rcases List.mem_append.mp hc with hc | hc
      · obtain ⟨p, hp, rfl⟩ := List.mem_map.mp hc
        exact (s2 p hp).1
      · have := i2 c hc; omega

end Interceptor.Rtpfb
