/-
List-level facts: the list queue operations are multiset-correct, keep the list sorted, and
the JitterBuffer over the list-level queue (`JB listImpl`) satisfies the C18 clauses.
Helper lemmas for Props/C18.lean (transferred to the heap-level model by Proofs/JitterBufferSim).
-/
import Interceptor.Spec.JitterBuffer
namespace Interceptor.JitterBuffer

theorem insertL_perm (l : List Entry) (e : Entry) : (insertL l e).Perm (e :: l) := by
  induction l with
  | nil => exact List.Perm.refl _
  | cons x t ih =>
    unfold insertL
    split
    · exact List.Perm.refl _
    · exact (List.Perm.cons x ih).trans (List.Perm.swap e x t)

theorem mem_insertL {l : List Entry} {e x : Entry} : x ∈ insertL l e ↔ x = e ∨ x ∈ l := by
  rw [(insertL_perm l e).mem_iff, List.mem_cons]

theorem insertL_length (l : List Entry) (e : Entry) : (insertL l e).length = l.length + 1 := by
  rw [(insertL_perm l e).length_eq, List.length_cons]

def SortedL (l : List Entry) : Prop := l.Pairwise (fun a b => a.1 ≤ b.1)

theorem insertL_sorted {l : List Entry} (e : Entry) (h : SortedL l) : SortedL (insertL l e) := by
  unfold SortedL at *
  induction l with
  | nil => simp [insertL]
  | cons x t ih =>
    unfold insertL
    rw [List.pairwise_cons] at h
    split
    · rename_i hle
      rw [List.pairwise_cons]
      refine ⟨?_, List.pairwise_cons.mpr h⟩
      intro y hy
      rcases List.mem_cons.mp hy with rfl | hy
      · exact hle
      · exact Nat.le_trans hle (h.1 y hy)
    · rename_i hle
      rw [List.pairwise_cons]
      refine ⟨?_, ih h.2⟩
      intro y hy
      rcases mem_insertL.mp hy with rfl | hy
      · omega
      · exact h.1 y hy

theorem popByL_ok {l l' : List Entry} {pred : Entry → Bool} {v : Option Pkt}
    (h : popByL l pred = .ok (v, l')) :
    ∃ e, v = some e.2 ∧ l.find? pred = some e ∧ e ∈ l ∧ pred e = true ∧ l' = l.eraseP pred ∧ l.Perm (e :: l') := by
  unfold popByL at h
  split at h
  · cases h
  · split at h
    · rename_i e he
      injection h with h
      injection h with h1 h2
      refine ⟨e, h1.symm, he, List.mem_of_find?_eq_some he, List.find?_some he, h2.symm, ?_⟩
      subst h2
      obtain ⟨as, bs, hl, hn⟩ := List.find?_eq_some_iff_append.mp he |>.2
      subst hl
      have : List.eraseP pred (as ++ e :: bs) = as ++ bs := by
        rw [List.eraseP_append_right _ (by intro b hb; simpa using hn b hb)]
        simp [List.find?_some he]
      rw [this]
      exact List.perm_middle
    · cases h

theorem popByL_not_panic (l : List Entry) (pred : Entry → Bool) (s : String) : popByL l pred ≠ .panic s := by
  unfold popByL
  split
  · intro h; cases h
  · split <;> (intro h; cases h)

theorem findL_not_panic (l : List Entry) (sq : Nat) (s : String) : findL l sq ≠ .panic s := by
  unfold findL
  split <;> (intro h; cases h)

/-- `PopRel` relates results of the same kind, and a panic to nothing. -/
theorem PopRel.not_panic {Q : Type} {Rep : Q → List Entry → Prop} {r : Res (Option Pkt × Q)}
    {r' : Res (Option Pkt × List Entry)} (h : PopRel Rep r r') (s : String) : r ≠ .panic s := by
  intro hp
  subst hp
  cases r' <;> exact h

theorem popByL_sorted {l l' : List Entry} {pred : Entry → Bool} {v : Option Pkt}
    (h : popByL l pred = .ok (v, l')) (hs : SortedL l) : SortedL l' := by
  obtain ⟨e, _, _, _, _, hl, _⟩ := popByL_ok h
  subst hl
  exact List.Pairwise.sublist List.eraseP_sublist hs

theorem findL_ok {l : List Entry} {sq : Nat} {v : Option Pkt} (h : findL l sq = .ok v) :
    ∃ e, v = some e.2 ∧ e ∈ l ∧ e.1 = sq := by
  unfold findL at h
  split at h
  · rename_i e he
    injection h with h
    exact ⟨e, h.symm, List.mem_of_find?_eq_some he, by simpa using List.find?_some he⟩
  · cases h

theorem findL_err {l : List Entry} {sq : Nat} {x : String} (h : findL l sq = .err x) :
    ∀ e ∈ l, e.1 ≠ sq := by
  unfold findL at h
  split at h
  · cases h
  · rename_i hn
    intro e he
    have := List.find?_eq_none.mp hn e he
    simpa using this

theorem updateState_fst {I : QImpl} (jb : JB I) :
    jb.updateState.1 = if I.length jb.q ≥ jb.minStart ∧ jb.state = .buffering
      then { jb with state := .emitting, ready := true } else jb := by
  unfold JB.updateState; split <;> rfl

theorem updateState_q {I : QImpl} (jb : JB I) : jb.updateState.1.q = jb.q := by
  rw [updateState_fst]; split <;> rfl

theorem updateState_head {I : QImpl} (jb : JB I) : jb.updateState.1.head = jb.head := by
  rw [updateState_fst]; split <;> rfl

theorem push_char (js : LJB) (p : Pkt) :
    (js.push p).2.ret = .ok none ∧
    (js.push p).1 = (JB.updateState { js with q := insertL js.q (p.seq, p), lastSeq := p.seq, head := if (!js.ready) = true ∧ js.q.length % 65536 = 0 then p.seq else js.head }).1 := by
  unfold JB.push
  exact ⟨rfl, rfl⟩

/-- the selection predicate and head-advance flag of the three removing calls. -/
def remPred (js : LJB) : Op → Entry → Bool
  | .pop => fun e => e.1 == js.head
  | .popSeq sq => fun e => e.1 == sq
  | .popTs ts => fun e => e.2.ts == ts
  | _ => fun _ => false
def remAdv : Op → Bool
  | .popTs _ => false
  | _ => true

theorem rem_step (js : LJB) (op : Op) (h : op.removes = true) :
    js.step op = if js.state ≠ .emitting then (js, { ret := .err "buffering" })
      else js.popWith (popByL js.q (remPred js op)) (remAdv op) := by
  cases op <;> simp [Op.removes] at h <;> rfl

/-- a removing call either fails and changes nothing, or (while emitting) hands out the first entry
satisfying its predicate. -/
theorem rem_cases (js : LJB) {op : Op} (h : op.removes = true) :
    ((js.step op).1 = js ∧ ∃ x, (js.step op).2.ret = .err x) ∨
    (js.state = .emitting ∧ ∃ e, (js.step op).2.ret = .ok (some e.2) ∧ e ∈ js.q ∧ remPred js op e = true ∧
      js.q.Perm (e :: js.q.eraseP (remPred js op)) ∧
      (js.step op).1 = (JB.updateState ({ js with
        q := js.q.eraseP (remPred js op), head := if remAdv op = true then (js.head + 1) % 65536 else js.head } : LJB)).1) := by
  rw [rem_step js op h]
  by_cases hst : js.state = .emitting
  · rw [if_neg (not_not_intro hst)]
    cases hp : popByL js.q (remPred js op) with
    | ok r =>
      obtain ⟨v, l'⟩ := r
      obtain ⟨e, rfl, _, hm, hpe, rfl, hperm⟩ := popByL_ok hp
      exact Or.inr ⟨hst, e, rfl, hm, hpe, hperm, rfl⟩
    | err x => exact Or.inl ⟨rfl, x, rfl⟩
    | panic s => exact absurd hp (popByL_not_panic _ _ _)
  · rw [if_pos hst]; exact Or.inl ⟨rfl, _, rfl⟩

/-- what every state reached by quiet calls after the first push satisfies.  `k`: until playback has started
once the buffer is neither empty nor full enough to start, so a push neither resets the playout head nor can
the count wrap; `m` keeps `length % 65536` honest below `minStart`. -/
structure Inv (js : LJB) : Prop where
  prio : PrioOk js.q
  er : js.state = .emitting → js.ready = true
  m : js.minStart < 65536
  k : js.ready = true ∨ (0 < js.q.length ∧ js.q.length < js.minStart)

theorem st_cases (s : St) : s = .buffering ∨ s = .emitting := by cases s <;> simp

theorem Inv.updateState {x : LJB} (hp : PrioOk x.q) (her : x.state = .emitting → x.ready = true)
    (hm : x.minStart < 65536)
    (hk : x.ready = true ∨ x.state = .buffering ∧ 0 < x.q.length ∧ x.q.length < 65536) : Inv x.updateState.1 := by
  rw [updateState_fst]; split
  · exact ⟨hp, fun _ => rfl, hm, Or.inl rfl⟩
  · rename_i hc
    refine ⟨hp, her, hm, hk.imp id fun ⟨hb, h0, hlt⟩ => ⟨h0, ?_⟩⟩
    have : ¬ x.q.length % 65536 ≥ x.minStart := fun h => hc ⟨h, hb⟩
    rw [Nat.mod_eq_of_lt hlt] at this; exact Nat.not_le.mp this

/-- the first push into an empty, never-started buffer establishes the invariant and sets the playout head. -/
theorem inv_first_push (js : LJB) (hq : js.q = []) (hr : js.ready = false) (hs : js.state = .buffering)
    (hm : js.minStart < 65536) (p : Pkt) :
    Inv (js.push p).1 ∧ (js.push p).1.head = p.seq := by
  rw [(push_char js p).2, updateState_head, hq, hr]
  exact ⟨Inv.updateState (by intro x hx; cases List.mem_singleton.mp hx; rfl) (fun h => by rw [hs] at h; cases h) hm
    (Or.inr ⟨hs, Nat.one_pos, (by decide : 1 < 65536)⟩), rfl⟩

/-- the effect of one quiet call on the invariant and on the playout head. -/
theorem inv_step {js : LJB} (hi : Inv js) (op : Op)
    (hq : Rec.Quiet { head := js.head, ready := js.ready, op := op, out := (js.step op).2 }) :
    Inv (js.step op).1 ∧
    ((op.atHead = true ∧ ∃ p, (js.step op).2.ret = .ok (some p) ∧ p.seq = js.head ∧
        (js.step op).1.head = (js.head + 1) % 65536) ∨
     ((op.atHead = false ∨ ∀ p, (js.step op).2.ret ≠ .ok (some p)) ∧ (js.step op).1.head = js.head)) := by
  obtain ⟨hprio, her, hm, hk⟩ := id hi
  by_cases hrem : op.removes = true
  · rcases rem_cases js hrem with ⟨hjs, x, hret⟩ | ⟨hst, e, hret, hmem, hpe, _, hjs⟩
    · rw [hjs, hret]; exact ⟨hi, Or.inr ⟨Or.inr (fun p hp => nomatch hp), rfl⟩⟩
    · have hes : e.2.seq = e.1 := (hprio e hmem).symm
      rw [hjs, hret, updateState_head]
      refine ⟨Inv.updateState (fun x hx => hprio x (List.mem_of_mem_eraseP hx)) her hm (Or.inl (her hst)), ?_⟩
      cases op with
      | pop => exact Or.inl ⟨rfl, e.2, rfl, by simp [remPred] at hpe; omega, rfl⟩
      | popSeq sq =>
        have hqq : sq = js.head := by
          simp only [Rec.Quiet, Rec.pkt?, hret] at hq
          exact hq.resolve_left (fun h => nomatch h)
        exact Or.inl ⟨rfl, e.2, rfl, by simp [remPred] at hpe; omega, rfl⟩
      | popTs ts => exact Or.inr ⟨Or.inl rfl, rfl⟩
      | _ => cases hrem
  · cases op with
    | push p =>
      obtain ⟨hret, hjs⟩ := push_char js p
      have hhd : (if (!js.ready) = true ∧ js.q.length % 65536 = 0 then p.seq else js.head) = js.head := by
        rcases hk with h | ⟨h1, h2⟩
        · simp [h]
        · have : js.q.length % 65536 ≠ 0 := by omega
          simp [this]
      simp only [JB.step]
      rw [hjs, hhd, hret, updateState_head]
      refine ⟨Inv.updateState ?_ her hm ?_, Or.inr ⟨Or.inl rfl, rfl⟩⟩
      · intro x hx
        rcases mem_insertL.mp hx with rfl | hx
        · rfl
        · exact hprio x hx
      · by_cases hr : js.ready = true
        · exact Or.inl hr
        · obtain ⟨h1, h2⟩ := hk.resolve_left hr
          exact Or.inr ⟨(st_cases js.state).resolve_right (fun h => hr (her h)),
            by rw [insertL_length]; omega, by rw [insertL_length]; omega⟩
    | peek b => exact ⟨hi, Or.inr ⟨Or.inl rfl, rfl⟩⟩
    | peekSeq sq => exact ⟨hi, Or.inr ⟨Or.inl rfl, rfl⟩⟩
    | setHead h => exact absurd hq (by simp [Rec.Quiet])
    | getHead => exact ⟨hi, Or.inr ⟨Or.inl rfl, rfl⟩⟩
    | clear r =>
      cases r
      · have hr : js.ready = true := by simpa [Rec.Quiet] using hq
        exact ⟨⟨fun x hx => (by cases hx), her, hm, Or.inl hr⟩, Or.inr ⟨Or.inl rfl, rfl⟩⟩
      · exact absurd hq (by simp [Rec.Quiet])
    | _ => simp [Op.removes] at hrem

theorem run_cons (js : LJB) (op : Op) (ops : List Op) :
    (js.run (op :: ops)) = (((js.step op).1.run ops).1,
      { head := js.head, ready := js.ready, op := op, out := (js.step op).2 } :: ((js.step op).1.run ops).2) := rfl

/-- successive successful pops at the playout head return `head, head+1, …`. -/
theorem consec_run {js : LJB} (hi : Inv js) (ops : List Op) (hq : ∀ r ∈ (js.run ops).2, r.Quiet) :
    Consec js.head (headPops (js.run ops).2) := by
  induction ops generalizing js with
  | nil => exact trivial
  | cons op ops ih =>
    rw [run_cons] at hq ⊢
    have hq0 := hq _ (List.mem_cons_self)
    obtain ⟨hi', hh⟩ := inv_step hi op hq0
    have ih' := ih hi' (fun r hr => hq r (List.mem_cons_of_mem _ hr))
    simp only [headPops, Rec.pkt?]
    rcases hh with ⟨hat, p, hret, hseq, hhead⟩ | ⟨hno, hhead⟩
    · rw [hat, hret]
      simp only [if_true]
      rw [hhead] at ih'
      exact ⟨hseq, ih'⟩
    · rw [hhead] at ih'
      rcases hno with hat | hno
      · rw [hat]; simpa using ih'
      · split
        · split
          · rename_i p hp
            split at hp
            · rename_i p' hp'; exact absurd hp' (hno p')
            · cases hp
          · exact ih'
        · exact ih'

def objs (l : List Pkt) : List Nat := l.map (·.obj)

/-- multiset accounting of one call: what is handed out and what stays buffered was buffered or pushed. -/
theorem step_count (js : LJB) (op : Op) (o : Nat) :
    (objs (poppedOf [{ head := js.head, ready := js.ready, op := op, out := (js.step op).2 }])).count o +
      (objs (pkts (js.step op).1.q)).count o ≤ (objs (pkts js.q)).count o + (objs (pushedOf [op])).count o := by
  by_cases hrem : op.removes = true
  · simp only [poppedOf, hrem, if_true, Rec.pkt?]
    have hpush : pushedOf [op] = [] := by cases op <;> simp [Op.removes] at hrem <;> rfl
    rw [hpush]
    rcases rem_cases js hrem with ⟨hjs, x, hret⟩ | ⟨_, e, hret, _, _, hperm, hjs⟩
    · rw [hjs, hret]; simp [objs]
    · rw [hjs, hret, updateState_q]
      have := (hperm.map (·.2)).map (·.obj) |>.count_eq o
      simp only [objs, pkts, List.map_cons, List.count_cons, List.count_nil, List.map_nil] at this ⊢
      omega
  · have hpop : poppedOf [{ head := js.head, ready := js.ready, op := op, out := (js.step op).2 }] = [] := by
      simp [poppedOf, hrem]
    rw [hpop]
    cases op with
    | push p =>
      simp only [JB.step]
      rw [(push_char js p).2, updateState_q]
      have := ((insertL_perm js.q (p.seq, p)).map (·.2)).map (·.obj) |>.count_eq o
      simp only [objs, pkts, pushedOf, List.map_cons, List.count_cons, List.count_nil, List.map_nil] at this ⊢
      omega
    | clear r =>
      have : (js.step (.clear r)).1.q = [] := by cases r <;> rfl
      rw [this]; simp [objs, pkts]
    | peek b => simp [JB.step, objs, pushedOf]
    | peekSeq sq => simp [JB.step, objs, pushedOf]
    | setHead h => simp [JB.step, JB.setPlayoutHead, objs, pushedOf]
    | getHead => simp [JB.step, objs, pushedOf]
    | _ => simp [Op.removes] at hrem

theorem poppedOf_cons (r : Rec) (tr : List Rec) : poppedOf (r :: tr) = poppedOf [r] ++ poppedOf tr := by
  simp only [poppedOf]
  split
  · split <;> simp
  · simp

theorem pushedOf_cons (op : Op) (ops : List Op) : pushedOf (op :: ops) = pushedOf [op] ++ pushedOf ops := by
  cases op <;> simp [pushedOf]

theorem run_count (js : LJB) (ops : List Op) (o : Nat) :
    (objs (poppedOf (js.run ops).2)).count o + (objs (pkts (js.run ops).1.q)).count o ≤
      (objs (pkts js.q)).count o + (objs (pushedOf ops)).count o := by
  induction ops generalizing js with
  | nil => simp [JB.run, poppedOf, pushedOf, objs]
  | cons op ops ih =>
    rw [run_cons, poppedOf_cons, pushedOf_cons]
    have h1 := step_count js op o
    have h2 := ih (js.step op).1
    simp only [objs, List.map_append, List.count_append] at h1 h2 ⊢
    omega

/-- provenance: whatever a call returns (pops and peeks) was buffered. -/
theorem step_prov (js : LJB) (op : Op) :
    (∀ p, (js.step op).2.ret = .ok (some p) → p ∈ pkts js.q) ∧
    (∀ x ∈ pkts (js.step op).1.q, x ∈ pkts js.q ∨ x ∈ pushedOf [op]) := by
  have hmem : ∀ {e : Entry} {l : List Entry}, e ∈ l → e.2 ∈ pkts l := fun h => List.mem_map_of_mem h
  by_cases hrem : op.removes = true
  · rcases rem_cases js hrem with ⟨hjs, x, hret⟩ | ⟨_, e, hret, hm, _, _, hjs⟩
    · rw [hjs, hret]
      exact ⟨(by intro p hp; cases hp), fun x hx => Or.inl hx⟩
    · rw [hjs, hret, updateState_q]
      refine ⟨?_, ?_⟩
      · intro p hp; injection hp with hp; injection hp with hp; subst hp; exact hmem hm
      · intro x hx
        obtain ⟨y, hy, rfl⟩ := List.mem_map.mp hx
        exact Or.inl (hmem (List.mem_of_mem_eraseP hy))
  · cases op with
    | push p =>
      obtain ⟨hret, hjs⟩ := push_char js p
      simp only [JB.step]
      rw [hjs, updateState_q, hret]
      refine ⟨(by intro p hp; cases hp), ?_⟩
      intro x hx
      obtain ⟨y, hy, rfl⟩ := List.mem_map.mp hx
      rcases mem_insertL.mp hy with rfl | hy
      · exact Or.inr (by simp [pushedOf])
      · exact Or.inl (hmem hy)
    | clear r =>
      have h1 : (js.step (.clear r)).1.q = [] := by cases r <;> rfl
      have h2 : (js.step (.clear r)).2.ret = .ok none := by cases r <;> rfl
      rw [h1, h2]
      exact ⟨(by intro p hp; cases hp), (by intro x hx; cases hx)⟩
    | peek b =>
      refine ⟨?_, fun x hx => Or.inl hx⟩
      intro p hp
      simp only [JB.step, JB.peek] at hp
      split at hp
      · cases hp
      · split at hp <;> (obtain ⟨e, hv, he, _⟩ := findL_ok hp; injection hv with hv; subst hv; exact hmem he)
    | peekSeq sq =>
      refine ⟨?_, fun x hx => Or.inl hx⟩
      intro p hp
      obtain ⟨e, hv, he, _⟩ := findL_ok (show findL js.q sq = _ from hp)
      injection hv with hv; subst hv; exact hmem he
    | setHead h => exact ⟨(by intro p hp; cases hp), fun x hx => Or.inl hx⟩
    | getHead => exact ⟨(by intro p hp; cases hp), fun x hx => Or.inl hx⟩
    | _ => simp [Op.removes] at hrem

theorem run_prov (js : LJB) (ops : List Op) :
    (∀ r ∈ (js.run ops).2, ∀ p, r.pkt? = some p → p ∈ pkts js.q ∨ p ∈ pushedOf ops) ∧
    (∀ x ∈ pkts (js.run ops).1.q, x ∈ pkts js.q ∨ x ∈ pushedOf ops) := by
  induction ops generalizing js with
  | nil => exact ⟨(by intro r hr; cases hr), fun x hx => Or.inl hx⟩
  | cons op ops ih =>
    rw [run_cons, pushedOf_cons]
    obtain ⟨s1, s2⟩ := step_prov js op
    obtain ⟨i1, i2⟩ := ih (js.step op).1
    have lift : ∀ x, (x ∈ pkts (js.step op).1.q ∨ x ∈ pushedOf ops) → x ∈ pkts js.q ∨ x ∈ pushedOf [op] ++ pushedOf ops := by
      intro x hx
      rcases hx with hx | hx
      · rcases s2 x hx with h | h
        · exact Or.inl h
        · exact Or.inr (List.mem_append_left _ h)
      · exact Or.inr (List.mem_append_right _ hx)
    refine ⟨?_, fun x hx => lift x (i2 x hx)⟩
    intro r hr p hp
    rcases List.mem_cons.mp hr with rfl | hr
    · left
      apply s1
      simp only [Rec.pkt?] at hp
      split at hp
      · injection hp with hp; subst hp; assumption
      · cases hp
    · exact lift p (i1 r hr p hp)

/-- the list-level queue refines itself: a state represents the list it is. -/
def listRefines : Refines listImpl where
  Rep := fun q l => q = l
  empty := rfl
  length := fun h => by subst h; rfl
  push := fun p s h => by subst h; exact ⟨_, rfl, rfl⟩
  find := fun s h => by subst h; rfl
  popAt := fun s h => by
    subst h
    show PopRel _ (popByL _ _) (popByL _ _)
    cases hp : popByL _ (fun e : Entry => e.1 == s) with
    | ok r => exact ⟨rfl, rfl⟩
    | err x => exact rfl
    | panic x => exact absurd hp (popByL_not_panic _ _ _)
  popAtTs := fun t h => by
    subst h
    show PopRel _ (popByL _ _) (popByL _ _)
    cases hp : popByL _ (fun e : Entry => e.2.ts == t) with
    | ok r => exact ⟨rfl, rfl⟩
    | err x => exact rfl
    | panic x => exact absurd hp (popByL_not_panic _ _ _)
  clear := fun h => ⟨_, rfl, rfl⟩

theorem fast_pop (l : List Entry) (pred : Entry → Bool) :
    PopRel (fun (q : List Entry × Nat) l' => q.1 = l' ∧ q.2 = l'.length)
      (match popByL l pred with
        | .ok (v, l') => .ok (v, (l', l.length - 1))
        | .err e => .err e
        | .panic x => .panic x)
      (popByL l pred) := by
  cases hp : popByL l pred with
  | ok r =>
    obtain ⟨v, l'⟩ := r
    obtain ⟨e, _, _, _, _, _, hperm⟩ := popByL_ok hp
    have := hperm.length_eq
    simp only [List.length_cons] at this
    exact ⟨rfl, rfl, by show l.length - 1 = l'.length; omega⟩
  | err x => exact rfl
  | panic x => exact absurd hp (popByL_not_panic _ _ _)

/-- the list queue with a cached count refines the list queue. -/
def fastRefines : Refines fastImpl where
  Rep := fun q l => q.1 = l ∧ q.2 = l.length
  empty := ⟨rfl, rfl⟩
  length := fun h => by obtain ⟨h1, h2⟩ := h; subst h1; show _ % 65536 = _; rw [h2]
  push := fun p s h => by
    obtain ⟨h1, h2⟩ := h; subst h1
    exact ⟨_, rfl, rfl, by show _ + 1 = _; rw [h2, insertL_length]⟩
  find := fun s h => by obtain ⟨h1, _⟩ := h; subst h1; rfl
  popAt := fun s h => by
    obtain ⟨h1, h2⟩ := h; subst h1
    show PopRel _ (match popByL _ _ with | .ok (v, l') => .ok (v, (l', _ - 1)) | .err e => .err e | .panic x => .panic x) _
    rw [h2]; exact fast_pop _ _
  popAtTs := fun t h => by
    obtain ⟨h1, h2⟩ := h; subst h1
    show PopRel _ (match popByL _ _ with | .ok (v, l') => .ok (v, (l', _ - 1)) | .err e => .err e | .panic x => .panic x) _
    rw [h2]; exact fast_pop _ _
  clear := fun _ => ⟨_, rfl, rfl, rfl⟩

end Interceptor.JitterBuffer
