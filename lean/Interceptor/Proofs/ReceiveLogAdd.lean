/-
C03: `add` preserves the refinement relation `R`: the two ways in which a log that represents a
stream changes (another receive set with the same members; an arrival inside the window, `R.arrive`, which
also serves the forward branch), and from them the branches of `add` that leave the highest number where it is.
-/
import Interceptor.Proofs.ReceiveLog
namespace Interceptor.ReceiveLog
open Interceptor

theorem mem_recv' (recv : List Int) (x lo y : Int) :
    y ∈ (x :: recv).filter (fun y => decide (lo < y)) ↔ (y = x ∨ y ∈ recv) ∧ lo < y := by
  simp [List.mem_filter]

/-- two numbers of one window are less than its length apart. -/
theorem window_near {s x y hi : Int} (hx : hi - s < x) (hx' : x ≤ hi) (hy : hi - s < y) (hy' : y ≤ hi) :
    x - y < s ∧ y - x < s := by omega

variable {size : Nat} {l : Log} {a : NackSpec.Stream} {lcU : Int}

/-- `R` sees the receive set only through its members. -/
theorem R.recv_congr (h : R size l a lcU) (recv' : List Int) (hm : ∀ y, y ∈ recv' ↔ y ∈ a.recv) :
    R size l { first := a.first, hi := a.hi, recv := recv' } lcU :=
  ⟨h.hsize, h.hbits, h.hstarted, h.hend, h.hlc, h.hlo, h.hle, h.hfirst,
    fun x h1 h2 => by rw [h.hbit x h1 h2]; exact (decide_eq_decide.mpr (hm x)).symm,
    fun x h1 h2 h3 => (hm x).mpr (h.hrecv x h1 h2 h3),
    fun x hx => h.hwin x ((hm x).mp hx),
    (hm a.hi).mpr h.hhi⟩

/-- an arrival `x` inside the window `(hi' − size, hi']`, where `hi'` is the highest number afterwards. `L2` is the
log before the bit of `x` is set: its end is at `hi'`, its bitmap agrees with the receive set ahead of the old
cursor (`x` apart), and its cursor has moved from `lcU` (or from the window floor) to `c` over `x` and set bits. -/
theorem R.arrive (hs : SizeOK size) (h : R size l a lcU) (x hi' : Int) (g1 : a.hi ≤ hi')
    (g2 : hi' - size < x) (g3 : x ≤ hi') (L2 : Log) (c1 : L2.size = size) (c2 : L2.bits.size = size)
    (c3 : L2.started = true) (c4 : L2.end_ = sq hi') (c : Int) (c5 : L2.lc = sq c)
    (hL : ∀ y : Int, lcU < y → hi' - size < y → y ≤ hi' → y ≠ x → getBit L2 (sq y) = decide (y ∈ a.recv))
    (k1 : lcU ≤ c) (k2 : hi' - size ≤ c) (k3 : c ≤ hi')
    (hk : ∀ y : Int, lcU < y → hi' - size < y → y ≤ c → y = x ∨ getBit L2 (sq y) = true)
    (recv' : List Int) (hm : ∀ y, y ∈ recv' ↔ (y = x ∨ y ∈ a.recv) ∧ hi' - size < y) (hhi : hi' ∈ recv') :
    R size (setBit L2 (sq x) true) { first := a.first, hi := hi', recv := recv' } c := by
  refine ⟨c1, (setBit_bits_size _ _ _).trans c2, c3, c4, c5, k2, k3, Int.le_trans h.hfirst k1, ?_, ?_, ?_, hhi⟩
  · intro y y1 y2
    have yw : hi' - size < y := Int.lt_of_le_of_lt k2 y1
    obtain ⟨n1, n2⟩ := window_near g2 g3 yw y2
    rw [getBit_setBit_sq hs L2 c1 c2 x y true n1 n2, decide_eq_decide.mpr (hm y)]
    by_cases e : x = y
    · rw [if_pos e]; exact (decide_eq_true ⟨Or.inl e.symm, yw⟩).symm
    · rw [if_neg e, hL y (Int.lt_of_le_of_lt k1 y1) yw y2 (Ne.symm e)]
      exact decide_eq_decide.mpr ⟨fun hy => ⟨Or.inr hy, yw⟩, fun hy => hy.1.resolve_left (Ne.symm e)⟩
  · intro y y1 y2 y3
    refine (hm y).mpr ⟨?_, y2⟩
    by_cases hy : y ≤ lcU
    · exact Or.inr (h.hrecv y y1 (Int.lt_of_le_of_lt (Int.sub_le_sub_right g1 _) y2) hy)
    · by_cases e : y = x
      · exact Or.inl e
      · -- between the old cursor and the new one the bit was set
        refine Or.inr (of_decide_eq_true ?_)
        rw [← hL y (Int.not_le.mp hy) y2 (Int.le_trans y3 k3) e]
        exact (hk y (Int.not_le.mp hy) y2 y3).resolve_left e
  · intro y hy
    obtain ⟨hy1, hy2⟩ := (hm y).mp hy
    refine ⟨hy2, ?_⟩
    rcases hy1 with rfl | hy1
    · exact g3
    · exact Int.le_trans (h.hwin y hy1).2 g1

theorem R_add_dup (h : R size l a lcU) :
    R size (add l (sq a.hi))
      { first := a.first, hi := a.hi, recv := (a.hi :: a.recv).filter (fun y => decide (a.hi - size < y)) } lcU := by
  rw [add_of_started l _ h.hstarted, if_pos (by rw [h.hend, sub16_sq_of_le _ _ (Int.le_refl _) (by omega)]; omega)]
  apply h.recv_congr
  intro y
  rw [mem_recv']
  constructor
  · rintro ⟨rfl | h1, _⟩
    · exact h.hhi
    · exact h1
  · exact fun hy => ⟨Or.inr hy, (h.hwin y hy).1⟩

/-- a late arrival `x` takes neither the duplicate nor the forward branch of `add`; how far it is behind the
highest number decides between the last two. -/
theorem sub16_late (h : R size l a lcU) (x : Int) (h1 : x < a.hi) (h2 : a.hi - 32768 ≤ x) :
    sub16 (sq x) l.end_ ≠ 0 ∧ ¬ sub16 (sq x) l.end_ < 32768 ∧ sub16 l.end_ (sq x) = (a.hi - x).toNat := by
  have e : sub16 (sq x) l.end_ = (x - a.hi + 65536).toNat := by
    rw [h.hend, sub16_sq, ← sq_small _ (by omega) (by omega)]
    unfold sq
    rw [Int.add_emod_right]
  rw [e, h.hend, sub16_sq_of_le a.hi x (by omega) (by omega)]
  omega

theorem R_add_old (h : R size l a lcU) (x : Int) (h1 : x < a.hi) (h2 : a.hi - 32768 ≤ x)
    (h3 : x ≤ a.hi - size) : add l (sq x) = l := by
  obtain ⟨e1, e2, e3⟩ := sub16_late h x h1 h2
  rw [add_of_started l _ h.hstarted, if_neg e1, if_neg e2, if_pos (by rw [e3, h.hsize]; omega)]

theorem R_add_late (hs : SizeOK size) (h : R size l a lcU) (x : Int) (h1 : x < a.hi) (h3 : a.hi - size < x) :
    ∃ lcU' : Int, R size (add l (sq x))
      { first := a.first, hi := a.hi, recv := (x :: a.recv).filter (fun y => decide (a.hi - size < y)) } lcU' := by
  have hle := hs.le
  have hp := hs.pos
  have hlo := h.hlo
  have hlcle := h.hle
  obtain ⟨e1, e2, e3⟩ := sub16_late h x h1 (by omega)
  rw [add_of_started l _ h.hstarted, if_neg e1, if_neg e2, if_neg (by rw [e3, h.hsize]; omega)]
  clear e1 e2 e3
  have hhi := (mem_recv' a.recv x (a.hi - size) a.hi).mpr ⟨Or.inr h.hhi, by omega⟩
  have hL : ∀ y : Int, lcU < y → a.hi - size < y → y ≤ a.hi → y ≠ x → getBit l (sq y) = decide (y ∈ a.recv) :=
    fun y y1 _ y3 _ => h.hbit y y1 y3
  by_cases hc : add16 l.lc 1 = sq x
  · -- the packet right after the cursor: the cursor moves to it and scans forward
    rw [if_pos hc]
    have hx : lcU + 1 = x := succ_eq_of_add16 (h.hlc ▸ hc) (by omega) (by omega)
    subst hx
    obtain ⟨c, k1, k3, hfix, hset⟩ := fix_spec l (lcU + 1) a.hi h.hend (Int.le_of_lt h1) (by omega)
    rw [hfix]
    refine ⟨c, h.arrive hs (lcU + 1) a.hi (Int.le_refl _) h3 (Int.le_of_lt h1) { l with lc := sq c } h.hsize h.hbits
      h.hstarted h.hend c rfl hL (Int.le_trans (Int.le_add_one (Int.le_refl _)) k1) (Int.le_trans (Int.le_of_lt h3) k1)
      k3 (fun y y1 _ y3 => ?_) _ (mem_recv' a.recv (lcU + 1) (a.hi - size)) hhi⟩
    by_cases e : y = lcU + 1
    · exact Or.inl e
    · exact Or.inr (hset y (Int.lt_iff_le_and_ne.mpr ⟨y1, Ne.symm e⟩) y3)
  · rw [if_neg hc]
    exact ⟨lcU, h.arrive hs x a.hi (Int.le_refl _) h3 (Int.le_of_lt h1) l h.hsize h.hbits h.hstarted h.hend lcU h.hlc hL
      (Int.le_refl _) hlo hlcle (fun y y1 _ y3 => absurd y3 (Int.not_le.mpr y1)) _ (mem_recv' a.recv x (a.hi - size))
      hhi⟩

end Interceptor.ReceiveLog
