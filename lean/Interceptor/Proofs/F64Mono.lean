/-
Monotonicity of binary64 rounding in the exact model (Base/F64.lean): `rne` is monotone on the
non-negative rationals.  Within one binade nearest-even rounding on a fixed grid is monotone; across
binades the power of two between them is a grid point of both.  Used by C20 (NTP conversion is
monotone).
-/
import Interceptor.Proofs.F64Round
namespace Interceptor.F64

theorem ulpExp_mono (a b : ℚ) (ha : 0 < a) (hab : a ≤ b) : ulpExp a ≤ ulpExp b :=
  ulpExp_le a _ ha (lt_of_le_of_lt hab (lt_pow2_ulpExp b (lt_of_lt_of_le ha hab))) (ulpExp_ge b)

theorem roundEven_mono (m1 m2 : ℚ) (h : m1 ≤ m2) : roundEven m1 ≤ roundEven m2 := by
  rcases eq_or_lt_of_le h with rfl | hlt
  · exact le_rfl
  · -- the results differ by less than `(m1 + 1/2) − (m2 − 1/2) < 1`
    have h1 : (roundEven m1 : ℚ) < ((roundEven m2 + 1 : Int) : ℚ) := by
      rw [Int.cast_add, Int.cast_one]; linarith only [(roundEven_err m1).1, (roundEven_err m2).2, hlt]
    exact Int.lt_add_one_iff.mp (Int.cast_lt.mp h1)

/-- ★ binary64 rounding is monotone on the non-negative rationals. -/
theorem rne_mono (a b : ℚ) (ha : 0 ≤ a) (hab : a ≤ b) : rne a ≤ rne b := by
  rcases eq_or_lt_of_le ha with h0 | hpos
  · rw [← h0, rne_zero]; exact rne_nonneg b (h0 ▸ hab)
  · have hbpos : 0 < b := lt_of_lt_of_le hpos hab
    have hj := ulpExp_mono a b hpos hab
    rcases eq_or_lt_of_le hj with hje | hjlt
    · -- same binade: the same grid, nearest-even is monotone
      rw [rne_pos_eq a hpos, rne_pos_eq b hbpos, ulp_eq_pow2, ulp_eq_pow2, ← hje]
      have hu := pow2_pos (ulpExp a)
      have : a / pow2 (ulpExp a) ≤ b / pow2 (ulpExp a) := by
        apply div_le_div_of_nonneg_right hab hu.le
      have := roundEven_mono _ _ this
      exact mul_le_mul_of_nonneg_right (by exact_mod_cast this) hu.le
    · -- different binades: the lower end `2^(J+53)` of the binade of `b` lies between them and is a point
      -- of both grids (`b` is not subnormal, its exponent being above that of `a`)
      obtain ⟨J, hJ⟩ : ∃ J, ulpExp b = J + 1 := ⟨ulpExp b - 1, by omega⟩
      have hJ0 : -1074 ≤ J := by have := ulpExp_ge a; omega
      have hQa := pow2_split (j := ulpExp a) (J := J + 53) (by omega)
      have hQb := pow2_split (j := ulpExp b) (J := J + 53) (by omega)
      have haQ : a ≤ pow2 (J + 53) := ((lt_pow2_ulpExp a hpos).trans_le (pow2_le (by omega))).le
      have hQb' : pow2 (J + 53) ≤ b := not_lt.mp fun h => by have := ulpExp_le b J hbpos h hJ0; omega
      rw [hQa] at haQ
      rw [hQb] at hQb'
      have s1 := (rne_sandwich a (ulpExp a) _ hpos.le (lt_pow2_ulpExp a hpos) (ulpExp_ge a)).2 haQ
      have s2 := (rne_sandwich b (ulpExp b) _ hbpos.le (lt_pow2_ulpExp b hbpos) (ulpExp_ge b)).1 hQb'
      rw [← hQa] at s1
      rw [← hQb] at s2
      exact s1.trans s2

end Interceptor.F64
