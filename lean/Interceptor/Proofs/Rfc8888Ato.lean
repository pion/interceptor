/-
Arrival time offset: the binary64 computation of `getATO` (Model/Rfc8888, over Base/F64) against the exact value.
The three roundings of `float64(sec) + float64(nsec)/1e9` and `· 1024` are squeezed between grid
points (Proofs/F64Round: rounding never crosses a point of a coarse enough grid) that are closer to
the exact value than the distance `1/1953125` of a non-integral exact value `2d/1953125` from the
nearest integer.
-/
import Interceptor.Spec.Rfc8888
import Interceptor.Proofs.F64Round
namespace Interceptor.F64

theorem ulp_pos (a : ℚ) : 0 < ulp a := pow2_pos _

end Interceptor.F64

namespace Interceptor.Rfc8888
open Interceptor.F64

/-- `d.Seconds() * 1024` for `d = S` seconds `+ a` (a fraction of a second), as computed: three
roundings.  Each is squeezed between points of a grid it cannot cross (`grid_le_rne`,
`rne_le_grid`): from below on the grid `2^-10` of the integers `M` after division by 1024, from
above on the finer grid `2^-31 < 1/(1024·1953125)`, the least distance of a non-integral exact value
from the next integer. -/
theorem scaled_bounds (S : Int) (a : ℚ) (hS0 : 0 ≤ S) (hS1 : S < 9223372037) (ha0 : 0 ≤ a) (ha1 : a < 1) :
    (∀ M : Int, (M : ℚ) ≤ 1024 * (S + a) → (M : ℚ) ≤ rne (rne (S + rne a) * 1024)) ∧
    (∀ M : Int, 1024 * (S + a) + 1 / 1953125 ≤ M → M ≤ 8190 →
      rne (rne (S + rne a) * 1024) < (M : ℚ)) := by
  have hSq0 : (0 : ℚ) ≤ S := by exact_mod_cast hS0
  have hSq1 : (S : ℚ) < 9223372037 := by exact_mod_cast hS1
  have hx1lo : 0 ≤ rne a := rne_nonneg a ha0
  have hx1hi : rne a ≤ 1 := by
    have := rne_le_int a 1 ha0 (by rw [Int.cast_one]; exact ha1.le) (by decide)
    rwa [Int.cast_one] at this
  have hq2 : 0 ≤ (S : ℚ) + rne a := add_nonneg hSq0 hx1lo
  have hx2hi : rne ((S : ℚ) + rne a) ≤ (S : ℚ) + 1 := by
    have := rne_le_int ((S : ℚ) + rne a) (S + 1) hq2
      (by rw [Int.cast_add, Int.cast_one]; linarith only [hx1hi]) (by omega)
    rwa [Int.cast_add, Int.cast_one] at this
  have hq3 : 0 ≤ rne ((S : ℚ) + rne a) * 1024 := mul_nonneg (rne_nonneg _ hq2) (by norm_num)
  constructor
  · intro M hM
    have h1 : ((M - 1024 * S : Int) : ℚ) * (1 / 1024) ≤ rne a :=
      grid_le_rne pow2_m10 (by decide) a _ ha0 (by push_cast; linarith only [hM]) (by linarith only [ha1])
    have h2 : (M : ℚ) * (1 / 1024) ≤ rne ((S : ℚ) + rne a) :=
      grid_le_rne pow2_m10 (by decide) _ M hq2 (by push_cast at h1; linarith only [h1])
        (by linarith only [hSq1, hx1hi])
    exact int_le_rne _ M hq3 (by linarith only [h2]) (by linarith only [hx2hi, hSq1])
  · intro M hM hM2
    have h1 : rne a ≤ (((M - 1024 * S) * 2097152 - 1 : Int) : ℚ) * (1 / 2147483648) :=
      rne_le_grid pow2_m31 (by decide) a _ ha0 (by push_cast; linarith only [hM]) (by omega)
    have h2 : rne ((S : ℚ) + rne a) ≤ ((M * 2097152 - 1 : Int) : ℚ) * (1 / 2147483648) :=
      rne_le_grid pow2_m31 (by decide) _ _ hq2 (by push_cast at h1 ⊢; linarith only [h1]) (by omega)
    have h3 := rne_le_grid pow2_m21 (by decide) _ (M * 2097152 - 1) hq3
      (by push_cast at h2 ⊢; linarith only [h2]) (by omega)
    push_cast at h3
    linarith only [h3]

/-- the three roundings of `d.Seconds() * 1024` stay between any two integers that bound the
exact value `2d/1953125` (upper bounds up to the saturation value). -/
theorem atoFloat_bounds (d : Int) (hd : 0 ≤ d) (hd2 : d < 9223372036854775808) :
    (∀ M : Int, M * 1953125 ≤ 2 * d → (M : ℚ) ≤ mul (seconds d) 1024) ∧
    (∀ M : Int, 2 * d < M * 1953125 → M ≤ 8190 → mul (seconds d) 1024 < (M : ℚ)) := by
  have hS0 : 0 ≤ d / 1000000000 := Int.ediv_nonneg hd (by decide)
  have hS1 : d / 1000000000 < 9223372037 := Int.ediv_lt_of_lt_mul (by decide) (by omega)
  have hN0 : 0 ≤ d % 1000000000 := Int.emod_nonneg d (by decide)
  have hN1 : d % 1000000000 < 1000000000 := Int.emod_lt_of_pos d (by decide)
  have hdec : d = (d / 1000000000) * 1000000000 + d % 1000000000 := (Int.ediv_mul_add_emod d _).symm
  unfold seconds F64.mul F64.add F64.div
  rw [Int.tdiv_eq_ediv_of_nonneg hd, Int.tmod_eq_emod_of_nonneg hd,
    ofInt_exact _ hS0 (hS1.trans (by decide)), ofInt_exact _ hN0 (hN1.trans (by decide))]
  generalize d / 1000000000 = S at *
  generalize d % 1000000000 = N at *
  have hdq : (d : ℚ) = (S : ℚ) * 1000000000 + (N : ℚ) := by exact_mod_cast hdec
  have hNq1 : (N : ℚ) < 1000000000 := by exact_mod_cast hN1
  obtain ⟨lo, hi⟩ := scaled_bounds S ((N : ℚ) / 1000000000) hS0 hS1
    (div_nonneg (by exact_mod_cast hN0) (by norm_num)) (by rw [div_lt_one (by norm_num)]; exact hNq1)
  constructor
  · intro M hM
    have hMq : (M : ℚ) * 1953125 ≤ 2 * (d : ℚ) := by exact_mod_cast hM
    exact lo M (by linarith only [hMq, hdq])
  · intro M hM hM2
    have hMq : 2 * (d : ℚ) + 1 ≤ (M : ℚ) * 1953125 := by exact_mod_cast Int.add_one_le_iff.mpr hM
    exact hi M (by linarith only [hMq, hdq]) hM2

/-- ★ the arrival time offset computed in binary64 equals the exact encoding, for ALL report and
arrival times (ages beyond 2^63 ns make `time.Sub` saturate, which still encodes as 0x1FFE). -/
theorem getATO_eq_spec (ref arr : Int) : getATO ref arr = atoSpec ref arr := by
  unfold getATO atoSpec
  by_cases hlt : ref < arr
  · rw [if_pos hlt, if_pos hlt]
  · rw [if_neg hlt, if_neg hlt]
    have hsub : 0 ≤ subSat ref arr ∧ subSat ref arr < 9223372036854775808 ∧ subSat ref arr ≤ ref - arr ∧
        (subSat ref arr < 9223372036854775807 → subSat ref arr = ref - arr) := by
      unfold subSat; dsimp only
      split
      · omega
      · rw [if_neg (by omega)]; omega
    unfold atoFloat
    generalize subSat ref arr = d at *
    obtain ⟨hd0, hd1, hd2, hd3⟩ := hsub
    obtain ⟨hlo, hhi⟩ := atoFloat_bounds d hd0 hd1
    dsimp only
    by_cases hsat : 8190 * 1953125 ≤ 2 * d
    · have := hlo 8190 hsat
      rw [if_pos (by exact_mod_cast this)]
      omega
    · rw [← hd3 (by omega)]
      clear hd1 hd2 hd3 hlt
      have hm1 : 2 * d / 1953125 * 1953125 ≤ 2 * d := Int.ediv_mul_le _ (by decide)
      have hm2 : 2 * d < (2 * d / 1953125 + 1) * 1953125 := Int.lt_ediv_add_one_mul_self _ (by decide)
      generalize 2 * d / 1953125 = m at hm1 hm2 ⊢
      have hm0 : 0 ≤ m := by omega
      have hm8 : m + 1 ≤ 8190 := by omega
      have h1 := hlo m hm1
      have h2 := hhi (m + 1) hm2 hm8
      clear hm1 hm2 hlo hhi hsat hd0
      rw [Int.cast_add, Int.cast_one] at h2
      rw [if_neg (not_le.mpr (h2.trans_le (by exact_mod_cast hm8)))]
      unfold toUint16
      rw [toInt64_of_bracket _ m hm0 (by omega) h1 h2]
      omega

end Interceptor.Rfc8888
