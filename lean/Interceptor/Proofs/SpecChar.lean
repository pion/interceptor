/-
The windowed spec `SBuf`, one send at a time: the five outcomes of `send`, what `get` sees of the
newest packet, well-formedness ("everything remembered is inside the window") and where the
remembered packets come from.
-/
import Interceptor.Proofs.RtpBuffer
namespace Interceptor.RtpBuffer
open Interceptor

variable {α : Type} {seqOf : α → Nat}

theorem SBuf.send_cases {motive : SBuf α → Prop} (s : SBuf α) (p : α)
    (first : s.started = false → motive { s with started := true, hi := seqOf p, m := [p] })
    (rep : s.started = true → sub16 (seqOf p) s.hi = 0 → motive s)
    (newer : s.started = true → sub16 (seqOf p) s.hi ≠ 0 → sub16 (seqOf p) s.hi < 32768 →
      motive { s with hi := seqOf p, m := p :: s.m.filter (fun q => inWin s.size (seqOf p) (seqOf q)) })
    (late : s.started = true → sub16 (seqOf p) s.hi ≠ 0 → ¬ sub16 (seqOf p) s.hi < 32768 →
      sub16 s.hi (seqOf p) < s.size → motive { s with m := p :: s.m })
    (old : s.started = true → sub16 (seqOf p) s.hi ≠ 0 → ¬ sub16 (seqOf p) s.hi < 32768 →
      ¬ sub16 s.hi (seqOf p) < s.size → motive s) :
    motive (s.send seqOf p) := by
  unfold SBuf.send inWin
  simp only [decide_eq_true_eq]
  by_cases hst : s.started = false
  · rw [if_pos hst]; exact first hst
  · have hs : s.started = true := by simpa using hst
    rw [if_neg hst]
    by_cases hd0 : sub16 (seqOf p) s.hi = 0
    · rw [if_pos hd0]; exact rep hs hd0
    · rw [if_neg hd0]
      by_cases hd : sub16 (seqOf p) s.hi < 32768
      · rw [if_pos hd]; exact newer hs hd0 hd
      · rw [if_neg hd]
        by_cases hw : sub16 s.hi (seqOf p) < s.size
        · rw [if_pos hw]; exact late hs hd0 hd hw
        · rw [if_neg hw]; exact old hs hd0 hd hw

theorem SBuf.get_nil {s : SBuf α} (h : s.m = []) (x : Nat) : s.get seqOf x = none := by
  unfold SBuf.get; rw [h]; split <;> rfl

theorem SBuf.get_cons (n : Nat) (st : Bool) (hi : Nat) (p : α) (m : List α) (x : Nat) :
    SBuf.get seqOf ⟨n, st, hi, p :: m⟩ x =
      if sub16 hi x < n ∧ seqOf p = x then some p else SBuf.get seqOf ⟨n, st, hi, m⟩ x := by
  unfold SBuf.get inWin
  simp only [decide_eq_true_eq, List.find?_cons]
  by_cases hw : sub16 hi x < n
  · by_cases e : seqOf p = x <;> simp [hw, e]
  · simp [hw]

/-- well-formed spec state: everything remembered is inside the window; nothing before the first send. -/
structure SBuf.WF (seqOf : α → Nat) (s : SBuf α) : Prop where
  pos : 0 < s.size
  hi_lt : s.hi < 65536
  inwin : ∀ q ∈ s.m, seqOf q < 65536 ∧ sub16 s.hi (seqOf q) < s.size
  fresh : s.started = false → s.m = []

/-- a send is accepted unless it repeats the highest number or is late and outside the window. -/
def SBuf.accepts (seqOf : α → Nat) (s : SBuf α) (p : α) : Prop :=
  s.started = false ∨ (sub16 (seqOf p) s.hi ≠ 0 ∧ (sub16 (seqOf p) s.hi < 32768 ∨ sub16 s.hi (seqOf p) < s.size))

theorem SBuf.wf_send {s : SBuf α} (h : SBuf.WF seqOf s) (p : α) (hp : seqOf p < 65536) :
    SBuf.WF seqOf (s.send seqOf p) := by
  have hself : sub16 (seqOf p) (seqOf p) < s.size := by rw [sub16_self _ hp]; exact h.pos
  refine SBuf.send_cases (motive := SBuf.WF seqOf) s p ?_ (fun _ _ => h) ?_ ?_ (fun _ _ _ _ => h)
  · intro _
    exact ⟨h.pos, hp, fun q hq => by rw [List.mem_singleton.1 hq]; exact ⟨hp, hself⟩, fun c => nomatch c⟩
  · intro hs _ _
    refine ⟨h.pos, hp, fun q hq => ?_, fun c => by rw [hs] at c; cases c⟩
    rcases List.mem_cons.1 hq with rfl | hq
    · exact ⟨hp, hself⟩
    · have := List.mem_filter.1 hq
      exact ⟨(h.inwin q this.1).1, of_decide_eq_true this.2⟩
  · intro hs _ _ hw
    refine ⟨h.pos, h.hi_lt, fun q hq => ?_, fun c => by rw [hs] at c; cases c⟩
    rcases List.mem_cons.1 hq with rfl | hq
    · exact ⟨hp, hw⟩
    · exact h.inwin q hq

theorem SBuf.send_m_subset (s : SBuf α) (p q : α) (h : q ∈ (s.send seqOf p).m) : q = p ∨ q ∈ s.m := by
  revert h
  refine SBuf.send_cases (motive := fun s' => q ∈ s'.m → q = p ∨ q ∈ s.m) s p ?_ (fun _ _ => Or.inr) ?_ ?_
    (fun _ _ _ _ => Or.inr)
  · intro _ h; exact Or.inl (List.mem_singleton.1 h)
  · intro _ _ _ h
    exact (List.mem_cons.1 h).imp_right fun h => (List.mem_filter.1 h).1
  · intro _ _ _ _ h; exact List.mem_cons.1 h

theorem SBuf.sendAll_m_subset (s : SBuf α) (ps : List α) (q : α)
    (h : q ∈ (s.sendAll seqOf ps).m) : q ∈ ps ∨ q ∈ s.m := by
  induction ps generalizing s with
  | nil => exact Or.inr h
  | cons p ps ih =>
    rcases ih (s.send seqOf p) h with h | h
    · exact Or.inl (List.mem_cons_of_mem _ h)
    · exact (SBuf.send_m_subset s p q h).imp (fun e : q = p => e ▸ List.mem_cons_self) id

end Interceptor.RtpBuffer
