/-
The NTP round trips (C20).  First a two-sided bound on `ToTime` of an arbitrary 32.32 fixed-point value
(`toTime_struct`).  That bound, the error of `s` and the exact shape of `ToNTP` (Proofs/NtpMono `sOf_close`,
`toNTP_struct`) give one bound for `ToTime` of `ToNTP t` with low fraction bits cleared (`toTime_low_bits`); the
64-bit and the 32-bit round trip are its cases "none cleared" and "the low 16 cleared".
-/
import Interceptor.Proofs.NtpMono

namespace Interceptor.Ntp
open Interceptor.F64

/-- the nanosecond part computed by `ToTime` from the 32-bit fraction `fp`:
`⌊fl(fl(fp / (2^32−1)) · 1e9)⌋`, within `(−1.001, +0.001]` of `fp/(2^32−1)·1e9` (the two roundings move the
product by about 10^-7; 0.001 is a round number above that, the 1 is the floor), and not negative. -/
theorem nanos_bounds (fp : Nat) (hfp : fp < 4294967296) :
    ∃ w : Int, toInt64 (mul (div (ofInt (fp : Int)) 4294967295) 1000000000) = w ∧
      (w : ℚ) ≤ (fp : ℚ) / 4294967295 * 1000000000 + 1 / 1000 ∧
      (fp : ℚ) / 4294967295 * 1000000000 - 1 - 1 / 1000 < (w : ℚ) ∧ 0 ≤ w := by
  have hofi : ofInt (fp : Int) = (fp : ℚ) := ofInt_natCast fp (by omega)
  have hfq : (fp : ℚ) ≤ 4294967295 := by exact_mod_cast Nat.le_of_lt_succ hfp
  have hg0 : 0 ≤ (fp : ℚ) / 4294967295 := div_nonneg (Nat.cast_nonneg fp) (by norm_num)
  have hg1 : (fp : ℚ) / 4294967295 ≤ 1 := (div_le_one (by norm_num)).mpr hfq
  unfold mul div
  rw [hofi]
  generalize (fp : ℚ) / 4294967295 = g at hg0 hg1 ⊢
  obtain ⟨a1, a2⟩ := rne_err pow2_m53 (by decide) g hg0 (by linarith only [hg1])
  have hF0 : 0 ≤ rne g := rne_nonneg g hg0
  generalize rne g = F at a1 a2 hF0 ⊢
  have hp0 : 0 ≤ F * 1000000000 := mul_nonneg hF0 (by norm_num)
  obtain ⟨b1, b2⟩ := rne_err pow2_m24 (by decide) (F * 1000000000) hp0 (by linarith only [a1, hg1])
  have hm0 : 0 ≤ rne (F * 1000000000) := rne_nonneg _ hp0
  generalize rne (F * 1000000000) = m at b1 b2 hm0 ⊢
  have hfl := Rat.lt_floor_add_one m
  rw [Int.cast_add, Int.cast_one] at hfl
  exact ⟨m.floor, toInt64_of_nonneg m hm0 (by linarith only [b1, a1, hg1]),
    by linarith only [Rat.floor_le m, b1, a1], by linarith only [hfl, b2, a2],
    Rat.le_floor_iff.mpr (by exact_mod_cast hm0)⟩

/-- ★ `ToTime (ip·2^32 + fp)` is `ip` seconds plus a nanosecond part within `(−1.001, +0.001]` of
`fp/(2^32−1)·1e9`, minus the 1900→1970 offset. -/
theorem toTime_struct (ip fp : Nat) (hfp : fp < 4294967296) :
    ∃ w : Int, toTime (ip * 4294967296 + fp)
        = (ip : Int) * 1000000000 + w - 2208988800 * 1000000000 ∧
      (w : ℚ) ≤ (fp : ℚ) / 4294967295 * 1000000000 + 1 / 1000 ∧
      (fp : ℚ) / 4294967295 * 1000000000 - 1 - 1 / 1000 < (w : ℚ) := by
  obtain ⟨w, hw, hw1, hw2, _⟩ := nanos_bounds fp hfp
  refine ⟨w, ?_, hw1, hw2⟩
  have e1 : (ip * 4294967296 + fp) / 4294967296 = ip := by
    rw [Nat.add_comm, Nat.add_mul_div_right _ _ (by decide), Nat.div_eq_of_lt hfp, Nat.zero_add]
  have e2 : (ip * 4294967296 + fp) % 4294967296 = fp := by
    rw [Nat.add_comm, Nat.add_mul_mod_self_right, Nat.mod_eq_of_lt hfp]
  unfold toTime
  dsimp only
  rw [e1, e2, hw]

/-- under the same-window hypothesis, `ToTime32 (ToNTP32 t) r` feeds `ToTime` the 64-bit timestamp
with its low 16 bits cleared. -/
theorem ntp32_word (N R ip fp : Nat) (hN : N = ip * 4294967296 + fp)
    (hw : N / 281474976710656 = R / 281474976710656) :
    ((N / 65536) % 4294967296 * 65536) % 281474976710656
        + R / 281474976710656 * 281474976710656
      = ip * 4294967296 + fp / 65536 * 65536 := by
  omega

/-- ★ `ToTime` of `ToNTP t` with low bits of the fraction cleared (`fp' ≤ fp`): less than 487 ns late,
and early by less than 488 ns plus the value of the cleared bits.  The bounds are strict ones on rationals, written
`486 + 1` and `487 + 1` so that the integer corollaries `≤ 486`, `≤ 487` follow by `Int.lt_add_one_iff`. -/
theorem toTime_low_bits (t : Int) (h0 : 0 ≤ t) (h : t ≤ maxNs) :
    ∃ ip fp : Nat, toNTP t = ip * 4294967296 + fp ∧ fp < 4294967296 ∧
      ∀ fp' : Nat, fp' ≤ fp →
        ((toTime (ip * 4294967296 + fp') - t : Int) : ℚ) < 486 + 1 ∧
        ((t - toTime (ip * 4294967296 + fp') : Int) : ℚ)
          < 487 + 1 + ((fp : ℚ) - fp') * (1000000000 / 4294967295) := by
  obtain ⟨ip, fp, hN, hfp, _, hf⟩ := toNTP_struct t h0 h
  obtain ⟨f1, f2⟩ := floor_bracket _ _ hf
  obtain ⟨s1, s2⟩ := sOf_close t h0 h
  refine ⟨ip, fp, hN, hfp, fun fp' hle => ?_⟩
  obtain ⟨w, hT, w1, w2⟩ := toTime_struct ip fp' (lt_of_le_of_lt hle hfp)
  have g : (fp' : ℚ) ≤ fp := by exact_mod_cast hle
  rw [hT]
  push_cast
  exact ⟨by linarith only [w1, g, f1, s1], by linarith only [w2, f2, s2]⟩

/-- 64-bit round trip: at most 486 ns late, at most 487 ns early. -/
theorem roundtrip_tight (t : Int) (h0 : 0 ≤ t) (h : t ≤ maxNs) :
    toTime (toNTP t) - t ≤ 486 ∧ t - toTime (toNTP t) ≤ 487 := by
  obtain ⟨ip, fp, hN, _, H⟩ := toTime_low_bits t h0 h
  obtain ⟨a, b⟩ := H fp le_rfl
  rw [sub_self, zero_mul, add_zero] at b
  rw [hN]
  exact ⟨Int.lt_add_one_iff.mp (by exact_mod_cast a), Int.lt_add_one_iff.mp (by exact_mod_cast b)⟩

/-- 32-bit round trip against a reference in the same 2^16-second window: at most 486 ns late, at
most 15746 ns (2^-16 s = 15258.8 ns of dropped bits + 487) early. -/
theorem ntp32_roundtrip_tight (t r : Int) (h0 : 0 ≤ t) (h : t ≤ maxNs)
    (hw : toNTP t / 281474976710656 = toNTP r / 281474976710656) :
    toTime32 (toNTP32 t) r - t ≤ 486 ∧ t - toTime32 (toNTP32 t) r ≤ 15746 := by
  obtain ⟨ip, fp, hN, hfp, H⟩ := toTime_low_bits t h0 h
  obtain ⟨a, b⟩ := H (fp / 65536 * 65536) (Nat.div_mul_le_self fp 65536)
  have g : (fp : ℚ) ≤ ((fp / 65536 * 65536 : Nat) : ℚ) + 65535 := by
    exact_mod_cast (by omega : fp ≤ fp / 65536 * 65536 + 65535)
  unfold toTime32 toNTP32
  dsimp only
  rw [ntp32_word (toNTP t) (toNTP r) ip fp hN hw]
  have b' : ((t - toTime (ip * 4294967296 + fp / 65536 * 65536) : Int) : ℚ) < 15746 + 1 := by
    linarith only [b, g]
  exact ⟨Int.lt_add_one_iff.mp (by exact_mod_cast a), Int.lt_add_one_iff.mp (by exact_mod_cast b')⟩

end Interceptor.Ntp
