/- rtpfb.convertTWCC equals the flat spec decoder restricted to [base, base+count) (C09.T1/T3):
the chunk loop is the symbol loop on the concatenated symbols, and the symbol loop is the spec walk. -/
import Interceptor.Proofs.FeedbackSpec
import Interceptor.Model.Rtpfb
namespace Interceptor.Rtpfb
open Interceptor Feedback Feedback.Spec
open Interceptor.FeedbackAdapter (walk_cons)

/-- how both loops go on after a part of the symbols: with the rest if the part fell through,
not at all after a `return`. -/
def Out.andThen (o : Out) (k : Nat → Nat → Int → Res Out) : Res Out :=
  match o with
  | .cont as o' d' t' => do let r ← k o' d' t'; pure (r.prepend as)
  | .ret as => pure (.ret as)
  | .retNil => pure .retNil

theorem prepend_nil (o : Out) : o.prepend [] = o := by cases o <;> rfl

theorem prepend_prepend (o : Out) (as bs : List RAck) : (o.prepend bs).prepend as = o.prepend (as ++ bs) := by
  cases o <;> simp only [Out.prepend, List.append_assoc]

theorem prepend_andThen (o : Out) (as : List RAck) (k : Nat → Nat → Int → Res Out) :
    (o.prepend as).andThen k = o.andThen k >>= fun r => pure (r.prepend as) := by
  cases o with
  | cont bs o' d' t' =>
    show (k o' d' t' >>= fun r => pure (r.prepend (as ++ bs))) =
      (k o' d' t' >>= fun r => pure (r.prepend bs)) >>= fun r => pure (r.prepend as)
    simp only [Res.bind_assoc, Res.pure_eq, Res.bind_ok, prepend_prepend]
  | ret bs => rfl
  | retNil => rfl

/-- acknowledging one symbol first commutes with going on after the part. -/
theorem bind_prepend_andThen (x : Res Out) (as : List RAck) (k : Nat → Nat → Int → Res Out) :
    (x >>= fun r => pure (r.prepend as)) >>= (·.andThen k) =
      (x >>= (·.andThen k)) >>= fun r => pure (r.prepend as) := by
  cases x with
  | ok o => exact prepend_andThen o as k
  | err e => rfl
  | panic s => rfl

theorem symLoop_append (fb : Twcc) (a b : List Nat) : ∀ (offset di : Nat) (ts : Int),
    symLoop fb (a ++ b) offset di ts = symLoop fb a offset di ts >>= (·.andThen (symLoop fb b)) := by
  induction a with
  | nil =>
    intro offset di ts
    simp only [List.nil_append, symLoop, Res.bind_ok, Out.andThen, prepend_nil, Res.pure_eq, Res.bind_ok_right]
  | cons s ss ih =>
    intro offset di ts
    simp only [List.cons_append, symLoop, ih]
    by_cases hc : offset ≥ fb.count
    · simp only [if_pos hc]; rfl
    · simp only [if_neg hc]
      by_cases h0 : s = symNotReceived
      · simp only [if_pos h0]; exact (bind_prepend_andThen ..).symm
      · simp only [if_neg h0]
        by_cases h1 : s = symSmall ∨ s = symLarge
        · simp only [if_pos h1]
          by_cases hd : di ≥ fb.deltas.length
          · simp only [if_pos hd]; rfl
          · simp only [if_neg hd]
            cases idx "twcc_receiver.go: feedback.RecvDeltas[recvDeltaIndex]" fb.deltas di with
            | ok d => exact (bind_prepend_andThen ..).symm
            | err e => rfl
            | panic s => rfl
        · simp only [if_neg h1]
          by_cases h3 : s = symNoDelta
          · simp only [if_pos h3]; exact (bind_prepend_andThen ..).symm
          · simp only [if_neg h3]

theorem chunkStep_eq_symLoop (fb : Twcc) (c : Chunk) (offset di : Nat) (ts : Int) :
    chunkStep fb c offset di ts = symLoop fb (expand c) offset di ts := by
  cases c <;> rfl

theorem chunkLoop_eq_symLoop (fb : Twcc) (cs : List Chunk) : ∀ (offset di : Nat) (ts : Int),
    chunkLoop fb cs offset di ts = symLoop fb (symbols cs) offset di ts := by
  induction cs with
  | nil => intro offset di ts; rfl
  | cons c cs ih =>
    intro offset di ts
    have hk : chunkLoop fb cs = symLoop fb (symbols cs) := funext fun o => funext fun d => funext (ih o d)
    rw [show symbols (c :: cs) = expand c ++ symbols cs from rfl, symLoop_append, ← chunkStep_eq_symLoop,
      ← hk, chunkLoop]
    cases chunkStep fb c offset di ts with
    | ok o => cases o <;> rfl
    | err e => rfl
    | panic s => rfl

/-- the acknowledgement rtpfb derives from one spec status (nothing for a reserved symbol). -/
def toRAck (e : Nat × St) : Option RAck :=
  match e.2 with
  | .lost => some ⟨e.1, false, 0, 0⟩
  | .recvAt t => some ⟨e.1, true, t, 0⟩
  | .recvNoTime => some ⟨e.1, true, 0, 0⟩
  | .reserved => none

theorem toRAck_seq {e : Nat × St} {a : RAck} (h : toRAck e = some a) : a.seq = e.1 := by
  obtain ⟨n, st⟩ := e
  cases st <;> simp only [toRAck, Option.some.injEq, reduceCtorEq] at h <;> rw [← h]

def acksOf (fb : Twcc) (offset : Nat) (sts : List St) : List RAck :=
  (number (fb.base + offset) sts).filterMap toRAck

theorem acksOf_cons (fb : Twcc) (offset : Nat) (st : St) (sts : List St) :
    acksOf fb offset (st :: sts) =
      (toRAck ((fb.base + offset) % 65536, st)).toList ++ acksOf fb (offset + 1) sts := by
  unfold acksOf
  simp only [number, List.filterMap_cons, Nat.add_assoc]
  cases toRAck ((fb.base + offset) % 65536, st) <;> rfl

/-- the outcome of the symbol loop in terms of the spec walk over the symbols still inside the
declared range. -/
def symOut (fb : Twcc) (ss : List Nat) (offset di : Nat) : Option (List St × Int × Nat) → Out
  | none => .retNil
  | some r =>
    if ss.length ≤ fb.count - offset then
      .cont (acksOf fb offset r.1) (offset + ss.length) (di + r.2.2) r.2.1
    else .ret (acksOf fb offset r.1)

/-- one more symbol in front, of status `st` and using `k0` deltas. -/
theorem symOut_cons (fb : Twcc) (s : Nat) (ss : List Nat) (offset di k0 : Nat) (hlt : offset < fb.count)
    (st : St) (W : Option (List St × Int × Nat)) :
    (symOut fb ss (offset + 1) (di + k0) W).prepend (toRAck ((fb.base + offset) % 65536, st)).toList =
      symOut fb (s :: ss) offset di (W.map fun r => (st :: r.1, r.2.1, r.2.2 + k0)) := by
  cases W with
  | none => rfl
  | some r =>
    simp only [symOut, Option.map_some, List.length_cons]
    have hiff : (ss.length ≤ fb.count - (offset + 1)) ↔ (ss.length + 1 ≤ fb.count - offset) := by omega
    by_cases hc : ss.length ≤ fb.count - (offset + 1)
    · rw [if_pos hc, if_pos (hiff.mp hc)]
      simp only [Out.prepend, acksOf_cons]
      congr 1 <;> omega
    · rw [if_neg hc, if_neg (fun h => hc (hiff.mpr h))]
      simp only [Out.prepend, acksOf_cons]

theorem symLoop_eq (fb : Twcc) (ss : List Nat) : ∀ (offset di : Nat) (ts : Int),
    symLoop fb ss offset di ts =
      .ok (symOut fb ss offset di (walk ts (ss.take (fb.count - offset)) (fb.deltas.drop di))) := by
  induction ss with
  | nil => intro offset di ts; simp [symLoop, walk, symOut, acksOf, number]
  | cons s ss ih =>
    intro offset di ts
    unfold symLoop
    by_cases hc : offset ≥ fb.count
    · have h0 : fb.count - offset = 0 := by omega
      simp [hc, h0, walk, symOut, acksOf, number]
    · rw [if_neg hc]
      have hlt : offset < fb.count := by omega
      rw [show fb.count - offset = (fb.count - (offset + 1)) + 1 by omega, List.take_succ_cons, walk_cons,
        Nat.add_mod_mod]
      -- each branch: the rest of the loop by `ih`, then `symOut_cons` for this symbol's status
      by_cases h0 : s = symNotReceived
      · rw [if_pos h0, if_pos h0, ih]
        exact congrArg Res.ok (symOut_cons fb s ss offset di 0 hlt .lost _)
      · rw [if_neg h0, if_neg h0]
        by_cases h1 : s = symSmall ∨ s = symLarge
        · rw [if_pos h1, if_pos h1]
          by_cases hd : di ≥ fb.deltas.length
          · rw [if_pos hd, List.drop_eq_nil_of_le hd]; rfl
          · have hdl : di < fb.deltas.length := by omega
            rw [if_neg hd, idx_lt _ _ _ hdl, List.drop_eq_getElem_cons hdl]
            simp only [Res.bind_ok, ih]
            exact congrArg Res.ok (symOut_cons fb s ss offset di 1 hlt (.recvAt _) _)
        · rw [if_neg h1, if_neg h1]
          by_cases h3 : s = symNoDelta
          · rw [if_pos h3, if_pos h3, ih]
            exact congrArg Res.ok (symOut_cons fb s ss offset di 0 hlt .recvNoTime _)
          · rw [if_neg h3, if_neg h3, ih]
            exact congrArg Res.ok ((prepend_nil _).symm.trans (symOut_cons fb s ss offset di 0 hlt .reserved _))

end Interceptor.Rtpfb
