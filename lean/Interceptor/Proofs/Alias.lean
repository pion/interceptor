/-
Helper lemmas for C13 (`Props/C13.lean`): a call logged by an all-copy interceptor resolves to its
contents under every heap, hence the run of the aliasing model is the run of the interceptor's
logic on the contents alone; erasure lemmas for the run shapes; the heap is the caller's.
-/
import Interceptor.Model.Alias
namespace Interceptor.Alias
open Interceptor.Rtp

theorem read_keep_true (h : Heap) (id : BufId) (b : Bytes) : (keep true id b).read h = b := rfl

theorem map_encExts_true (h : Heap) (b : BufId) (xs : List (Nat × Bytes)) :
    (encExts true b xs).map (fun e => (e.1, e.2.read h)) = xs := by
  induction xs generalizing b with
  | nil => rfl
  | cons e r ih => simp only [encExts, List.map_cons, read_keep_true, ih]

/-- a call logged by an all-copy interceptor resolves to its contents under every heap. -/
theorem resolve_encode {pol : Policy} (hp : pol.allCopy = true) (h : Heap) (ids : Ids) (c : Call) :
    resolve h (encode pol ids c) = c := by
  obtain ⟨p1, p2, p3, p4⟩ := pol
  simp only [Policy.allCopy, Bool.and_eq_true] at hp
  obtain ⟨⟨⟨h1, h2⟩, h3⟩, h4⟩ := hp
  subst h1 h2 h3 h4
  simp only [resolve, encode, read_keep_true, map_encExts_true]

/-- the log stands for the contents `cs` whatever the heap holds. -/
def Pure (log : List LCall) (cs : List Call) : Prop := ∀ h, log.map (resolve h) = cs

theorem emissionsFrom_pure {ε} {pol : Policy} (hp : pol.allCopy = true) (M : Machine ε)
    (ops : List Op) : ∀ (s : St) (cs : List Call), Pure s.log cs →
      emissionsFrom pol M s ops = pureFrom M cs (erase ops) := by
  induction ops with
  | nil => intro s cs _; rfl
  | cons op ops ih =>
    intro s cs hs
    cases op with
    | scribble id b =>
      simp only [emissionsFrom, erase]
      exact ih _ cs hs
    | call ids c =>
      have hlog : Pure (s.log ++ [encode pol ids c]) (cs ++ [c]) := by
        intro h
        simp only [List.map_append, hs h, List.map_cons, List.map_nil, resolve_encode hp]
      simp only [emissionsFrom, erase, pureFrom, step]
      rw [hlog]
      congr 1
      exact ih _ (cs ++ [c]) hlog

theorem erase_scribbled {a b : List Op} (h : Scribbled a b) : erase a = erase b := by
  induction h with
  | nil => rfl
  | keep op _ ih => cases op <;> simp only [erase, ih]
  | ins id bs _ ih => simp only [erase, ih]

theorem erase_freshOps (k : Nat) (cs : List Call) : erase (freshOps k cs) = cs := by
  induction cs generalizing k with
  | nil => rfl
  | cons c cs ih => simp only [freshOps, erase, ih]

theorem erase_scribbles_append (xs : List (BufId × Bytes)) (ops : List Op) :
    erase ((xs.map fun p => Op.scribble p.1 p.2) ++ ops) = erase ops := by
  induction xs with
  | nil => rfl
  | cons x xs ih => simp only [List.map_cons, List.cons_append, erase, ih]

theorem erase_reuseOps (scr : Call → List (BufId × Bytes)) (cs : List Call) :
    erase (reuseOps scr cs) = cs := by
  induction cs with
  | nil => rfl
  | cons c cs ih => simp only [reuseOps, List.cons_append, erase, erase_scribbles_append, ih]

theorem heapAfter_eq_callerHeap {ε} (pol : Policy) (M : Machine ε) (ops : List Op) :
    ∀ s : St, heapAfter pol M s ops = callerHeap s.heap ops := by
  induction ops with
  | nil => intro s; rfl
  | cons op ops ih =>
    intro s
    cases op with
    | call ids c => simp only [heapAfter, callerHeap, step, ih]
    | scribble id b => simp only [heapAfter, callerHeap, step, ih]

end Interceptor.Alias
