/-
Binary64 rounding in the exact model (Base/F64.lean): `rne q` is `roundEven (q / ulp q) * ulp q`, and
`roundEven` moves a rational by at most 1/2 (`roundEven_err`).  The unit in the last place is `2^(ulpExp q)`,
and for `J ≥ −1074`, `ulpExp q ≤ J` exactly when `q < 2^(J+53)` (`ulpExp_le`, `le_ulpExp`).  From that: rounding never
crosses a point of a grid `2^J` that is at least as coarse as the unit in the last place (`rne_sandwich`,
used as `grid_le_rne` / `rne_le_grid`), it moves a value below `2^(K+54)` by at most `2^K` (`rne_err`),
fixes multiples of `2^J` below `2^(J+53)` (`rne_exact`), and lands on multiples of `2^J` from `2^(J+52)`
upwards (`rne_multiple`).  Where a caller's grid is a concrete one, these take the unit as a number `g`
with `pow2 J = g` (`pow2_m21` and the like), and the 53-bit limit as `g * 2^53` or as a bound on the
integer multiple.  Conversions to integers on the ranges where they are the floor.
-/
import Interceptor.Base.F64
import Mathlib.Tactic.Linarith
import Mathlib.Tactic.Ring
import Mathlib.Tactic.Positivity
import Mathlib.Tactic.NormNum
import Mathlib.Data.Rat.Floor
import Mathlib.Algebra.Order.Field.Power
namespace Interceptor.F64

theorem pow2_eq (e : Int) : pow2 e = (2 : ℚ) ^ e := by
  unfold pow2
  split
  · rename_i h
    conv_rhs => rw [← Int.toNat_of_nonneg h]
    rw [zpow_natCast]
  · rename_i h
    have : e = -((-e).toNat : Int) := by omega
    conv_rhs => rw [this]
    rw [zpow_neg, zpow_natCast, one_div]

theorem pow2_pos (e : Int) : 0 < pow2 e := by rw [pow2_eq]; positivity

theorem pow2_add (a b : Int) : pow2 (a + b) = pow2 a * pow2 b := by
  simp only [pow2_eq]; exact zpow_add₀ (by norm_num) a b

theorem pow2_le {a b : Int} (h : a ≤ b) : pow2 a ≤ pow2 b := by
  simp only [pow2_eq]; exact zpow_le_zpow_right₀ (by norm_num) h

/-- exponents compare as the powers do. -/
theorem lt_of_pow2_le_of_lt {a b : Int} {x : ℚ} (h1 : pow2 a ≤ x) (h2 : x < pow2 b) : a < b :=
  lt_of_not_ge fun hc => (lt_of_le_of_lt ((pow2_le hc).trans h1) h2).false

theorem pow2_natCast (n : Nat) : pow2 (n : Int) = ((2 ^ n : Nat) : ℚ) := by
  rw [pow2_eq, zpow_natCast]; push_cast; rfl

theorem pow2_neg (e : Int) : pow2 (-e) = (pow2 e)⁻¹ := by
  simp only [pow2_eq, zpow_neg]

/-- a power of two is a point of every finer grid. -/
theorem pow2_split {j J : Int} (h : j ≤ J) :
    pow2 J = (((2 ^ (J - j).toNat : Nat) : Int) : ℚ) * pow2 j := by
  have : J = ((J - j).toNat : Int) + j := by omega
  conv_lhs => rw [this, pow2_add, pow2_natCast]
  push_cast; rfl

theorem pow2_m53 : pow2 (-53) = 1 / 9007199254740992 := by rw [pow2_eq]; norm_num
theorem pow2_m31 : pow2 (-31) = 1 / 2147483648 := by rw [pow2_eq]; norm_num
theorem pow2_m24 : pow2 (-24) = 1 / 16777216 := by rw [pow2_eq]; norm_num
theorem pow2_m23 : pow2 (-23) = 1 / 8388608 := by rw [pow2_eq]; norm_num
theorem pow2_m22 : pow2 (-22) = 1 / 4194304 := by rw [pow2_eq]; norm_num
theorem pow2_m21 : pow2 (-21) = 1 / 2097152 := by rw [pow2_eq]; norm_num
theorem pow2_m10 : pow2 (-10) = 1 / 1024 := by rw [pow2_eq]; norm_num
theorem pow2_zero : pow2 0 = 1 := by rw [pow2_eq]; norm_num
theorem pow2_1 : pow2 1 = 2 := by rw [pow2_eq]; norm_num
theorem pow2_7 : pow2 7 = 128 := by rw [pow2_eq]; norm_num
theorem pow2_52 : pow2 52 = 4503599627370496 := by rw [pow2_eq]; norm_num
theorem pow2_53 : pow2 53 = 9007199254740992 := by rw [pow2_eq]; norm_num

theorem pow2_succ (e : Int) : pow2 (e + 1) = pow2 e * 2 := by
  rw [pow2_add, pow2_1]

/-- ★ `ilog2 a` is the binade of `a`.  The difference `e0` of the bit lengths of numerator and
denominator is off by at most one (`2^(e0−1) ≤ a < 2^(e0+1)`), which the two tests of `ilog2`
correct. -/
theorem ilog2_spec (a : ℚ) (ha : 0 < a) : pow2 (ilog2 a) ≤ a ∧ a < pow2 (ilog2 a + 1) := by
  have hnum : 0 < a.num := Rat.num_pos.mpr ha
  have hmul : a * (a.den : ℚ) = (a.num : ℚ) := Rat.mul_den_eq_num a
  have n1 : (2 : ℚ) ^ (Nat.log2 a.num.toNat) ≤ (a.num : ℚ) := by
    have := Nat.log2_self_le (n := a.num.toNat) (by omega)
    exact_mod_cast (by omega : ((2 ^ (Nat.log2 a.num.toNat) : Nat) : Int) ≤ a.num)
  have n2 : (a.num : ℚ) < (2 : ℚ) ^ (Nat.log2 a.num.toNat + 1) := by
    have := Nat.lt_log2_self (n := a.num.toNat)
    exact_mod_cast (by omega : a.num < ((2 ^ (Nat.log2 a.num.toNat + 1) : Nat) : Int))
  have d1 : (2 : ℚ) ^ (Nat.log2 a.den) ≤ (a.den : ℚ) := by
    exact_mod_cast Nat.log2_self_le a.den_pos.ne'
  have d2 : (a.den : ℚ) ≤ (2 : ℚ) ^ (Nat.log2 a.den + 1) := by
    exact_mod_cast (Nat.lt_log2_self (n := a.den)).le
  generalize hn : Nat.log2 a.num.toNat = n at n1 n2
  generalize hd : Nat.log2 a.den = d at d1 d2
  have hL : pow2 ((n : Int) - (d : Int) - 1) ≤ a := by
    rw [pow2_eq, show (n : Int) - d - 1 = n - ((d + 1 : Nat) : Int) by push_cast; ring,
      zpow_sub₀ (by norm_num), zpow_natCast, zpow_natCast, div_le_iff₀ (by positivity)]
    calc (2 : ℚ) ^ n ≤ a * (a.den : ℚ) := hmul ▸ n1
      _ ≤ a * (2 : ℚ) ^ (d + 1) := mul_le_mul_of_nonneg_left d2 ha.le
  have hU : a < pow2 ((n : Int) - (d : Int) + 1) := by
    rw [pow2_eq, show (n : Int) - d + 1 = ((n + 1 : Nat) : Int) - (d : Int) by push_cast; ring,
      zpow_sub₀ (by norm_num), zpow_natCast, zpow_natCast, lt_div_iff₀ (by positivity)]
    calc a * (2 : ℚ) ^ d ≤ a * (a.den : ℚ) := mul_le_mul_of_nonneg_left d1 ha.le
      _ < (2 : ℚ) ^ (n + 1) := hmul ▸ n2
  unfold ilog2
  dsimp only
  rw [hn, hd]
  split
  · rename_i h
    exact ⟨hL, by rwa [sub_add_cancel]⟩
  · split
    · rename_i _ h; exact absurd hU (not_lt.mpr h)
    · rename_i h1 h2; exact ⟨not_lt.mp h1, not_le.mp h2⟩

/-- the exponent of the unit in the last place. -/
def ulpExp (a : ℚ) : Int := (if ilog2 a < -1022 then -1022 else ilog2 a) - 52

theorem ulp_eq_pow2 (a : ℚ) : ulp a = pow2 (ulpExp a) := rfl

theorem ulpExp_ge (a : ℚ) : -1074 ≤ ulpExp a := by
  unfold ulpExp; split <;> omega

theorem lt_pow2_ulpExp (a : ℚ) (ha : 0 < a) : a < pow2 (ulpExp a + 53) := by
  refine lt_of_lt_of_le (ilog2_spec a ha).2 (pow2_le ?_)
  unfold ulpExp; split <;> omega

theorem ulpExp_le (a : ℚ) (J : Int) (ha : 0 < a) (h : a < pow2 (J + 53)) (hJ : -1074 ≤ J) : ulpExp a ≤ J := by
  have := lt_of_pow2_le_of_lt (ilog2_spec a ha).1 h
  unfold ulpExp; split <;> omega

theorem le_ulpExp (a : ℚ) (J : Int) (h : pow2 (J + 52) ≤ a) : J ≤ ulpExp a := by
  have := lt_of_pow2_le_of_lt h (ilog2_spec a (lt_of_lt_of_le (pow2_pos _) h)).2
  unfold ulpExp; split <;> omega

theorem roundEven_cases (m : ℚ) :
    roundEven m = m.floor ∧ m - m.floor ≤ 1 / 2 ∨ roundEven m = m.floor + 1 ∧ 1 / 2 ≤ m - m.floor := by
  unfold roundEven
  dsimp only
  split
  · rename_i h; exact Or.inl ⟨rfl, h.le⟩
  · rename_i h1
    split
    · rename_i h; exact Or.inr ⟨rfl, h.le⟩
    · rename_i h2
      split
      · exact Or.inl ⟨rfl, not_lt.mp h2⟩
      · exact Or.inr ⟨rfl, not_lt.mp h1⟩

theorem roundEven_err (m : ℚ) :
    ((roundEven m : Int) : ℚ) ≤ m + 1 / 2 ∧ m - 1 / 2 ≤ ((roundEven m : Int) : ℚ) := by
  have hf : (m.floor : ℚ) ≤ m := Rat.floor_le m
  have hlt : m < ((m.floor + 1 : Int) : ℚ) := Rat.lt_floor_add_one m
  rcases roundEven_cases m with ⟨e, h⟩ | ⟨e, h⟩ <;> rw [e]
  · exact ⟨by linarith only [hf], by linarith only [h]⟩
  · rw [Int.cast_add, Int.cast_one] at hlt ⊢
    exact ⟨by linarith only [h], by linarith only [hlt]⟩

theorem roundEven_ge (m : ℚ) (z : Int) (h : (z : ℚ) ≤ m) : z ≤ roundEven m := by
  have h1 : ((z - 1 : Int) : ℚ) < roundEven m := by
    rw [Int.cast_sub, Int.cast_one]; linarith only [(roundEven_err m).2, h]
  exact Int.sub_one_lt_iff.mp (Int.cast_lt.mp h1)

theorem roundEven_le (m : ℚ) (z : Int) (h : m ≤ (z : ℚ)) : roundEven m ≤ z := by
  have h1 : (roundEven m : ℚ) < ((z + 1 : Int) : ℚ) := by
    rw [Int.cast_add, Int.cast_one]; linarith only [(roundEven_err m).1, h]
  exact Int.lt_add_one_iff.mp (Int.cast_lt.mp h1)

theorem rne_pos_eq (q : ℚ) (hq : 0 < q) : rne q = (roundEven (q / ulp q) : ℚ) * ulp q := by
  unfold rne
  rw [if_neg (ne_of_gt hq)]
  simp only [if_neg (not_lt.mpr hq.le)]

theorem rne_zero : rne 0 = 0 := by unfold rne; simp

theorem rne_nonneg (q : ℚ) (hq : 0 ≤ q) : 0 ≤ rne q := by
  rcases eq_or_lt_of_le hq with h0 | hpos
  · rw [← h0, rne_zero]
  · rw [rne_pos_eq q hpos]
    have hu : 0 < ulp q := pow2_pos _
    have := roundEven_ge (q / ulp q) 0 (by rw [Int.cast_zero]; exact div_nonneg hq hu.le)
    exact mul_nonneg (by exact_mod_cast this) hu.le

/-- rounding never crosses a grid point. -/
theorem rne_sandwich (q : ℚ) (J z : Int) (hq0 : 0 ≤ q) (hq : q < pow2 (J + 53)) (hJ : -1074 ≤ J) :
    ((z : ℚ) * pow2 J ≤ q → (z : ℚ) * pow2 J ≤ rne q) ∧ (q ≤ (z : ℚ) * pow2 J → rne q ≤ (z : ℚ) * pow2 J) := by
  rcases eq_or_lt_of_le hq0 with h0 | hpos
  · subst h0; rw [rne_zero]; exact ⟨id, id⟩
  · have hj := ulpExp_le q J hpos hq hJ
    rw [rne_pos_eq q hpos, ulp_eq_pow2]
    generalize ulpExp q = j at hj ⊢
    have hup : 0 < pow2 j := pow2_pos j
    have hsplit := pow2_split hj
    have hg : (z : ℚ) * pow2 J = ((z * ((2 ^ (J - j).toNat : Nat) : Int) : Int) : ℚ) * pow2 j := by
      rw [hsplit]; push_cast; ring
    rw [hg]
    exact ⟨fun h => mul_le_mul_of_nonneg_right
        (Int.cast_le.mpr (roundEven_ge _ _ ((le_div_iff₀ hup).mpr h))) hup.le,
      fun h => mul_le_mul_of_nonneg_right
        (Int.cast_le.mpr (roundEven_le _ _ ((div_le_iff₀ hup).mpr h))) hup.le⟩

/-- `q < pow2 (J + 53)`, with the unit `g = 2^J` given as a number (`pow2_m21` and the like). -/
theorem lt_pow2_53 {g : ℚ} {J : Int} (hg : pow2 J = g) {q : ℚ} (hq : q < g * 9007199254740992) :
    q < pow2 (J + 53) := by
  rwa [pow2_add, pow2_53, hg]

theorem rne_le_grid {g : ℚ} {J : Int} (hg : pow2 J = g) (hJ : -1074 ≤ J) (q : ℚ) (z : Int) (hq0 : 0 ≤ q)
    (hq : q ≤ (z : ℚ) * g) (hz : z < 9007199254740992) : rne q ≤ (z : ℚ) * g := by
  have hlt : (z : ℚ) * g < g * 9007199254740992 := by
    rw [mul_comm]; exact mul_lt_mul_of_pos_left (by exact_mod_cast hz) (hg ▸ pow2_pos J)
  have := (rne_sandwich q J z hq0 (lt_pow2_53 hg (lt_of_le_of_lt hq hlt)) hJ).2
  rw [hg] at this
  exact this hq

theorem grid_le_rne {g : ℚ} {J : Int} (hg : pow2 J = g) (hJ : -1074 ≤ J) (q : ℚ) (z : Int) (hq0 : 0 ≤ q)
    (hq : (z : ℚ) * g ≤ q) (hlt : q < g * 9007199254740992) : (z : ℚ) * g ≤ rne q := by
  have := (rne_sandwich q J z hq0 (lt_pow2_53 hg hlt) hJ).1
  rw [hg] at this
  exact this hq

theorem int_le_rne (q : ℚ) (z : Int) (hq0 : 0 ≤ q) (hq : (z : ℚ) ≤ q) (hlt : q < 9007199254740992) :
    (z : ℚ) ≤ rne q := by
  have := grid_le_rne pow2_zero (by decide) q z hq0 (by rwa [mul_one]) (by rwa [one_mul])
  rwa [mul_one] at this

theorem rne_le_int (q : ℚ) (z : Int) (hq0 : 0 ≤ q) (hq : q ≤ (z : ℚ)) (hlt : z < 9007199254740992) :
    rne q ≤ (z : ℚ) := by
  have := rne_le_grid pow2_zero (by decide) q z hq0 (by rwa [mul_one]) hlt
  rwa [mul_one] at this

/-- ★ binary64 rounding error: below `2^(K+54)`, where the unit in the last place is at most `2^(K+1)`, the
result is within `e = 2^K`. -/
theorem rne_err {e : ℚ} {K : Int} (he : pow2 K = e) (hK : -1075 ≤ K) (q : ℚ) (hq0 : 0 ≤ q)
    (hq : q < e * 18014398509481984) : rne q ≤ q + e ∧ q - e ≤ rne q := by
  subst he
  rcases eq_or_lt_of_le hq0 with h0 | hpos
  · subst h0; rw [rne_zero, zero_add, zero_sub]
    exact ⟨(pow2_pos K).le, neg_nonpos.mpr (pow2_pos K).le⟩
  · have hj := ulpExp_le q (K + 1) hpos (lt_pow2_53 (pow2_succ K) (by linarith only [hq])) (by omega)
    rw [rne_pos_eq q hpos, ulp_eq_pow2]
    generalize ulpExp q = j at hj ⊢
    have hup : 0 < pow2 j := pow2_pos j
    have hle : pow2 j ≤ pow2 K * 2 := pow2_succ K ▸ pow2_le hj
    obtain ⟨h1, h2⟩ := roundEven_err (q / pow2 j)
    have e : q / pow2 j * pow2 j = q := div_mul_cancel₀ q hup.ne'
    constructor
    · have := mul_le_mul_of_nonneg_right h1 hup.le
      rw [add_mul, e] at this; linarith only [this, hle]
    · have := mul_le_mul_of_nonneg_right h2 hup.le
      rw [sub_mul, e] at this; linarith only [this, hle]

/-- ★ a multiple of `g = 2^J` below `2^(J+53)` is a binary64 value: rounding fixes it. -/
theorem rne_exact {g : ℚ} {J : Int} (hg : pow2 J = g) (hJ : -1074 ≤ J) (q : ℚ) (z : Int) (hq0 : 0 ≤ q)
    (hq : q < g * 9007199254740992) (hz : q = (z : ℚ) * g) : rne q = q := by
  obtain ⟨h1, h2⟩ := rne_sandwich q J z hq0 (lt_pow2_53 hg hq) hJ
  rw [hg, ← hz] at h1 h2
  exact le_antisymm (h2 le_rfl) (h1 le_rfl)

/-- ★ from `2^(J+52)` upwards every binary64 value is a multiple of `g = 2^J`. -/
theorem rne_multiple {g : ℚ} {J : Int} (hg : pow2 J = g) (q : ℚ)
    (hq : g * 4503599627370496 ≤ q) : ∃ z : Int, rne q = (z : ℚ) * g := by
  subst hg
  rw [← pow2_52, ← pow2_add] at hq
  rw [rne_pos_eq q (lt_of_lt_of_le (pow2_pos _) hq), ulp_eq_pow2, pow2_split (le_ulpExp q J hq)]
  exact ⟨roundEven _ * ((2 ^ (ulpExp q - J).toNat : Nat) : Int), by push_cast; ring⟩

theorem ofInt_exact (n : Int) (h0 : 0 ≤ n) (h : n < 9007199254740992) : ofInt n = (n : ℚ) := by
  have h0q : (0 : ℚ) ≤ n := by exact_mod_cast h0
  have hq : (n : ℚ) < 9007199254740992 := by exact_mod_cast h
  exact le_antisymm (rne_le_int _ n h0q le_rfl h) (int_le_rne _ n h0q le_rfl hq)

theorem ofInt_natCast (n : Nat) (h : n < 9007199254740992) : ofInt (n : Int) = (n : ℚ) := by
  rw [ofInt_exact n (Int.natCast_nonneg n) (by exact_mod_cast h), Int.cast_natCast]

theorem toInt64_of_nonneg (x : ℚ) (h0 : 0 ≤ x) (h : x < 9223372036854775808) : toInt64 x = x.floor := by
  have hf0 : 0 ≤ x.floor := Rat.le_floor_iff.mpr (by exact_mod_cast h0)
  have hf1 : x.floor < 9223372036854775808 := by
    exact_mod_cast lt_of_le_of_lt (Rat.floor_le x) h
  unfold toInt64 trunc
  rw [if_neg (not_lt.mpr h0), if_neg (by omega)]

theorem toInt64_of_bracket (x : ℚ) (z : Int) (hz0 : 0 ≤ z) (hz : z < 9223372036854775808)
    (h1 : (z : ℚ) ≤ x) (h2 : x < (z : ℚ) + 1) : toInt64 x = z := by
  have hz0q : (0 : ℚ) ≤ z := by exact_mod_cast hz0
  have hzq : (z : ℚ) + 1 ≤ 9223372036854775808 := by exact_mod_cast Int.add_one_le_iff.mpr hz
  rw [toInt64_of_nonneg x (hz0q.trans h1) (lt_of_lt_of_le h2 hzq)]
  exact Int.floor_eq_iff.mpr ⟨h1, h2⟩

theorem toUint8_of_bracket (x : ℚ) (N : Nat) (hN : N < 256)
    (h1 : (N : ℚ) ≤ x) (h2 : x < (N : ℚ) + 1) : toUint8 x = N := by
  unfold toUint8
  rw [toInt64_of_bracket x N (Int.natCast_nonneg N) (by omega) (by exact_mod_cast h1)
    (by exact_mod_cast h2)]
  omega

theorem toUint32_of_range (q : ℚ) (h0 : 0 ≤ q) (h : q < 4294967296) :
    ((toUint32 q : Nat) : Int) = q.floor := by
  have hf0 : 0 ≤ q.floor := Rat.le_floor_iff.mpr (by exact_mod_cast h0)
  have hf1 : q.floor < 4294967296 := by
    exact_mod_cast lt_of_le_of_lt (Rat.floor_le q) h
  unfold toUint32
  rw [toInt64_of_nonneg q h0 (by linarith)]
  omega

theorem toUint32_lt (q : ℚ) : toUint32 q < 4294967296 := by
  unfold toUint32; omega

/-- ★ the rounded quotient of two integers below 2^53 stays in the unit interval of the exact one:
the exact quotient is at least `1/k` below the next integer and, with `2^e ≤ k < 2^(e+1)`, below
`2^(53−e)`, so rounding moves it by at most `2^(−e)/2 < 1/k`. -/
theorem rne_div_bracket (n k : Int) (hn0 : 0 ≤ n) (hn : n < 9007199254740992) (hk1 : 1 ≤ k)
    (hk : k < 9007199254740992) :
    ((n / k : Int) : ℚ) ≤ rne ((n : ℚ) / (k : ℚ)) ∧ rne ((n : ℚ) / (k : ℚ)) < ((n / k : Int) : ℚ) + 1 := by
  have hk0 : 0 < k := by omega
  have hkq : (0 : ℚ) < (k : ℚ) := Int.cast_pos.mpr hk0
  have hnq0 : (0 : ℚ) ≤ (n : ℚ) := by exact_mod_cast hn0
  have hnq : (n : ℚ) < 9007199254740992 := by exact_mod_cast hn
  have hq0 : (0 : ℚ) ≤ (n : ℚ) / k := div_nonneg hnq0 hkq.le
  have hlow : ((n / k : Int) : ℚ) ≤ (n : ℚ) / k := by
    rw [le_div_iff₀ hkq, ← Int.cast_mul]; exact Int.cast_le.mpr (Int.ediv_mul_le n hk0.ne')
  have hup : (n : ℚ) / k + 1 / k ≤ ((n / k : Int) : ℚ) + 1 := by
    have h : ((n + 1 : Int) : ℚ) ≤ (((n / k + 1) * k : Int) : ℚ) :=
      Int.cast_le.mpr (Int.add_one_le_iff.mpr (Int.lt_ediv_add_one_mul_self n hk0))
    rw [Int.cast_add, Int.cast_mul, Int.cast_add, Int.cast_one] at h
    rwa [← add_div, div_le_iff₀ hkq]
  obtain ⟨h1, h2⟩ := ilog2_spec (k : ℚ) hkq
  generalize ilog2 (k : ℚ) = e at h1 h2
  have hk53 : (k : ℚ) < pow2 53 := by rw [pow2_53]; exact_mod_cast hk
  have he : e < 53 := lt_of_pow2_le_of_lt h1 hk53
  have hlt : (n : ℚ) / k < pow2 (-(e + 1)) * 18014398509481984 := by
    rw [pow2_neg, pow2_succ, show (pow2 e * 2)⁻¹ * 18014398509481984 = 9007199254740992 / pow2 e by
      rw [mul_inv]; ring]
    exact lt_of_le_of_lt (div_le_div_of_nonneg_left hnq0 (pow2_pos e) h1)
      (div_lt_div_of_pos_right hnq (pow2_pos e))
  constructor
  · exact int_le_rne _ _ hq0 hlow (lt_of_le_of_lt (div_le_self hnq0 (by exact_mod_cast hk1)) hnq)
  · have herr := (rne_err (K := -(e + 1)) rfl (by omega) ((n : ℚ) / k) hq0 hlt).1
    have hhalf : pow2 (-(e + 1)) < 1 / (k : ℚ) := by
      rw [pow2_neg, one_div]
      exact inv_strictAnti₀ hkq h2
    linarith only [herr, hhalf, hup]

end Interceptor.F64
