/- the internal/cc adapter's TWCC decoding equals the flat spec decoder (C09.T1) -/
import Interceptor.Proofs.FeedbackTotal
namespace Interceptor
open Feedback Feedback.Spec

theorem Feedback.Spec.number_get (sts : List St) : ∀ (i j : Nat) (e : Nat × St),
    (number i sts)[j]? = some e → e.1 = (i + j) % 65536 ∧ sts[j]? = some e.2 := by
  induction sts with
  | nil => intro i j e h; cases h
  | cons s ss ih =>
    intro i j e h
    cases j with
    | zero => cases h; exact ⟨rfl, rfl⟩
    | succ j =>
      obtain ⟨h1, h2⟩ := ih (i + 1) j e h
      exact ⟨by rw [h1, Nat.add_right_comm, Nat.add_assoc], h2⟩

theorem Feedback.Spec.number_length (sts : List St) : ∀ i, (number i sts).length = sts.length := by
  induction sts with
  | nil => intro i; rfl
  | cons s ss ih => intro i; exact congrArg (· + 1) (ih (i + 1))

theorem Feedback.Spec.number_congr (sts : List St) : ∀ a b, a % 65536 = b % 65536 → number a sts = number b sts := by
  induction sts with
  | nil => intros; rfl
  | cons s ss ih =>
    intro a b hab
    simp only [number, hab]
    rw [ih (a + 1) (b + 1) (by rw [Nat.add_mod, hab, ← Nat.add_mod])]

theorem Rtpfb.number_append (a b : List St) : ∀ i, number i (a ++ b) = number i a ++ number (i + a.length) b := by
  induction a with
  | nil => intro i; rfl
  | cons s ss ih =>
    intro i
    simp only [List.cons_append, number, ih (i + 1), List.length_cons]
    rw [show i + 1 + ss.length = i + (ss.length + 1) by omega]

namespace FeedbackAdapter

theorem walk_cons (ref : Int) (s : Nat) (ss : List Nat) (ds : List Int) :
    walk ref (s :: ss) ds =
      if s = symNotReceived then (walk ref ss ds).map fun r => (St.lost :: r.1, r.2.1, r.2.2)
      else if s = symSmall ∨ s = symLarge then
        match ds with
        | [] => none
        | d :: ds' => (walk (ref + d * 1000) ss ds').map fun r => (St.recvAt (ref + d * 1000) :: r.1, r.2.1, r.2.2 + 1)
      else if s = symNoDelta then (walk ref ss ds).map fun r => (St.recvNoTime :: r.1, r.2.1, r.2.2)
      else (walk ref ss ds).map fun r => (St.reserved :: r.1, r.2.1, r.2.2) := by
  conv => lhs; unfold walk
  rfl

theorem walk_length : ∀ (ss : List Nat) (ref : Int) (ds : List Int) r, walk ref ss ds = some r →
    r.1.length = ss.length ∧ r.2.2 ≤ ds.length := by
  intro ss
  induction ss with
  | nil => intro ref ds r h; cases h; exact ⟨rfl, Nat.zero_le _⟩
  | cons s ss ih =>
    intro ref ds r h
    -- every branch of `walk` puts one status in front and uses `k` deltas
    have key : ∀ ref' ds' st k, (walk ref' ss ds').map (fun r => (st :: r.1, r.2.1, r.2.2 + k)) = some r →
        ds'.length + k ≤ ds.length → r.1.length = (s :: ss).length ∧ r.2.2 ≤ ds.length := by
      intro ref' ds' st k h hk
      obtain ⟨r', hr', rfl⟩ := Option.map_eq_some_iff.mp h
      have := ih _ _ _ hr'
      exact ⟨congrArg (· + 1) this.1, Nat.le_trans (Nat.add_le_add_right this.2 k) hk⟩
    rw [walk_cons] at h
    by_cases h0 : s = symNotReceived
    · rw [if_pos h0] at h; exact key _ _ _ 0 h (Nat.le_refl _)
    · rw [if_neg h0] at h
      by_cases h12 : s = symSmall ∨ s = symLarge
      · rw [if_pos h12] at h
        cases ds with
        | nil => cases h
        | cons d ds' => exact key _ _ _ 1 h (Nat.le_refl _)
      · rw [if_neg h12] at h
        by_cases h3 : s = symNoDelta
        · rw [if_pos h3] at h; exact key _ _ _ 0 h (Nat.le_refl _)
        · rw [if_neg h3] at h; exact key _ _ _ 0 h (Nat.le_refl _)

/-- decoding a concatenation = decoding the first part, then the second with the remaining
deltas and the advanced reference time. -/
theorem walk_append (a b : List Nat) : ∀ (ref : Int) (ds : List Int),
    walk ref (a ++ b) ds =
      (walk ref a ds).bind fun r1 =>
        (walk r1.2.1 b (ds.drop r1.2.2)).map fun r2 => (r1.1 ++ r2.1, r2.2.1, r1.2.2 + r2.2.2) := by
  induction a with
  | nil => intro ref ds; simp [walk]
  | cons s ss ih =>
    intro ref ds
    -- every branch of `walk` puts one status in front and uses `k` deltas (`ds'` is `ds` without them)
    have key : ∀ ref' ds' st k, (∀ n, ds.drop (n + k) = ds'.drop n) →
        (walk ref' (ss ++ b) ds').map (fun r => (st :: r.1, r.2.1, r.2.2 + k)) =
          ((walk ref' ss ds').map fun r => (st :: r.1, r.2.1, r.2.2 + k)).bind fun r1 =>
            (walk r1.2.1 b (ds.drop r1.2.2)).map fun r2 => (r1.1 ++ r2.1, r2.2.1, r1.2.2 + r2.2.2) := by
      intro ref' ds' st k hk
      rw [ih]
      cases walk ref' ss ds' with
      | none => rfl
      | some r1 =>
        simp only [Option.bind_some, Option.map_some, Option.map_map, hk]
        refine congrArg (Option.map · _) (funext fun r2 => ?_)
        simp only [Function.comp_apply, List.cons_append, Nat.add_right_comm]
    rw [List.cons_append, walk_cons, walk_cons]
    by_cases h0 : s = symNotReceived
    · rw [if_pos h0, if_pos h0]; exact key _ _ _ 0 fun _ => rfl
    · rw [if_neg h0, if_neg h0]
      by_cases h12 : s = symSmall ∨ s = symLarge
      · rw [if_pos h12, if_pos h12]
        cases ds with
        | nil => rfl
        | cons d ds' => exact key _ _ _ 1 fun _ => rfl
      · rw [if_neg h12, if_neg h12]
        by_cases h3 : s = symNoDelta
        · rw [if_pos h3, if_pos h3]; exact key _ _ _ 0 fun _ => rfl
        · rw [if_neg h3, if_neg h3]; exact key _ _ _ 0 fun _ => rfl

/-- result of the symbol loop expressed by the spec walk. -/
def specRes (h : Hist) (i di : Nat) : Option (List St × Int × Nat) → Res (Nat × Int × List Ack)
  | none => .err "invalid"
  | some r => .ok (di + r.2.2, r.2.1, (number i r.1).map fun e => entry h e.1 e.2.time)

/-- one more symbol in front, of status `st` and using `k` deltas. -/
theorem specRes_cons (h : Hist) (i di k : Nat) (hi : i < 65536) (st : St) (W : Option (List St × Int × Nat)) :
    (do let (n, r, rest) ← specRes h ((i + 1) % 65536) (di + k) W
        pure (n, r, entry h i st.time :: rest)) =
      specRes h i di (W.map fun r => (st :: r.1, r.2.1, r.2.2 + k)) := by
  cases W with
  | none => rfl
  | some r =>
    show Res.ok (di + k + r.2.2, _, entry h i st.time :: _) =
      Res.ok (di + (r.2.2 + k), _, entry h (i % 65536) st.time :: _)
    rw [Nat.add_assoc, Nat.add_comm k, Nat.mod_eq_of_lt hi, number_congr r.1 _ (i + 1) (Nat.mod_mod _ _)]

theorem symLoop_eq_walk (h : Hist) (deltas : List Int) (ss : List Nat) (hs : ∀ s ∈ ss, s ≤ 2) :
    ∀ (i di : Nat) (ref : Int), i < 65536 → di ≤ deltas.length →
      symLoop h deltas ss i di ref = specRes h i di (walk ref ss (deltas.drop di)) := by
  induction ss with
  | nil => intro i di ref hi hd; rfl
  | cons s ss ih =>
    intro i di ref hi hd
    have hi' : (i + 1) % 65536 < 65536 := Nat.mod_lt _ (by decide)
    have hs' : ∀ s ∈ ss, s ≤ 2 := fun x hx => hs x (List.mem_cons_of_mem _ hx)
    have hs2 : s ≤ 2 := hs s (List.mem_cons_self ..)
    rw [walk_cons]
    unfold symLoop
    by_cases h0 : s = symNotReceived
    · rw [if_pos h0, if_pos h0, ih hs' _ _ _ hi' hd]
      exact specRes_cons h i di 0 hi .lost _
    · -- the code treats every other symbol as a delta symbol; for 1 and 2 the spec agrees
      have h12 : s = symSmall ∨ s = symLarge := by
        have : s ≠ 0 := h0
        unfold symSmall symLarge; omega
      rw [if_neg h0, if_neg h0, if_pos h12]
      by_cases hg : (deltas.length : Int) - 1 < (di : Int)
      · rw [if_pos hg, List.drop_eq_nil_of_le (by omega)]; rfl
      · have hlt : di < deltas.length := by omega
        rw [if_neg hg, idx_lt _ _ _ hlt, List.drop_eq_getElem_cons hlt, Res.bind_ok]
        simp only [ih hs' _ _ _ hi' hlt]
        exact specRes_cons h i di 1 hi (.recvAt _) _

/-- a chunk the theorem covers: run-length or status-vector with defined delta symbols only
(0 lost, 1 small delta, 2 large delta). -/
def ChunkOK : Chunk → Prop
  | .rl sym _ => sym ≤ 2
  | .sv syms => ∀ s ∈ syms, s ≤ 2
  | .other => False

theorem expand_ok (c : Chunk) (hc : ChunkOK c) : ∀ s ∈ expand c, s ≤ 2 := by
  cases c with
  | rl sym run => intro s hs; simp [expand] at hs; simp [ChunkOK] at hc; omega
  | sv syms => exact hc
  | other => exact hc.elim

def chunkSpec (h : Hist) (index : Nat) : Option (List St × Int × Nat) → Res (List Ack)
  | none => .err "invalid"
  | some r => .ok ((number index r.1).map fun e => entry h e.1 e.2.time)

theorem chunkLoop_eq_walk (h : Hist) (cs : List Chunk) (hok : ∀ c ∈ cs, ChunkOK c) :
    ∀ (index : Nat) (ref : Int) (deltas : List Int), index < 65536 →
      chunkLoop h cs index ref deltas = chunkSpec h index (walk ref (symbols cs) deltas) := by
  induction cs with
  | nil => intro index ref deltas hi; rfl
  | cons c cs ih =>
    intro index ref deltas hi
    have hc : ChunkOK c := hok c (List.mem_cons_self ..)
    rw [show symbols (c :: cs) = expand c ++ symbols cs from rfl, walk_append,
      chunkLoop_cons h c cs index ref deltas (by rintro rfl; exact hc),
      symLoop_eq_walk h deltas _ (expand_ok c hc) index 0 ref hi (Nat.zero_le _), List.drop_zero]
    cases hw : walk ref (expand c) deltas with
    | none => rfl
    | some r1 =>
      simp only [specRes, Res.bind_ok, Nat.zero_add, sliceFrom, (walk_length _ _ _ _ hw).2, if_true,
        List.length_map, number_length, Option.bind_some]
      rw [ih (fun x hx => hok x (List.mem_cons_of_mem _ hx)) _ _ _ (Nat.mod_lt _ (by decide))]
      cases walk r1.2.1 (symbols cs) (List.drop r1.2.2 deltas) with
      | none => rfl
      | some r2 =>
        simp only [chunkSpec, Option.map_some, Res.bind_ok, Res.pure_eq]
        rw [Rtpfb.number_append, List.map_append, number_congr r2.1 _ _ (Nat.mod_mod _ _)]

end FeedbackAdapter
end Interceptor
