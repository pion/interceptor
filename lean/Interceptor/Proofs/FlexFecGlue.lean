/-
Helper lemmas for C14: from the coverage table and a valid batch to the hypotheses of
`recoverAt_core` and of the parse lemmas.  Core Lean only.
-/
import Interceptor.Proofs.FlexFecRecover
import Interceptor.Proofs.FlexFecParse
namespace Interceptor.FlexFec
open Interceptor.FlexFecSpec (parseHeader FecHeader beVal slice maskBits recoverAt)

/-- a batch the encoder accepts and the property speaks about: marshalled RTP packets (≥ 12 bytes,
version 2, bytes < 256, at most 65535 bytes after the fixed header), one SSRC, consecutive
sequence numbers. -/
structure ValidMedia (media : List Bytes) : Prop where
  len12 : ∀ p ∈ media, 12 ≤ p.length ∧ p.length - 12 < 65536
  bytes : ∀ p ∈ media, ∀ x ∈ p, x < 256
  ver : ∀ p ∈ media, p.getD 0 0 / 64 = 2
  ssrc : ∀ p ∈ media, ∀ q ∈ media, slice p 8 4 = slice q 8 4
  seqs : ∀ k, k < media.length → seqOf (media.getD k []) = (seqOf (media.getD 0 []) + k) % 65536

/-- the table is the one `UpdateCoverage` builds for the current shape. -/
structure TableOk (c : Coverage) : Prop where
  masks : c.masks = buildMasks c.numMedia c.numFec
  n : c.numMedia = c.media.length
  n109 : c.numMedia ≤ 109

theorem row_bounds (c : Coverage) (hok : TableOk c) (i : Nat) :
    (c.row i).lo < 2 ^ 64 ∧ (c.row i).hi < 2 ^ 64 := by
  unfold Coverage.row
  rw [hok.masks]
  exact buildMasks_bounds _ _ i

theorem row_bit (c : Coverage) (hok : TableOk c) (i j : Nat) (hi : i < 110) (hj : j < 128) :
    bitOf (c.row i) j = decide (i < c.numFec ∧ j < c.numMedia ∧ j % c.numFec = i) := by
  unfold Coverage.row
  rw [hok.masks]
  exact bitOf_buildMasks _ _ _ _ (by have := hok.n109; omega) hi hj

theorem coveredBy_eq (c : Coverage) (hok : TableOk c) (i : Nat) (hi : i < 110) :
    c.coveredBy i = allPos (c.row i) := by
  unfold Coverage.coveredBy allPos
  have hn := hok.n109
  have e : (109 : Nat) = c.numMedia + (109 - c.numMedia) := by omega
  rw [e, List.range_add, List.filter_append]
  have h2 : ((List.range (109 - c.numMedia)).map (c.numMedia + ·)).filter (bitOf (c.row i)) = [] := by
    apply List.filter_eq_nil_iff.2
    intro x hx
    obtain ⟨t, ht, rfl⟩ := List.mem_map.1 hx
    have := List.mem_range.1 ht
    rw [row_bit c hok i _ hi (by omega)]
    simp
    intro _ h
    omega
  rw [h2, List.append_nil]
  apply List.filter_congr
  intro x hx
  have := List.mem_range.1 hx
  exact getBit_beq_one _ _ (by omega)

theorem mem_coveredBy (c : Coverage) (hok : TableOk c) (i j : Nat) (hi : i < 110) :
    j ∈ c.coveredBy i ↔ (i < c.numFec ∧ j < c.numMedia ∧ j % c.numFec = i) := by
  unfold Coverage.coveredBy
  have hn := hok.n109
  rw [List.mem_filter, List.mem_range]
  constructor
  · rintro ⟨h1, h2⟩
    rw [getBit_beq_one _ _ (by omega), row_bit c hok i j hi (by omega)] at h2
    simpa using h2
  · intro h
    refine ⟨h.2.1, ?_⟩
    rw [getBit_beq_one _ _ (by omega), row_bit c hok i j hi (by omega)]
    simpa using h

theorem coveredBy_nodup (c : Coverage) (i : Nat) : (c.coveredBy i).Nodup :=
  List.Nodup.sublist List.filter_sublist List.nodup_range

theorem foldl_step_h0_lt : ∀ (ps : List Bytes) (a : Acc), a.h0 < 64 → (ps.foldl Acc.step a).h0 < 64 := by
  intro ps
  induction ps with
  | nil => intro a h; exact h
  | cons p ps ih =>
    intro a _
    simp only [List.foldl_cons]
    apply ih
    show (a.h0 ^^^ p.getD 0 0) &&& 63 < 64
    exact Nat.lt_succ_of_le Nat.and_le_right

theorem getD_mem (media : List Bytes) (k : Nat) (h : k < media.length) : media.getD k [] ∈ media := by
  rw [List.getD_eq_getElem?_getD, List.getElem?_eq_getElem h]
  exact List.getElem_mem h

/-- the spec parses the header the encoder writes for row `b`, whatever its shape (20/24/32 bytes),
and reads exactly the set bits among 0..108. -/
theorem parse_payload (b : BitArray) (hb : b.lo < 2 ^ 64 ∧ b.hi < 2 ^ 64)
    (h0 h1 l2 l3 t4 t5 t6 t7 s0 s1 s2 s3 base : Nat) (rep : Bytes) (hh0 : h0 < 64) (hbase : base < 65536) :
    ∃ h, parseHeader ([h0, h1, l2, l3, t4, t5, t6, t7, 1, 0, 0, 0, s0, s1, s2, s3] ++ be16 base
            ++ maskBytes (mask1 b) (mask2 b) (mask3 b) ++ rep) = some h
      ∧ h.positions = allPos b
      ∧ ([h0, h1, l2, l3, t4, t5, t6, t7, 1, 0, 0, 0, s0, s1, s2, s3] ++ be16 base
            ++ maskBytes (mask1 b) (mask2 b) (mask3 b)).length = h.size
      ∧ h.ssrc = [s0, s1, s2, s3] ∧ h.snBase = base := by
  refine ⟨_, parse_maskBytes _ _ _ _ _ _ _ _ _ _ _ _ _ _ _ _ _ hh0 hbase (mask1_lt b hb.1) (mask2_lt b) (mask3_lt b hb.2),
    masks_name_bits b hb.2, ?_, rfl, rfl⟩
  rw [List.length_append]
  rfl

theorem seqOf_lt (p : Bytes) (h : ∀ x ∈ p, x < 256) : seqOf p < 65536 := by
  unfold seqOf
  have h2 : p.getD 2 0 < 256 := by
    rw [List.getD_eq_getElem?_getD]
    cases e : p[2]? with
    | none => simp
    | some v => exact h v (List.mem_of_getElem? e)
  have h3 : p.getD 3 0 < 256 := by
    rw [List.getD_eq_getElem?_getD]
    cases e : p[3]? with
    | none => simp
    | some v => exact h v (List.mem_of_getElem? e)
  omega

theorem fecPayload_eq (c : Coverage) (i base k0 : Nat) (L' : List Nat) (hL : c.coveredBy i = k0 :: L') :
    ∃ mp a, ((k0 :: L').map fun k => c.media.getD k []).foldl Acc.step (acc0 mp) = a ∧
      fecPayload c i base = some ([a.h0, a.h1, a.l2, a.l3, a.t4, a.t5, a.t6, a.t7, 1, 0, 0, 0]
        ++ ((c.media.getD k0 []).drop 8).take 4 ++ be16 base
        ++ maskBytes (mask1 (c.row i)) (mask2 (c.row i)) (mask3 (c.row i)) ++ a.rep) := by
  refine ⟨((k0 :: L').map fun k => c.media.getD k []).foldl (fun m p => max m (p.length - 12)) 0, _, rfl, ?_⟩
  unfold fecPayload Coverage.coveredPackets
  rw [hL]
  rfl

end Interceptor.FlexFec
