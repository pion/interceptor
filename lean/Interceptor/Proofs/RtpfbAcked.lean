/-
rtpfb history (F-40): what `buildReport` reports is bounded by what feedback acknowledged as ARRIVED.
Ghost state: the list of (counter, status) pairs the acknowledgement operations resolved to.
Invariant `AckInv`: `highestAcked` is the counter of a packet some feedback acknowledged as arrived
(once `acked` is set; 0 before), and a stored packet is marked arrived only if feedback said so.
-/
import Interceptor.Proofs.RtpfbHistory
namespace Interceptor.Rtpfb

/-- ghost: the counter of the sent packet that `op` acknowledges in state `h`, with the status the
feedback carries (`none`: not an acknowledgement, or the number / the packet is unknown). -/
def ackTarget (h : Hist) : HOp → Option (Nat × Bool)
  | .ackTw _ a => (alookup h.twcc a.seq).bind fun c => (alookup h.packets c).map fun _ => (c, a.arrived)
  | .ackCc _ ssrc a => (alookup h.ss (ssrc, a.seq)).bind fun c => (alookup h.packets c).map fun _ => (c, a.arrived)
  | _ => none

def finalHist (h : Hist) (ops : List HOp) : Hist := ops.foldl (fun h op => (stepOp h op).1) h

/-- ghost: every (counter, status) the acknowledgement operations of `ops` resolved to, in order. -/
def targets : Hist → List HOp → List (Nat × Bool)
  | _, [] => []
  | h, op :: ops => (ackTarget h op).toList ++ targets (stepOp h op).1 ops

structure AckInv (h : Hist) (T : List (Nat × Bool)) : Prop where
  wf : WF h
  hi : h.acked = true → (h.highestAcked, true) ∈ T
  zero : h.acked = false → h.highestAcked = 0
  arr : ∀ e ∈ h.packets, e.2.arrived = true → (e.2.ctr, true) ∈ T

theorem ackInv_init : AckInv {} [] :=
  ⟨wf_init, (by intro h; cases h), (fun _ => rfl), (by intro e he; cases he)⟩

theorem ackInv_psub {h' h : Hist} {T : List (Nat × Bool)} (s : PSub h' h) (i : AckInv h T) : AckInv h' T :=
  ⟨s.wf i.wf, by rw [s.ak, s.hA]; exact i.hi, by rw [s.ak, s.hA]; exact i.zero, fun e he => i.arr e (s.pk e he)⟩

theorem buildReport_acked (h : Hist) (hw : WF h) :
    ∀ p ∈ (buildReport h).2, h.acked = true ∧ p.ctr ≤ h.highestAcked ∧ (p.ctr, p) ∈ h.packets := by
  unfold buildReport
  by_cases hgt : h.acked = false ∨ h.nextReport > h.highestAcked
  · rw [if_pos hgt]; intro p hp; cases hp
  · rw [if_neg hgt]
    intro p hp
    have hak : h.acked = true := by
      cases hb : h.acked with
      | true => rfl
      | false => exact absurd (Or.inl hb) hgt
    obtain ⟨new, e1, h2, h3⟩ := reportLoop_spec _ h [] hw
    rw [List.reverse_nil, List.nil_append] at e1
    rw [show ((reportLoop _ h []).2) = new from e1] at hp
    have := (List.mem_range'_1.mp (h2.subset (List.mem_map_of_mem hp))).2
    exact ⟨hak, by omega, (h3 p hp).2⟩

theorem ackInv_mono {h : Hist} {T T' : List (Nat × Bool)} (i : AckInv h T) (hs : ∀ x ∈ T, x ∈ T') :
    AckInv h T' :=
  ⟨i.wf, fun a => hs _ (i.hi a), i.zero, fun e he ha => hs _ (i.arr e he ha)⟩

theorem ackInv_onFeedback (h : Hist) (T : List (Nat × Bool)) (i : AckInv h T) (ts : Int) (c : Nat) (a : RAck) :
    AckInv (onFeedback h ts c a).1 (T ++ ((alookup h.packets c).map fun _ => (c, a.arrived)).toList) := by
  have hw := (wf_onFeedback h i.wf ts c a).1
  unfold onFeedback at hw ⊢
  cases hl : alookup h.packets c with
  | none => simpa using i
  | some p =>
    rw [hl] at hw
    have hpc : p.ctr = c := i.wf _ (alookup_mem _ _ _ hl)
    have hnew : (c, a.arrived) ∈ T ++ [(c, a.arrived)] := List.mem_append_right _ (List.mem_singleton_self _)
    simp only [Option.map_some, Option.toList_some]
    refine ⟨hw, ?_, ?_, ?_⟩
    · -- the cursor moves only to `c`, and only when `a` says arrived; before the first such `a` it is 0
      intro hacked
      simp only at hacked ⊢
      cases har : a.arrived with
      | false =>
        rw [har, Bool.or_false] at hacked
        simp only [Bool.false_eq_true, false_and, if_false]
        exact List.mem_append_left _ (i.hi hacked)
      | true =>
        rw [har] at hnew
        simp only [true_and]
        by_cases hlt : h.highestAcked < p.ctr
        · rw [if_pos hlt, hpc]; exact hnew
        · rw [if_neg hlt]
          cases hb : h.acked with
          | true => exact List.mem_append_left _ (i.hi hb)
          | false =>
            have : h.highestAcked = c := by have := i.zero hb; omega
            rw [this]; exact hnew
    · intro hacked
      simp only at hacked ⊢
      cases har : a.arrived with
      | true => rw [har] at hacked; simp at hacked
      | false =>
        rw [har, Bool.or_false] at hacked
        simp only [Bool.false_eq_true, false_and, if_false]
        exact i.zero hacked
    · intro e he harr
      rcases ainsert_mem _ _ _ _ he with h1 | h1
      · exact List.mem_append_left _ (i.arr e h1 harr)
      · subst h1
        simp only at harr ⊢
        rw [hpc, ← harr]; exact hnew

theorem ackInv_step (h : Hist) (T : List (Nat × Bool)) (i : AckInv h T) (op : HOp) :
    AckInv (stepOp h op).1 (T ++ (ackTarget h op).toList) := by
  -- both acknowledgement entry points look a counter up (`o`) and hand it to `onFeedback`
  have ack : ∀ (ts : Int) (a : RAck) (o : Option Nat),
      AckInv (match o with | none => (h, none) | some c => onFeedback h ts c a).1
        (T ++ (o.bind fun c => (alookup h.packets c).map fun _ => (c, a.arrived)).toList) := by
    intro ts a o
    cases o with
    | none => simpa using i
    | some c => exact ackInv_onFeedback h T i ts c a
  cases op with
  | add ssrc rtpSeq isTwcc twSeq size dep =>
    simp only [stepOp, ackTarget, Option.toList_none, List.append_nil]
    refine ⟨(wf_add h i.wf ssrc rtpSeq isTwcc twSeq size dep).1, i.hi, i.zero, ?_⟩
    intro e he harr
    rcases ainsert_mem _ _ _ _ he with h1 | h1
    · exact i.arr e h1 harr
    · subst h1; cases harr
  | ackTw ts a => exact ack ts a (alookup h.twcc a.seq)
  | ackCc ts ssrc a => exact ack ts a (alookup h.ss (ssrc, a.seq))
  | build =>
    simp only [stepOp, ackTarget, Option.toList_none, List.append_nil]
    exact ackInv_psub (buildReport_psub h) i

theorem ackInv_run (ops : List HOp) : ∀ (h : Hist) (T : List (Nat × Bool)), AckInv h T →
    AckInv (finalHist h ops) (T ++ targets h ops) := by
  induction ops with
  | nil => intro h T i; simpa [finalHist, targets] using i
  | cons op ops ih =>
    intro h T i
    have := ih _ _ (ackInv_step h T i op)
    simpa [finalHist, targets, List.append_assoc] using this

/-- every report of a run is the `buildReport` of the history after a prefix of the operations. -/
theorem runOps_build (ops : List HOp) : ∀ (h : Hist),
    runOps h (ops ++ [.build]) = runOps h ops ++ [(buildReport (finalHist h ops)).2] := by
  induction ops with
  | nil => intro h; rfl
  | cons op ops ih => intro h; simp only [List.cons_append, runOps, finalHist, List.foldl_cons]; rw [ih]; rfl

end Interceptor.Rtpfb
