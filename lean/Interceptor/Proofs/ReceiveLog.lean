/-
C03: 16-bit arithmetic against unwrapped numbers (`sq`), the bitmap ring (`getBit`/`setBit`/`clearFrom`/
`fixLastConsecutive` on numbers less than `size` apart), `add` as one equation, and the refinement relation
`R` between a log and the specification's stream.
-/
import Interceptor.Model.ReceiveLog
import Interceptor.Spec.Nack
namespace Interceptor.ReceiveLog
open Interceptor

/-- the 16-bit value of an unwrapped number. -/
def sq (x : Int) : Nat := (x % 65536).toNat

theorem sq_lt (x : Int) : sq x < 65536 := by unfold sq; omega

/-- as an integer, `sq x` is `x % 2^16`: the 16-bit operations are compared with the unwrapped ones there. -/
theorem sq_cast (x : Int) : ((sq x : Nat) : Int) = x % 65536 :=
  Int.toNat_of_nonneg (Int.emod_nonneg _ (by decide))

theorem add16_sq (x : Int) (j : Nat) : add16 (sq x) j = sq (x + j) := by
  unfold add16
  apply Int.ofNat.inj
  show (((sq x + j) % 65536 : Nat) : Int) = ((sq (x + j) : Nat) : Int)
  rw [Int.natCast_emod, Int.natCast_add, sq_cast, sq_cast]
  omega

theorem sub16_sq (x y : Int) : sub16 (sq x) (sq y) = sq (x - y) := by
  have hy := sq_lt y
  unfold sub16
  rw [Nat.mod_eq_of_lt hy]
  apply Int.ofNat.inj
  show (((sq x + 65536 - sq y) % 65536 : Nat) : Int) = ((sq (x - y) : Nat) : Int)
  rw [Int.natCast_emod, Int.natCast_sub (by omega), Int.natCast_add, sq_cast, sq_cast, sq_cast]
  omega

theorem sq_natCast_mod (k : Nat) : sq (k : Int) = k % 65536 := by unfold sq; omega
theorem sq_natCast (q : Nat) (h : q < 65536) : sq (q : Int) = q := by rw [sq_natCast_mod, Nat.mod_eq_of_lt h]

theorem sub16_sq_nat (x : Int) (k : Nat) : sub16 (sq x) k = sq (x - k) := by
  rw [← sub16_sq, sq_natCast_mod]; unfold sub16; rw [Nat.mod_mod]

theorem add16_sq_one (x : Int) : add16 (sq x) 1 = sq (x + 1) := add16_sq x 1
theorem sub16_sq_one (x : Int) : sub16 (sq x) 1 = sq (x - 1) := sub16_sq_nat x 1

theorem sq_small (x : Int) (h : 0 ≤ x) (h2 : x < 65536) : sq x = x.toNat := by
  unfold sq; rw [Int.emod_eq_of_lt h h2]

theorem sq_inj (x y : Int) (h : sq x = sq y) (h1 : x - y < 65536) (h2 : y - x < 65536) : x = y := by
  have := congrArg (fun n : Nat => (n : Int)) h
  simp only [sq_cast] at this
  omega

/-- the 16-bit successor of the cursor is `x`, and `x` is less than one turn away from it: it is the next number. -/
theorem succ_eq_of_add16 {lcU x : Int} (hc : add16 (sq lcU) 1 = sq x) (h1 : lcU - x < 65535) (h2 : x - lcU < 65536) :
    lcU + 1 = x := by
  rw [add16_sq_one] at hc
  exact sq_inj _ _ hc (by omega) (by omega)

theorem sub16_sq_of_le (x y : Int) (h1 : y ≤ x) (h2 : x - y < 65536) : sub16 (sq x) (sq y) = (x - y).toNat := by
  rw [sub16_sq, sq_small _ (by omega) h2]

/-- admissible window sizes for the theorems (the Go constructor admits 64 … 32768, powers of two). -/
structure SizeOK (size : Nat) : Prop where
  pos : 0 < size
  le : size ≤ 32768
  dvd : size ∣ 65536

theorem slot_sq {size : Nat} (hs : SizeOK size) (x : Int) :
    ((sq x % size : Nat) : Int) = x % (size : Int) := by
  have hd : (size : Int) ∣ 65536 := by
    have := Int.natCast_dvd_natCast.mpr hs.dvd
    simpa using this
  rw [Int.natCast_emod, sq_cast, Int.emod_emod_of_dvd x hd]

theorem slot_inj {size : Nat} (hs : SizeOK size) (x y : Int)
    (h : sq x % size = sq y % size) (h1 : x - y < size) (h2 : y - x < size) : x = y := by
  have hx := slot_sq hs x
  rw [h, slot_sq hs y] at hx
  exact eq_of_emod_eq_of_near hx.symm h1 h2

@[simp] theorem setBit_size (l : Log) (p : Nat) (v : Bool) : (setBit l p v).size = l.size := rfl
@[simp] theorem setBit_end (l : Log) (p : Nat) (v : Bool) : (setBit l p v).end_ = l.end_ := rfl
@[simp] theorem setBit_lc (l : Log) (p : Nat) (v : Bool) : (setBit l p v).lc = l.lc := rfl
@[simp] theorem setBit_started (l : Log) (p : Nat) (v : Bool) : (setBit l p v).started = l.started := rfl
@[simp] theorem setBit_bits_size (l : Log) (p : Nat) (v : Bool) : (setBit l p v).bits.size = l.bits.size := by
  simp [setBit]

theorem getBit_setBit (l : Log) (p q : Nat) (v : Bool) (hb : l.bits.size = l.size) (h0 : 0 < l.size) :
    getBit (setBit l p v) q = if p % l.size = q % l.size then v else getBit l q := by
  have hp : p % l.size < l.bits.size := by rw [hb]; exact Nat.mod_lt _ h0
  unfold getBit setBit
  simp only [Array.getD_eq_getD_getElem?, Array.getElem?_setIfInBounds]
  split
  · simp
  · rfl

theorem getBit_setBit_sq {size : Nat} (hs : SizeOK size) (l : Log) (hsize : l.size = size)
    (hbits : l.bits.size = size) (x y : Int) (v : Bool) (h1 : x - y < size) (h2 : y - x < size) :
    getBit (setBit l (sq x) v) (sq y) = if x = y then v else getBit l (sq y) := by
  rw [getBit_setBit l _ _ _ (hbits.trans hsize.symm) (hsize ▸ hs.pos)]
  by_cases e : x = y
  · rw [e, if_pos rfl, if_pos rfl]
  · rw [if_neg e, if_neg]
    intro e'
    exact e (slot_inj hs x y (hsize ▸ e') h1 h2)
/-- what the size table of the Go constructor gives, read off the ten entries. -/
theorem validSize_table (n : Nat) (h : validSize n = true) : 64 ≤ n ∧ n ≤ 32768 ∧ n % 64 = 0 ∧ n ∣ 65536 := by
  simp only [validSize, List.contains_eq_mem, List.mem_cons, List.not_mem_nil, or_false, decide_eq_true_eq] at h
  rcases h with rfl | rfl | rfl | rfl | rfl | rfl | rfl | rfl | rfl | rfl <;> decide


theorem getBit_lc_irrelevant (l : Log) (n : Nat) (q : Nat) : getBit { l with lc := n } q = getBit l q := rfl
theorem getBit_end_irrelevant (l : Log) (n : Nat) (q : Nat) : getBit { l with end_ := n } q = getBit l q := rfl

theorem clearFrom_fields (l : Log) (i n : Nat) :
    (clearFrom l i n).size = l.size ∧ (clearFrom l i n).end_ = l.end_ ∧ (clearFrom l i n).lc = l.lc ∧
    (clearFrom l i n).started = l.started ∧ (clearFrom l i n).bits.size = l.bits.size := by
  induction n generalizing l i with
  | zero => simp [clearFrom]
  | succ n ih =>
    have := ih (setBit l i false) (add16 i 1)
    simpa [clearFrom] using this

/-- the clearing loop over `[z, z + n)`, read at a number `y` below `z + n` that has the whole of `[y, z + n)`
within one turn of the ring (the loop itself may go round the ring many times). -/
theorem getBit_clearFrom_sq {size : Nat} (hs : SizeOK size) (l : Log) (hsize : l.size = size)
    (hbits : l.bits.size = size) (z : Int) (n : Nat) (y : Int) (h1 : y < z + n) (h2 : z + n - y ≤ size) :
    getBit (clearFrom l (sq z) n) (sq y) = if z ≤ y then false else getBit l (sq y) := by
  induction n generalizing l z with
  | zero => rw [clearFrom, if_neg (by omega)]
  | succ n ih =>
    rw [clearFrom, add16_sq_one, ih (setBit l (sq z) false) hsize ((setBit_bits_size l _ _).trans hbits) (z + 1)
      (by omega) (by omega)]
    by_cases h3 : z + 1 ≤ y
    · rw [if_pos h3, if_pos (Int.le_of_lt h3)]
    · rw [if_neg h3, getBit_setBit_sq hs l hsize hbits z y false (by omega) (by omega)]
      by_cases h4 : z = y
      · rw [if_pos h4, if_pos (Int.le_of_eq h4)]
      · rw [if_neg h4, if_neg fun hzy => h4 (Int.le_antisymm hzy (Int.lt_add_one_iff.mp (Int.not_le.mp h3)))]

theorem fixScan_spec (l : Log) (y0 : Int) (n : Nat) :
    ∃ y1 : Int, fixScan l (sq (y0 + 1)) n = sq (y1 + 1) ∧ y0 ≤ y1 ∧ y1 ≤ y0 + n ∧
      ∀ y : Int, y0 < y → y ≤ y1 → getBit l (sq y) = true := by
  induction n generalizing y0 with
  | zero => exact ⟨y0, rfl, Int.le_refl _, by omega, fun y h1 h2 => absurd h2 (Int.not_le.mpr h1)⟩
  | succ n ih =>
    simp only [fixScan]
    by_cases hb : getBit l (sq (y0 + 1)) = true
    · rw [if_pos hb, add16_sq_one]
      obtain ⟨y1, h1, h2, h3, h4⟩ := ih (y0 + 1)
      refine ⟨y1, h1, Int.le_trans (Int.le_add_one (Int.le_refl _)) h2, by omega, ?_⟩
      intro y hy1 hy2
      by_cases hy : y = y0 + 1
      · subst hy; exact hb
      · exact h4 y (Int.lt_iff_le_and_ne.mpr ⟨hy1, Ne.symm hy⟩) hy2
    · rw [if_neg hb]
      exact ⟨y0, rfl, Int.le_refl _, by omega, fun y h1 h2 => absurd h2 (Int.not_le.mpr h1)⟩

theorem fix_spec (l : Log) (y0 hiU : Int) (hend : l.end_ = sq hiU) (hle : y0 ≤ hiU) (hd : hiU - y0 < 65536) :
    ∃ y1 : Int, y0 ≤ y1 ∧ y1 ≤ hiU ∧ fixLastConsecutive { l with lc := sq y0 } = { l with lc := sq y1 } ∧
      ∀ y : Int, y0 < y → y ≤ y1 → getBit l (sq y) = true := by
  obtain ⟨y1, h1, h2, h3, h4⟩ := fixScan_spec { l with lc := sq y0 } y0 (hiU - y0).toNat
  refine ⟨y1, h2, by omega, ?_, h4⟩
  have hD : sub16 l.end_ (sq y0) = (hiU - y0).toNat := by rw [hend, sub16_sq_of_le hiU y0 hle hd]
  unfold fixLastConsecutive
  dsimp only
  rw [add16_sq_one, hD, h1, sub16_sq_one, Int.add_sub_cancel]

/-- the cursor update `l3` of the forward branch of `add`. -/
def fwdCursor (l2 : Log) (q : Nat) : Log :=
  if add16 l2.lc 1 = q then { l2 with lc := q }
  else if sub16 q l2.lc > l2.size then fixLastConsecutive { l2 with lc := sub16 q l2.size }
  else l2

theorem add_of_started (l : Log) (q : Nat) (h : l.started = true) :
    add l q =
      if sub16 q l.end_ = 0 then l
      else if sub16 q l.end_ < 32768 then
        setBit (fwdCursor { clearFrom l (add16 l.end_ 1) (sub16 q l.end_ - 1) with end_ := q } q) q true
      else if sub16 l.end_ q ≥ l.size then l
      else if add16 l.lc 1 = q then setBit (fixLastConsecutive { l with lc := q }) q true
      else setBit l q true := by
  unfold add
  rw [h, Bool.not_true, if_neg Bool.false_ne_true]
  rfl

open NackSpec in
/-- `lcU` is the unwrapped `lastConsecutive`. -/
structure R (size : Nat) (l : Log) (a : NackSpec.Stream) (lcU : Int) : Prop where
  hsize : l.size = size
  hbits : l.bits.size = size
  hstarted : l.started = true
  hend : l.end_ = sq a.hi
  hlc : l.lc = sq lcU
  hlo : a.hi - size ≤ lcU
  hle : lcU ≤ a.hi
  hfirst : a.first ≤ lcU
  /-- the bitmap is exact on `(lc, end]` -/
  hbit : ∀ x : Int, lcU < x → x ≤ a.hi → getBit l (sq x) = decide (x ∈ a.recv)
  /-- everything in the window after the first packet up to the cursor has been received -/
  hrecv : ∀ x : Int, a.first < x → a.hi - size < x → x ≤ lcU → x ∈ a.recv
  hwin : ∀ x ∈ a.recv, a.hi - size < x ∧ x ≤ a.hi
  hhi : a.hi ∈ a.recv

theorem unwrapAt_spec (hi : Int) (q : Nat) (hq : q < 65536) :
    sq (NackSpec.unwrapAt hi q) = q ∧ hi - 32768 ≤ NackSpec.unwrapAt hi q ∧ NackSpec.unwrapAt hi q < hi + 32768 := by
  -- with `d = (q − hi) mod 2^16`, `hi + d` is `q` modulo 2^16, and so is `hi + d − 2^16`
  have hm : (hi + ((q : Int) - hi) % 65536) % 65536 = (q : Int) := by
    rw [Int.add_emod_emod, Int.add_comm, Int.sub_add_cancel, Int.emod_eq_of_lt (Int.natCast_nonneg q) (by omega)]
  have hd0 := Int.emod_nonneg ((q : Int) - hi) (by decide : (65536 : Int) ≠ 0)
  have hd1 := Int.emod_lt_of_pos ((q : Int) - hi) (by decide : (0 : Int) < 65536)
  unfold NackSpec.unwrapAt
  simp only []
  generalize ((q : Int) - hi) % 65536 = d at *
  split
  · exact ⟨by unfold sq; rw [hm, Int.toNat_natCast], by omega, by omega⟩
  · exact ⟨by unfold sq; rw [Int.sub_emod_right, hm, Int.toNat_natCast], by omega, by omega⟩

theorem R_init {size : Nat} (hs : SizeOK size) (q : Nat) (hq : q < 65536) :
    R size (add (new size) q) { first := q, hi := q, recv := [(q : Int)] } q := by
  have h0 := hs.pos
  refine ⟨rfl, ?_, rfl, ?_, ?_, by simp only []; omega, by simp only []; omega, by simp, ?_, ?_, ?_, by simp⟩
  · simp [add, new, setBit]
  · simp [add, new, sq_natCast q hq]
  · simp [add, new, sq_natCast q hq]
  · intro x h1 h2; simp at h1 h2; omega
  · intro x h1 h2 h3; simp at h1 h3; omega
  · intro x hx; simp at hx; subst hx; simp; omega

end Interceptor.ReceiveLog
