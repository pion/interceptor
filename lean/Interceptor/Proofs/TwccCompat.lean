/- `toParsed`: a packet of the C05 recorder model in the parsed form pion/rtcp hands to the decoders.  On the
packet of a built feedback the models of rtpfb.convertTWCC (`decodeTWCC_toParsed`) and of cc.FeedbackAdapter
(`decodeTWCCAll_toParsed`, with `chunkOK_toParsed`) return the statuses and times of the C05 structured decoding
(`Packet.decodeStruct`); both go through `walk_toParsed`, the decoders' walk over symbols and deltas. -/
import Interceptor.Proofs.TwccWire
import Interceptor.Proofs.TwccDecode
import Interceptor.Proofs.RtpfbSpec
namespace Interceptor.C09Compat
open Interceptor Interceptor.Twcc Interceptor.TwccSpec

/-- a wire chunk as pion/rtcp's Unmarshal returns it (status vectors always 14 / 7 symbols). -/
def convChunk : WChunk → Feedback.Chunk
  | .run s n => .rl s n
  | .vec _ l => .sv l

/-- the parsed form (`rtcp.TransportLayerCC` after Marshal + Unmarshal) of a packet of the C05
model: 24-bit reference time, chunks re-read from their 16-bit words, one RecvDelta (µs) per
small / large symbol. (pion/rtcp is a parameter; the `*-recorder` correspondence classes run the
real Marshal/Unmarshal.) -/
def toParsed (p : Twcc.Packet) : Feedback.Twcc :=
  ⟨p.base, p.count, p.ref % 16777216, p.chunks.map (fun c => convChunk c.toW), p.deltas.map (·.2)⟩

/-- a C05 decoded entry (µs) as a C09 spec status (ns). -/
def entryConv (e : Entry) : Nat × Feedback.Spec.St :=
  (e.seq, match e.time with | some t => .recvAt (t * 1000) | none => .lost)

/-- a C05 decoded entry as the acknowledgement rtpfb should derive from it. -/
def entryToRAck (e : Entry) : Rtpfb.RAck := ⟨e.seq, e.time.isSome, e.time.getD 0 * 1000, 0⟩

theorem expand_conv (w : WChunk) : Feedback.Spec.expand (convChunk w) = w.expand := by
  cases w <;> rfl

theorem symbols_toParsed (cs : List Twcc.Chunk) :
    Feedback.Spec.symbols (cs.map (fun c => convChunk c.toW)) = (decodeChunks cs).map Sym.code := by
  induction cs with
  | nil => rfl
  | cons c cs ih =>
    have h1 : Feedback.Spec.symbols ((c :: cs).map (fun c => convChunk c.toW)) =
        Feedback.Spec.expand (convChunk c.toW) ++ Feedback.Spec.symbols (cs.map (fun c => convChunk c.toW)) := by
      simp [Feedback.Spec.symbols]
    rw [h1, ih, expand_conv, Chunk.toW_expand]
    simp [decodeChunks]

theorem walk_pair : ∀ (syms : List Sym) (ds : List (Sym × Int)) (acc : Int) (b : Nat),
    (∀ d ∈ ds, ∃ q : Int, d.2 = q * 250) →
    ds.length = (syms.filter (fun s => decide (s ≠ Sym.nr))).length →
    ∃ r, Feedback.Spec.walk (acc * 1000) (syms.map Sym.code) (ds.map (·.2)) = some r ∧
      Feedback.Spec.number b r.1 = (timed b acc (pair syms ds)).map entryConv := by
  intro syms
  induction syms with
  | nil =>
    intro ds acc b _ hl
    have : ds = [] := List.eq_nil_of_length_eq_zero (by simpa using hl)
    subst this
    exact ⟨_, rfl, rfl⟩
  | cons s ss ih =>
    intro ds acc b hq hl
    cases s with
    | nr =>
      obtain ⟨r, hr, hn⟩ := ih ds acc (b + 1) hq (by simpa using hl)
      refine ⟨(Feedback.Spec.St.lost :: r.1, r.2.1, r.2.2), ?_, ?_⟩
      · simp only [List.map_cons, Sym.code]
        rw [FeedbackAdapter.walk_cons, if_pos (show 0 = Feedback.symNotReceived from rfl), hr]; rfl
      · simp only [Feedback.Spec.number, pair, timed, List.map_cons, hn, entryConv]
    | small | large =>
      cases ds with
      | nil => simp at hl
      | cons d ds' =>
        obtain ⟨q, hq0⟩ := hq d (List.mem_cons_self ..)
        obtain ⟨r, hr, hn⟩ := ih ds' (acc + d.2) (b + 1) (fun x hx => hq x (List.mem_cons_of_mem _ hx))
          (by simpa using hl)
        refine ⟨(Feedback.Spec.St.recvAt (acc * 1000 + d.2 * 1000) :: r.1, r.2.1, r.2.2 + 1), ?_, ?_⟩
        · simp only [List.map_cons, Sym.code]
          rw [FeedbackAdapter.walk_cons, if_neg (by decide), if_pos (by decide)]
          simp only []
          rw [show acc * 1000 + d.2 * 1000 = (acc + d.2) * 1000 by omega, hr]; rfl
        · have e : acc + 250 * (d.2 / 250) = acc + d.2 := by omega
          simp only [Feedback.Spec.number, pair, timed, List.map_cons, entryConv, e, hn]
          congr 3; omega

/-- the parsed form of a built packet in the terms the C09 decoders work on: its symbols are the
codes of the statuses pushed plus `pad` zeros, and the walk over those codes and its deltas, numbered
from its base, is the C05 structured decoding (times ×1000: µs → ns). -/
theorem walk_toParsed {f : Feedback} (h : Built f) (hc : f.count < 65536) :
    ∃ (syms : List Sym) (pad : Nat) (r : List Feedback.Spec.St × Int × Nat),
      Feedback.Spec.symbols (toParsed f.getRTCP).chunks = syms.map Sym.code ++ List.replicate pad 0 ∧
      f.getRTCP.count = syms.length ∧ r.1.length = syms.length ∧
      Feedback.Spec.walk (Feedback.refTime (toParsed f.getRTCP).ref) (syms.map Sym.code)
        (toParsed f.getRTCP).deltas = some r ∧
      Feedback.Spec.number f.getRTCP.base r.1 = f.getRTCP.decodeStruct.map entryConv := by
  obtain ⟨syms, hi, _⟩ := built_inv h
  obtain ⟨_, ⟨pad, hdec⟩, hd, _⟩ := getRTCP_spec hi
  obtain ⟨hcnt, hst⟩ := getRTCP_statuses hi hc
  have hq : ∀ d ∈ f.deltas.toList, ∃ q : Int, d.2 = q * 250 := fun d hd' => by
    obtain ⟨q, hq, _⟩ := hi.range d hd'; exact ⟨q, hq⟩
  obtain ⟨r, hr, hn⟩ := walk_pair syms f.deltas.toList (((f.getRTCP.ref % 16777216 : Nat) : Int) * 64000)
    f.getRTCP.base hq hi.deltas_length
  have href : Feedback.refTime (toParsed f.getRTCP).ref = ((f.getRTCP.ref % 16777216 : Nat) : Int) * 64000 * 1000 := by
    simp only [Feedback.refTime, toParsed]; omega
  have hdl : (toParsed f.getRTCP).deltas = f.deltas.toList.map (·.2) := by simp [toParsed, hd]
  refine ⟨syms, pad, r, ?_, hcnt, ?_, by rw [href, hdl, hr], by rw [hn, Packet.decodeStruct, hst]⟩
  · simp only [toParsed, symbols_toParsed, hdec, List.map_append, List.map_replicate, Sym.code]
  · rw [(FeedbackAdapter.walk_length _ _ _ _ hr).1, List.length_map]

theorem decodeTWCC_toParsed {f : Feedback} (h : Built f) (hc : f.count < 65536) :
    Feedback.Spec.decodeTWCC (toParsed f.getRTCP) = some (f.getRTCP.decodeStruct.map entryConv) := by
  obtain ⟨syms, pad, r, hs, hcnt, _, hr, hn⟩ := walk_toParsed h hc
  unfold Feedback.Spec.decodeTWCC
  rw [hs, show (toParsed f.getRTCP).count = syms.length from hcnt, List.take_left' (by simp), hr]
  exact congrArg some hn

theorem filterMap_entryConv (es : List Entry) :
    (es.map entryConv).filterMap Rtpfb.toRAck = es.map entryToRAck := by
  induction es with
  | nil => rfl
  | cons e es ih =>
    simp only [List.map_cons, List.filterMap_cons, ih]
    obtain ⟨seq, st, t⟩ := e
    cases t <;> simp [entryConv, Rtpfb.toRAck, entryToRAck]

theorem walk_zeros : ∀ (n : Nat) (ref : Int) (ds : List Int),
    Feedback.Spec.walk ref (List.replicate n 0) ds = some (List.replicate n Feedback.Spec.St.lost, ref, 0) := by
  intro n
  induction n with
  | zero => intro ref ds; rfl
  | succ n ih =>
    intro ref ds
    rw [List.replicate_succ, FeedbackAdapter.walk_cons, if_pos (show 0 = Feedback.symNotReceived from rfl), ih]
    rfl

/-- every chunk of a parsed model packet is one the adapter theorems cover (symbols 0..2). -/
theorem chunkOK_toParsed (p : Twcc.Packet) : ∀ c ∈ (toParsed p).chunks, FeedbackAdapter.ChunkOK c := by
  intro c hc
  simp only [toParsed, List.mem_map] at hc
  obtain ⟨c0, _, rfl⟩ := hc
  have hcode : ∀ s : Sym, s.code ≤ 2 := fun s => by cases s <;> simp [Sym.code]
  cases c0 with
  | run s n => simpa [Chunk.toW, convChunk, FeedbackAdapter.ChunkOK] using hcode s
  | vec1 l | vec2 l =>
    simp only [Chunk.toW, convChunk, FeedbackAdapter.ChunkOK]
    intro s hs
    rcases List.mem_append.mp hs with hs | hs
    · obtain ⟨x, _, rfl⟩ := List.mem_map.mp hs; exact hcode x
    · rw [(List.mem_replicate.mp hs).2]; omega

/-- the unbounded spec decoder (what the adapter implements, F-15) on a parsed model packet:
the C05 structured decoding followed by `pad` "lost" statuses for the numbers after the range. -/
theorem decodeTWCCAll_toParsed {f : Feedback} (h : Built f) (hc : f.count < 65536) :
    ∃ pad, Feedback.Spec.decodeTWCCAll (toParsed f.getRTCP) =
      some (f.getRTCP.decodeStruct.map entryConv ++
        Feedback.Spec.number (f.getRTCP.base + f.getRTCP.count) (List.replicate pad .lost)) := by
  obtain ⟨syms, pad, r, hs, hcnt, hrl, hr, hn⟩ := walk_toParsed h hc
  refine ⟨pad, ?_⟩
  unfold Feedback.Spec.decodeTWCCAll
  rw [hs, FeedbackAdapter.walk_append, hr]
  simp only [Option.bind_some, walk_zeros, Option.map_some, Option.some.injEq]
  show Feedback.Spec.number f.getRTCP.base (r.1 ++ _) = _
  rw [Rtpfb.number_append, hn, hrl, hcnt]

end Interceptor.C09Compat
