/-
Counting the references held by the ring across a slot update and across the clearing loop: what
leaves the ring is released, exactly once — as count equations over the slot array.  The abstract
reference-counting machine takes `Add` and `Clear` apart into `evict*`, then `store` | `drop` | nothing; these
equations are what such a decomposition has to balance, the decomposition itself is not stated.
-/
import Interceptor.Proofs.RtpBufferInv
namespace Interceptor.RtpBuffer
open Interceptor

variable {α : Type} [DecidableEq α]

/-- the packets referenced from the ring. -/
def occ (s : Array (Option α)) : List α := s.toList.filterMap id

omit [DecidableEq α] in
theorem filterMap_id_cons (x : Option α) (xs : List (Option α)) :
    (x :: xs).filterMap id = x.toList ++ xs.filterMap id := by
  cases x <;> simp

theorem count_set_list (a : α) (l : List (Option α)) (i : Nat) (h : i < l.length) (v : Option α) :
    ((l.set i v).filterMap id).count a + ((l[i]?).getD none).toList.count a
      = (l.filterMap id).count a + v.toList.count a := by
  induction l generalizing i with
  | nil => simp at h
  | cons x xs ih =>
    cases i with
    | zero =>
      simp only [List.set_cons_zero, filterMap_id_cons, List.count_append, List.getElem?_cons_zero, Option.getD_some]
      omega
    | succ i =>
      have := ih i (by simpa using h)
      simp only [List.set_cons_succ, filterMap_id_cons, List.count_append, List.getElem?_cons_succ]
      omega

theorem count_occ_set (a : α) (s : Array (Option α)) (i : Nat) (h : i < s.size) (v : Option α) :
    (occ (s.setIfInBounds i v)).count a + (slot s i).toList.count a = (occ s).count a + v.toList.count a := by
  unfold occ slot
  rw [Array.toList_setIfInBounds]
  have := count_set_list a s.toList i (by simpa using h) v
  simpa using this

theorem count_clear (a : α) (size : Nat) (hsz : ∀ x, ix size x < size) (s : Array (Option α))
    (hs : s.size = size) (start n : Nat) :
    (occ (clearSlots size s start n)).count a + (clearRel size s start n).count a = (occ s).count a := by
  induction n generalizing s start with
  | zero => simp [clearSlots, clearRel]
  | succ n ih =>
    simp only [clearSlots, clearRel, List.count_append]
    have h1 := ih (s.setIfInBounds (ix size start) none) (by simp [hs]) (add16 start 1)
    have h2 := count_occ_set a s (ix size start) (by rw [hs]; exact hsz _) none
    simp only [Option.toList_none, List.count_nil, Nat.add_zero] at h2
    omega

end Interceptor.RtpBuffer
