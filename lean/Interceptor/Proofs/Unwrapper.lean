/-
The sequence-number unwrapper (Model/Unwrapper.lean) in integer terms: `step last i` moves `last` by
the forward distance `d = (i − last) mod 2^16` or by `d − 2^16` (`step_spec`).  The properties of C20
and the comparison with the Go translation rest on this and never unfold `step`.
-/
import Interceptor.Model.Unwrapper
namespace Interceptor.Unwrapper

/-- the distance `uint16(v - p)` of the Go code, computed on naturals by the model, as an integer. -/
theorem fwd_cast (v p : Nat) (hp : p < 65536) :
    (((v + 65536 - p) % 65536 : Nat) : Int) = ((v : Int) - p) % 65536 := by
  have e : ((v + 65536 - p : Nat) : Int) = (v : Int) - p + 65536 := by omega
  rw [Int.natCast_emod, e]
  exact Int.add_emod_right _ _

/-- `isNewer` in terms of the forward distance `d = (v − p) mod 2^16`: ahead by less than half the
range, or by exactly half with `v` the larger number. -/
theorem isNewer_iff (v p : Nat) (d : Int) (hv : v < 65536) (hp : p < 65536)
    (hd : d = ((v : Int) - p) % 65536) :
    isNewer v p = true ↔ 0 < d ∧ (d < 32768 ∨ d = 32768 ∧ p < v) := by
  have hn := fwd_cast v p hp
  rw [← hd] at hn
  have hz : d = 0 ↔ v = p := by omega
  unfold isNewer
  generalize (v + 65536 - p) % 65536 = n at hn
  subst hn
  clear hd
  by_cases h : n = 32768
  · simp only [h, if_true, decide_eq_true_eq]; omega
  · simp only [h, if_false, Bool.and_eq_true, decide_eq_true_eq]; omega

theorem lastWrapped_cast (last : Int) : (((last % 65536).toNat : Nat) : Int) = last % 65536 :=
  Int.toNat_of_nonneg (Int.emod_nonneg _ (by decide))

theorem lastWrapped_lt (last : Int) : (last % 65536).toNat < 65536 :=
  (Int.toNat_lt (Int.emod_nonneg _ (by decide))).mpr (Int.emod_lt_of_pos _ (by decide))

/-- `step` with `delta` as the integer `(i − last) mod 2^16`, branch for branch. -/
theorem step_int (last : Int) (i : Nat) :
    step last i =
      if isNewer i (last % 65536).toNat then last + ((i : Int) - last) % 65536
      else if ((i : Int) - last) % 65536 > 0 ∧ last + ((i : Int) - last) % 65536 - 65536 ≥ 0 then
        last + (((i : Int) - last) % 65536 - 65536)
      else last + ((i : Int) - last) % 65536 := by
  have hn := fwd_cast i _ (lastWrapped_lt last)
  rw [lastWrapped_cast, Int.sub_emod_emod] at hn
  unfold step
  simp only [hn]

/-- ★ what one `Unwrap` call returns: `last` moved forward by `d = (i − last) mod 2^16` when that is
at most half the range (at exactly half: only if `i` is the larger 16-bit number) or when going
back would pass below zero; otherwise moved back by `2^16 − d`. -/
theorem step_spec (last : Int) (i : Nat) (hi : i < 65536) :
    ∃ d : Int, 0 ≤ d ∧ d < 65536 ∧ (last + d) % 65536 = i ∧
      (step last i = last + d ∧ (d ≤ 32768 ∨ last + d < 65536) ∨
       step last i = last + d - 65536 ∧ 32768 ≤ d ∧ 65536 ≤ last + d) := by
  have hnew := isNewer_iff i _ (((i : Int) - last) % 65536) hi (lastWrapped_lt last)
    (by rw [lastWrapped_cast, Int.sub_emod_emod])
  refine ⟨((i : Int) - last) % 65536, Int.emod_nonneg _ (by decide), Int.emod_lt_of_pos _ (by decide),
    by omega, ?_⟩
  rw [step_int last i]
  generalize ((i : Int) - last) % 65536 = d at *
  by_cases h : isNewer i (last % 65536).toNat = true
  · rw [if_pos h]; rw [hnew] at h; omega
  · rw [if_neg h]; rw [hnew] at h
    by_cases h2 : d > 0 ∧ last + d - 65536 ≥ 0
    · rw [if_pos h2]; omega
    · rw [if_neg h2]; omega

/-- one call moves the state by less than a cycle, whatever the input (what the int64 margins of the translated code
rest on: Props/C20Src `Room`, Facts/FnStreamLog `Inv`). -/
theorem step_near (last : Int) (i : Nat) : last - 65535 ≤ step last i ∧ step last i ≤ last + 65535 := by
  unfold step
  simp only []
  split
  · omega
  · split <;> omega

end Interceptor.Unwrapper
