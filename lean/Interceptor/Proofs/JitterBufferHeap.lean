/-
The heap-level PriorityQueue (`Model/JitterBuffer.lean`, pointers as `Option Nat` into an array
of nodes) refines the list-level queue: `HRep q l` says that the nodes reachable from `q.head`
form an acyclic chain whose entries are `l`, that the cached `length` is the number of reachable
nodes (mod 2^16) and that every reachable node carries a packet.  Every operation preserves
`HRep` and acts on `l` as the list operation; in particular no traversal runs out of fuel.
The proofs look at the node array only through `nx`, `pv` and its size.
-/
import Interceptor.Spec.JitterBuffer
namespace Interceptor.JitterBuffer
open PQ

/-- the `next` pointer of node `i` (`none` if `i` is not allocated). -/
def nx (ns : Array Node) (i : Nat) : Option (Option Nat) := (ns[i]?).map (·.next)
/-- priority and packet of node `i`. -/
def pv (ns : Array Node) (i : Nat) : Option (Nat × Option Pkt) := (ns[i]?).map (fun n => (n.prio, n.val))

/-- `Seg ns s l e`: following `next` from pointer `s` visits exactly the nodes `l` and arrives at `e`. -/
def Seg (ns : Array Node) : Option Nat → List Nat → Option Nat → Prop
  | s, [], e => s = e
  | s, i :: l, e => s = some i ∧ ∃ t, nx ns i = some t ∧ Seg ns t l e

def entryAt (ns : Array Node) (i : Nat) : Entry :=
  match pv ns i with
  | some (pr, some p) => (pr, p)
  | _ => default

def Full (ns : Array Node) (is : List Nat) : Prop := ∀ i ∈ is, ∃ pr p, pv ns i = some (pr, some p)

/-- the representation invariant (WF) together with the abstraction. -/
def HRep (q : PQ) (l : List Entry) : Prop :=
  ∃ is : List Nat, Seg q.nodes q.head is none ∧ is.Nodup ∧ Full q.nodes is ∧
    l = is.map (entryAt q.nodes) ∧ q.length = is.length % 65536 ∧ is.length ≤ q.nodes.size

theorem nx_get {ns : Array Node} {i : Nat} {n : Node} (h : ns[i]? = some n) : nx ns i = some n.next := by
  simp [nx, h]

theorem get_of_nx {ns : Array Node} {i : Nat} {t : Option Nat} (h : nx ns i = some t) :
    ∃ n, ns[i]? = some n ∧ n.next = t := by
  unfold nx at h
  cases hn : ns[i]? with
  | none => simp [hn] at h
  | some n => simp [hn] at h; exact ⟨n, rfl, h⟩

theorem pv_get {ns : Array Node} {i : Nat} {n : Node} (h : ns[i]? = some n) : pv ns i = some (n.prio, n.val) := by
  simp [pv, h]

theorem seg_congr {ns ns' : Array Node} : ∀ {l : List Nat} {s e : Option Nat},
    (∀ i ∈ l, nx ns' i = nx ns i) → Seg ns s l e → Seg ns' s l e
  | [], _, _, _, h => h
  | i :: l, s, e, hc, ⟨hs, t, ht, hseg⟩ =>
    ⟨hs, t, by rw [hc i (List.mem_cons_self)]; exact ht,
      seg_congr (fun j hj => hc j (List.mem_cons_of_mem _ hj)) hseg⟩

theorem seg_append {ns : Array Node} : ∀ {l1 l2 : List Nat} {s e : Option Nat},
    Seg ns s (l1 ++ l2) e ↔ ∃ m, Seg ns s l1 m ∧ Seg ns m l2 e
  | [], l2, s, e => by
    constructor
    · intro h; exact ⟨s, rfl, h⟩
    · rintro ⟨m, h1, h2⟩; cases h1; exact h2
  | i :: l1, l2, s, e => by
    constructor
    · rintro ⟨hs, t, ht, h⟩
      obtain ⟨m, h1, h2⟩ := seg_append.mp h
      exact ⟨m, ⟨hs, t, ht, h1⟩, h2⟩
    · rintro ⟨m, ⟨hs, t, ht, h1⟩, h2⟩
      exact ⟨hs, t, ht, seg_append.mpr ⟨m, h1, h2⟩⟩

theorem map_entry_congr {ns ns' : Array Node} {l : List Nat} (h : ∀ i ∈ l, pv ns' i = pv ns i) :
    l.map (entryAt ns') = l.map (entryAt ns) :=
  List.map_congr_left (fun i hi => by unfold entryAt; rw [h i hi])

theorem full_congr {ns ns' : Array Node} {l : List Nat} (h : ∀ i ∈ l, pv ns' i = pv ns i) (hf : Full ns l) :
    Full ns' l := fun i hi => by rw [h i hi]; exact hf i hi

theorem nx_modify (ns : Array Node) (j i : Nat) (f : Node → Node) :
    nx (ns.modify j f) i = if j = i then (ns[i]?).map (fun n => (f n).next) else nx ns i := by
  unfold nx
  rw [Array.getElem?_modify]
  split
  · simp [Option.map_map, Function.comp_def]
  · rfl

theorem pv_modify (ns : Array Node) (j i : Nat) (f : Node → Node) :
    pv (ns.modify j f) i = if j = i then (ns[i]?).map (fun n => ((f n).prio, (f n).val)) else pv ns i := by
  unfold pv
  rw [Array.getElem?_modify]
  split
  · simp [Option.map_map, Function.comp_def]
  · rfl

theorem nx_modify_keep (ns : Array Node) (j i : Nat) (f : Node → Node) (hf : ∀ n, (f n).next = n.next) :
    nx (ns.modify j f) i = nx ns i := by
  rw [nx_modify]; split
  · simp [nx, hf]
  · rfl

theorem pv_modify_keep (ns : Array Node) (j i : Nat) (f : Node → Node)
    (hf : ∀ n, (f n).prio = n.prio ∧ (f n).val = n.val) : pv (ns.modify j f) i = pv ns i := by
  rw [pv_modify]; split
  · simp [pv, hf]
  · rfl

theorem nx_push (ns : Array Node) (n : Node) (i : Nat) :
    nx (ns.push n) i = if i = ns.size then some n.next else nx ns i := by
  unfold nx; rw [Array.getElem?_push]; split <;> rfl

theorem pv_push (ns : Array Node) (n : Node) (i : Nat) :
    pv (ns.push n) i = if i = ns.size then some (n.prio, n.val) else pv ns i := by
  unfold pv; rw [Array.getElem?_push]; split <;> rfl

theorem seg_lt {ns : Array Node} : ∀ {l : List Nat} {s e : Option Nat}, Seg ns s l e → ∀ i ∈ l, i < ns.size
  | [], _, _, _, i, hi => by cases hi
  | j :: l, s, e, ⟨hs, t, ht, hseg⟩, i, hi => by
    rcases List.mem_cons.mp hi with rfl | hi
    · obtain ⟨n, hn, _⟩ := get_of_nx ht
      exact (Array.getElem?_eq_some_iff.mp hn).1
    · exact seg_lt hseg i hi

theorem full_node {ns : Array Node} {i : Nat} {n : Node} (hf : ∃ pr p, pv ns i = some (pr, some p))
    (h : ns[i]? = some n) : n.val = some (entryAt ns i).2 ∧ (entryAt ns i).1 = n.prio := by
  obtain ⟨pr, p, hp⟩ := hf
  have he : entryAt ns i = (pr, p) := by unfold entryAt; rw [hp]
  rw [pv_get h] at hp
  injection hp with hp
  injection hp with h1 h2
  rw [he]; exact ⟨h2, h1.symm⟩

/-! The record updates of the model seen through `nx` and `pv`; the function variables `N`, `P` let one
lemma match every `{ x with next := .., prev := .. }` of the model under `rw`. -/

theorem nx_setPrev (ns : Array Node) (j i : Nat) (P : Node → Option Nat) :
    nx (ns.modify j (fun x => { x with prev := P x })) i = nx ns i :=
  nx_modify_keep ns j i _ (fun _ => rfl)

theorem nx_setNext (ns : Array Node) (j i : Nat) (v : Option Nat) (P : Node → Option Nat) :
    nx (ns.modify j (fun x => { x with next := v, prev := P x })) i =
      if j = i then (nx ns i).map (fun _ => v) else nx ns i := by
  rw [nx_modify]; split
  · unfold nx; rw [Option.map_map]; rfl
  · rfl

theorem pv_setLinks (ns : Array Node) (j i : Nat) (N P : Node → Option Nat) :
    pv (ns.modify j (fun x => { x with next := N x, prev := P x })) i = pv ns i :=
  pv_modify_keep ns j i _ (fun _ => ⟨rfl, rfl⟩)

theorem nx_setVal (ns : Array Node) (j i : Nat) (v : Option Pkt) :
    nx (ns.modify j (fun x => { x with val := v })) i = nx ns i :=
  nx_modify_keep ns j i _ (fun _ => rfl)

theorem pv_modify_ne {ns : Array Node} {j i : Nat} (f : Node → Node) (h : j ≠ i) :
    pv (ns.modify j f) i = pv ns i := by rw [pv_modify, if_neg h]

theorem get_modify_eq {ns : Array Node} {i : Nat} {n : Node} (f : Node → Node) (h : ns[i]? = some n) :
    (ns.modify i f)[i]? = some (f n) := by rw [Array.getElem?_modify, if_pos rfl, h]; rfl

theorem findL_cons (e : Entry) (l : List Entry) (sq : Nat) :
    findL (e :: l) sq = if e.1 = sq then .ok (some e.2) else findL l sq := by
  unfold findL
  rw [List.find?_cons]
  by_cases h : e.1 = sq
  · simp [h]
  · have : (e.1 == sq) = false := by simpa using h
    simp [h, this]

theorem findLoop_none (ns : Array Node) (sq f : Nat) : findLoop ns sq f none = .err "notfound" := by
  cases f <;> rfl

theorem findLoop_spec (ns : Array Node) (sq : Nat) : ∀ (is : List Nat) (s : Option Nat) (f : Nat),
    Seg ns s is none → Full ns is → is.length ≤ f →
    findLoop ns sq f s = findL (is.map (entryAt ns)) sq
  | [], s, f, hs, _, _ => by
    cases hs; rw [findLoop_none]; rfl
  | i :: is, s, f + 1, ⟨hs, t, ht, hseg⟩, hfull, hlen => by
    subst hs
    obtain ⟨n, hn, rfl⟩ := get_of_nx ht
    obtain ⟨hv, hpr⟩ := full_node (hfull i List.mem_cons_self) hn
    rw [List.map_cons, findL_cons, hpr, ← hv]
    simp only [findLoop, hn]
    split
    · rfl
    · exact findLoop_spec ns sq is _ f hseg (fun j hj => hfull j (List.mem_cons_of_mem _ hj))
        (Nat.le_of_succ_le_succ hlen)

theorem heap_find {q : PQ} {l : List Entry} (h : HRep q l) (sq : Nat) : q.find sq = findL l sq := by
  obtain ⟨is, hseg, _, hfull, hl, _, hlen⟩ := h
  subst hl
  exact findLoop_spec q.nodes sq is q.head _ hseg hfull (by unfold fuel; omega)

theorem clearLoop_ok : ∀ (is : List Nat) (ns : Array Node) (s : Option Nat) (f : Nat),
    Seg ns s is none → is.length ≤ f → ∃ ns', clearLoop ns f s = .ok ns'
  | [], ns, s, f, hs, _ => by
    cases hs; exact ⟨ns, by cases f <;> rfl⟩
  | i :: is, ns, s, f + 1, ⟨hs, t, ht, hseg⟩, hlen => by
    subst hs
    obtain ⟨n, hn, rfl⟩ := get_of_nx ht
    simp only [clearLoop, hn]
    exact clearLoop_ok is _ _ f (seg_congr (fun j _ => nx_setPrev ns i j _) hseg) (Nat.le_of_succ_le_succ hlen)

theorem heap_clear {q : PQ} {l : List Entry} (h : HRep q l) : ∃ q', q.clear = .ok q' ∧ HRep q' [] := by
  obtain ⟨is, hseg, _, _, _, _, hlen⟩ := h
  obtain ⟨ns', hc⟩ := clearLoop_ok is q.nodes q.head (fuel q.nodes) hseg (by unfold fuel; omega)
  refine ⟨{ nodes := ns', head := none, length := 0 }, by simp [PQ.clear, hc], ?_⟩
  exact ⟨[], rfl, List.nodup_nil, (fun i hi => by cases hi), rfl, rfl, Nat.zero_le _⟩

theorem dec16_len (k : Nat) : dec16 ((k + 1) % 65536) = k % 65536 := by
  unfold dec16; rw [Nat.mod_add_mod, Nat.add_assoc, Nat.add_mod_right]
theorem inc16_len (k : Nat) : inc16 (k % 65536) = (k + 1) % 65536 := Nat.mod_add_mod k 65536 1

theorem popLoop_none (ns : Array Node) (pred : Node → Res Bool) (f : Nat) (prev : Option Nat) :
    popLoop ns pred f none prev = .err "notfound" := by
  cases f <;> rfl

/-- what `PopAt` does to the array once it has found node `i` behind `p`:
`pos.val = nil; prev.next = pos.next; if prev.next != nil { prev.next.prev = prev }`. -/
def unlink (ns : Array Node) (p i : Nat) (next : Option Nat) : Array Node :=
  let ns2 := (ns.modify i (fun x => { x with val := none })).modify p (fun x => { x with next := next })
  match next with
  | none => ns2
  | some c => ns2.modify c (fun x => { x with prev := some p })

theorem nx_unlink (ns : Array Node) (p i j : Nat) (next : Option Nat) :
    nx (unlink ns p i next) j = if p = j then (nx ns j).map (fun _ => next) else nx ns j := by
  cases next <;> simp only [unlink, nx_setPrev, nx_setNext, nx_setVal]

theorem pv_unlink (ns : Array Node) (p : Nat) {i j : Nat} (next : Option Nat) (h : i ≠ j) :
    pv (unlink ns p i next) j = pv ns j := by
  cases next <;> simp only [unlink, pv_setLinks, pv_modify_ne _ h]

theorem size_unlink (ns : Array Node) (p i : Nat) (next : Option Nat) : (unlink ns p i next).size = ns.size := by
  cases next <;> simp only [unlink, Array.size_modify]

/-- bending the `next` of `p` from `i` to `c` (and changing no other `next`) takes node `i` out of the chain
`a ++ [p] ++ i :: b`. -/
theorem seg_unlink {ns ns' : Array Node} {s c : Option Nat} {a b : List Nat} {p i : Nat}
    (ha : Seg ns s (a ++ [p]) (some i)) (hb : Seg ns c b none) (hnd : ((a ++ [p]) ++ i :: b).Nodup)
    (hnx : ∀ j, j ≠ p → nx ns' j = nx ns j) (hp : nx ns' p = (nx ns p).map fun _ => c) :
    Seg ns' s ((a ++ [p]) ++ b) none := by
  obtain ⟨_, hsa, rfl, _, hpi, _⟩ := seg_append.mp ha
  rw [hpi] at hp
  obtain ⟨hnda, _, hdisj⟩ := List.nodup_append.mp hnd
  refine seg_append.mpr ⟨c, seg_append.mpr ⟨some p, seg_congr (fun j hj => hnx j ?_) hsa, rfl, c, hp, rfl⟩,
    seg_congr (fun j hj => hnx j ?_) hb⟩
  · exact (List.nodup_append.mp hnda).2.2 j hj p (List.mem_singleton_self p)
  · exact fun e => hdisj p (List.mem_append_right _ (List.mem_singleton_self p)) j (List.mem_cons_of_mem _ hj) e.symm

/-- a chain `A ++ B` in `ns'` that is `A ++ i :: B` of `ns` without `i`, the other nodes' contents untouched and the
count decremented, represents the entries of `A ++ B`. -/
theorem hrep_remove {ns ns' : Array Node} {s : Option Nat} {A B : List Nat} {i len : Nat}
    (hseg : Seg ns' s (A ++ B) none) (hnd : (A ++ i :: B).Nodup) (hfull : Full ns (A ++ i :: B))
    (hlen : len = (A ++ i :: B).length % 65536) (hsz : (A ++ i :: B).length ≤ ns'.size)
    (hpv : ∀ j ∈ A ++ B, pv ns' j = pv ns j) :
    HRep ⟨ns', s, dec16 len⟩ ((A ++ B).map (entryAt ns)) := by
  have hperm : (A ++ i :: B).Perm (i :: (A ++ B)) := List.perm_middle
  have hsub : ∀ j ∈ A ++ B, j ∈ A ++ i :: B := fun j hj => hperm.mem_iff.mpr (List.mem_cons_of_mem _ hj)
  refine ⟨A ++ B, hseg, (List.nodup_cons.mp (hperm.nodup_iff.mp hnd)).2,
    full_congr hpv (fun j hj => hfull j (hsub j hj)), (map_entry_congr hpv).symm, ?_, ?_⟩
  · rw [hlen, hperm.length_eq, List.length_cons, dec16_len]
  · rw [hperm.length_eq, List.length_cons] at hsz; exact Nat.le_of_succ_le hsz

theorem popByL_of_ne_nil {l : List Entry} (hl : l ≠ []) (pred : Entry → Bool) :
    popByL l pred = match l.find? pred with
      | some e => .ok (some e.2, l.eraseP pred)
      | none => .err "notfound" := by
  cases l with
  | nil => exact absurd rfl hl
  | cons => rfl

theorem popByL_hit {as bs : List Entry} {e : Entry} {pred : Entry → Bool}
    (has : ∀ x ∈ as, pred x = false) (he : pred e = true) :
    popByL (as ++ e :: bs) pred = .ok (some e.2, as ++ bs) := by
  have hno : ∀ x ∈ as, ¬ pred x = true := fun x hx => by rw [has x hx]; exact Bool.false_ne_true
  rw [popByL_of_ne_nil (by cases as <;> exact List.cons_ne_nil _ _),
    List.find?_eq_some_iff_append.mpr ⟨he, as, bs, rfl, fun x hx => by rw [has x hx]; rfl⟩,
    List.eraseP_append_right _ hno, List.eraseP_cons_of_pos he]

theorem popByL_miss {l : List Entry} {pred : Entry → Bool} (hl : l ≠ []) (h : ∀ x ∈ l, pred x = false) :
    popByL l pred = .err "notfound" := by
  rw [popByL_of_ne_nil hl, List.find?_eq_none.mpr (fun x hx => by rw [h x hx]; exact Bool.false_ne_true)]

/-- the loop of `PopAt`/`PopAtTimestamp`, started behind `p`, on a chain: it fails if no entry matches,
and otherwise unlinks the first node `i` that does. -/
theorem popLoop_spec {ns : Array Node} {pred : Node → Res Bool} {lp : Entry → Bool}
    (hpred : ∀ n p, n.val = some p → pred n = .ok (lp (n.prio, p))) (s0 : Option Nat) :
    ∀ (rest pre : List Nat) (p : Nat) (cur : Option Nat) (f : Nat),
      Seg ns s0 (pre ++ [p]) cur → Seg ns cur rest none → Full ns rest → rest.length ≤ f →
      (∀ j ∈ pre ++ [p], lp (entryAt ns j) = false) →
      ((∀ j ∈ (pre ++ [p]) ++ rest, lp (entryAt ns j) = false) ∧
        popLoop ns pred f cur (some p) = .err "notfound") ∨
      ∃ a p' i b n, (pre ++ [p]) ++ rest = (a ++ [p']) ++ i :: b ∧ ns[i]? = some n ∧
        popLoop ns pred f cur (some p) = .ok (n.val, unlink ns p' i n.next) ∧
        Seg ns s0 (a ++ [p']) (some i) ∧ Seg ns n.next b none ∧
        (∀ j ∈ a ++ [p'], lp (entryAt ns j) = false) ∧ lp (entryAt ns i) = true
  | [], pre, p, cur, f, _, hcur, _, _, hlt => by
    cases hcur
    exact Or.inl ⟨by rw [List.append_nil]; exact hlt, popLoop_none _ _ _ _⟩
  | i :: rest, pre, p, cur, f + 1, hpre, ⟨hc, t, ht, hseg⟩, hfull, hlen, hlt => by
    subst hc
    obtain ⟨n, hn, rfl⟩ := get_of_nx ht
    obtain ⟨hv, hpr⟩ := full_node (hfull i List.mem_cons_self) hn
    have hp : pred n = .ok (lp (entryAt ns i)) := by rw [hpred n _ hv, ← hpr]
    cases hlp : lp (entryAt ns i)
    · rw [hlp] at hp
      simp only [popLoop, hn, hp]
      rw [show (pre ++ [p]) ++ i :: rest = ((pre ++ [p]) ++ [i]) ++ rest from (List.append_assoc _ [i] rest).symm]
      exact popLoop_spec hpred s0 rest (pre ++ [p]) i n.next f
        (seg_append.mpr ⟨some i, hpre, rfl, _, ht, rfl⟩) hseg
        (fun j hj => hfull j (List.mem_cons_of_mem _ hj)) (Nat.le_of_succ_le_succ hlen)
        (fun j hj => by
          rcases List.mem_append.mp hj with hj | hj
          · exact hlt j hj
          · cases List.mem_singleton.mp hj; exact hlp)
    · rw [hlp] at hp
      exact Or.inr ⟨pre, p, i, rest, n, rfl, hn, by simp only [popLoop, hn, hp, unlink]; cases n.next <;> rfl,
        hpre, hseg, hlt, hlp⟩

theorem hrep_drop_head {q : PQ} {hd : Nat} {rest : List Nat} {c : Option Nat} (hseg : Seg q.nodes c rest none)
    (hnd : (hd :: rest).Nodup) (hfull : Full q.nodes (hd :: rest)) (hlen : q.length = (hd :: rest).length % 65536)
    (hsz : (hd :: rest).length ≤ q.nodes.size) :
    HRep ⟨q.nodes.modify hd (fun x => { x with val := none }), c, dec16 q.length⟩ (rest.map (entryAt q.nodes)) :=
  hrep_remove (A := []) (seg_congr (fun j _ => nx_setVal _ _ _ _) hseg) hnd hfull hlen
    (by rw [Array.size_modify]; exact hsz)
    (fun j hj => pv_modify_ne _ (fun e => (List.nodup_cons.mp hnd).1 (e ▸ hj)))

theorem heap_popBy {q : PQ} {l : List Entry} (h : HRep q l) (pred : Node → Res Bool) (lp : Entry → Bool)
    (hpred : ∀ n p, n.val = some p → pred n = .ok (lp (n.prio, p))) :
    PopRel HRep (q.popBy pred) (popByL l lp) := by
  obtain ⟨is, hseg, hnd, hfull, rfl, hlen, hsz⟩ := h
  cases his : is with
  | nil =>
    subst his
    have : q.head = none := hseg
    simp only [popBy, this]; exact rfl
  | cons hd rest =>
    obtain ⟨hh, t, ht, hseg'⟩ : Seg _ q.head (hd :: rest) none := his ▸ hseg
    obtain ⟨hn, hhn, rfl⟩ := get_of_nx ht
    obtain ⟨hv, hpr⟩ := full_node (hfull hd (his ▸ List.mem_cons_self)) hhn
    have hp : pred hn = .ok (lp (entryAt q.nodes hd)) := by rw [hpred hn _ hv, ← hpr]
    cases hlp : lp (entryAt q.nodes hd)
    · -- the head does not match: walk the list
      rw [hlp] at hp
      simp only [popBy, hh, hhn, hp, fuel, popLoop]
      rcases popLoop_spec hpred (some hd) rest [] hd hn.next q.nodes.size ⟨rfl, _, ht, rfl⟩ hseg'
          (fun j hj => hfull j (his ▸ List.mem_cons_of_mem _ hj)) (Nat.le_of_succ_le (by rw [his] at hsz; exact hsz))
          (fun j hj => by cases List.mem_singleton.mp hj; exact hlp) with
        ⟨hall, herr⟩ | ⟨a, p, i, b, n, h1, hi, hok, hsa, hsb, ha, hlpi⟩
      · rw [herr, popByL_miss (l := (hd :: rest).map (entryAt q.nodes)) (List.cons_ne_nil _ _)
          (List.forall_mem_map.mpr hall)]
        exact rfl
      · rw [show hd :: rest = _ from h1]
        obtain rfl : is = (a ++ [p]) ++ i :: b := his.trans h1
        rw [hok, List.map_append, List.map_cons, popByL_hit (List.forall_mem_map.mpr ha) hlpi, ← List.map_append]
        have hib : ∀ j ∈ (a ++ [p]) ++ b, i ≠ j := fun j hj e =>
          (List.nodup_cons.mp (List.perm_middle.nodup_iff.mp hnd)).1 (e ▸ hj)
        exact ⟨(full_node (hfull i (List.mem_append_right _ List.mem_cons_self)) hi).1,
          hrep_remove (seg_unlink hsa hsb hnd (fun j hj => by rw [nx_unlink, if_neg hj.symm])
            (by rw [nx_unlink, if_pos rfl])) hnd hfull hlen (by rw [size_unlink]; exact hsz)
            (fun j hj => pv_unlink _ _ _ (hib j hj))⟩
    · -- the head matches
      subst his
      rw [hlp] at hp
      simp only [popBy, hh, hhn, hp]
      rw [List.map_cons,
        show popByL (entryAt q.nodes hd :: rest.map (entryAt q.nodes)) lp = _ from
          popByL_hit (as := []) (fun _ h => nomatch h) hlp]
      exact ⟨hv, hrep_drop_head hseg' hnd hfull hlen hsz⟩

theorem heap_popAt {q : PQ} {l : List Entry} (h : HRep q l) (sq : Nat) :
    PopRel HRep (q.popAt sq) (popByL l (fun e => e.1 == sq)) :=
  heap_popBy h (predSeq sq) _ (fun _ _ _ => rfl)

theorem heap_popAtTs {q : PQ} {l : List Entry} (h : HRep q l) (ts : Nat) :
    PopRel HRep (q.popAtTs ts) (popByL l (fun e => e.2.ts == ts)) :=
  heap_popBy h (predTs ts) _ (fun n p hv => by simp [predTs, hv])

theorem heap_pop {q : PQ} {l : List Entry} (h : HRep q l) : PopRel HRep q.pop (popL l) := by
  obtain ⟨is, hseg, hnd, hfull, rfl, hlen, hsz⟩ := h
  cases is with
  | nil =>
    have : q.head = none := hseg
    simp only [PQ.pop, this]; exact rfl
  | cons hd rest =>
    obtain ⟨hh, t, ht, hseg'⟩ := hseg
    obtain ⟨hn, hhn, rfl⟩ := get_of_nx ht
    simp only [PQ.pop, hh, hhn, List.map_cons, popL]
    exact ⟨(full_node (hfull hd List.mem_cons_self) hhn).1, hrep_drop_head hseg' hnd hfull hlen hsz⟩

theorem pushScan_none (ns : Array Node) (prio f p : Nat) : pushScan ns prio f none p = .ok (none, p) := by
  cases f <;> rfl

/-- pointing `p` at `new` and `new` at `p`'s old successor `c` (no other `next` changed) puts `new` into the
chain behind `p`. -/
theorem seg_link_after {ns ns' : Array Node} {s c : Option Nat} {a b : List Nat} {p new : Nat}
    (ha : Seg ns s (a ++ [p]) c) (hb : Seg ns c b none)
    (hnd : ((a ++ [p]) ++ b).Nodup) (hnew : new ∉ (a ++ [p]) ++ b)
    (hnx : ∀ j, j ≠ p → j ≠ new → nx ns' j = nx ns j)
    (hp : nx ns' p = (nx ns p).map fun _ => some new) (hn : nx ns' new = some c) :
    Seg ns' s ((a ++ [p]) ++ new :: b) none := by
  obtain ⟨_, hsa, rfl, _, hpc, _⟩ := seg_append.mp ha
  rw [hpc] at hp
  obtain ⟨hnda, _, hdisj⟩ := List.nodup_append.mp hnd
  have hp_mem : p ∈ a ++ [p] := List.mem_append_right _ (List.mem_singleton_self p)
  refine seg_append.mpr ⟨some new, seg_append.mpr ⟨some p, seg_congr (fun j hj => hnx j ?_ ?_) hsa, rfl, _, hp, rfl⟩,
    rfl, c, hn, seg_congr (fun j hj => hnx j ?_ ?_) hb⟩
  · exact (List.nodup_append.mp hnda).2.2 j hj p (List.mem_singleton_self p)
  · exact fun e => hnew (e ▸ List.mem_append_left _ (List.mem_append_left _ hj))
  · exact fun e => hdisj p hp_mem j hj e.symm
  · exact fun e => hnew (e ▸ List.mem_append_right _ hj)

theorem insertL_map_split (f : Nat → Entry) (e : Entry) : ∀ (A B : List Nat), (∀ j ∈ A, (f j).1 < e.1) →
    (∀ j ∈ B.head?, e.1 ≤ (f j).1) → insertL ((A ++ B).map f) e = A.map f ++ e :: B.map f
  | [], [], _, _ => rfl
  | [], j :: B, _, hB => if_pos (hB j rfl)
  | i :: A, B, hA, hB => by
    have hi : ¬ e.1 ≤ (f i).1 := Nat.not_le.mpr (hA i List.mem_cons_self)
    rw [List.cons_append, List.map_cons, insertL, if_neg hi,
      insertL_map_split f e A B (fun j hj => hA j (List.mem_cons_of_mem _ hj)) hB]
    rfl

/-- a chain `A ++ new :: B` in `ns'`, where `new` holds `(prio, val)`, `A` has smaller priorities and the head of
`B` does not, the contents are those of `ns` and the count is incremented, represents `insertL` of the old entries. -/
theorem hrep_insert {ns ns' : Array Node} {s' : Option Nat} {A B : List Nat} {new prio len : Nat} {val : Pkt}
    (hseg : Seg ns' s' (A ++ new :: B) none) (hnd : (A ++ B).Nodup) (hnew : new ∉ A ++ B)
    (hfull : Full ns (A ++ B)) (hlen : len = (A ++ B).length % 65536) (hsz : (A ++ B).length + 1 ≤ ns.size)
    (hpvn : pv ns new = some (prio, some val)) (hsize : ns'.size = ns.size) (hpv : ∀ j, pv ns' j = pv ns j)
    (hA : ∀ j ∈ A, (entryAt ns j).1 < prio) (hB : ∀ j ∈ B.head?, prio ≤ (entryAt ns j).1) :
    HRep ⟨ns', s', inc16 len⟩ (insertL ((A ++ B).map (entryAt ns)) (prio, val)) := by
  have hperm : (A ++ new :: B).Perm (new :: (A ++ B)) := List.perm_middle
  refine ⟨A ++ new :: B, hseg, hperm.nodup_iff.mpr (List.nodup_cons.mpr ⟨hnew, hnd⟩), ?_, ?_, ?_, ?_⟩
  · intro j hj
    rw [hpv]
    rcases List.mem_cons.mp (hperm.mem_iff.mp hj) with rfl | hj
    · exact ⟨prio, val, hpvn⟩
    · exact hfull j hj
  · have hnewE : entryAt ns new = (prio, val) := by unfold entryAt; rw [hpvn]
    rw [insertL_map_split _ _ A B hA hB, map_entry_congr (fun j _ => hpv j), List.map_append, List.map_cons, hnewE]
  · rw [hlen, inc16_len, hperm.length_eq, List.length_cons]
  · rw [hperm.length_eq, List.length_cons, hsize]; exact hsz

/-- the scan of `Push`, started behind `p` with all of `pre ++ [p]` of smaller priority: it stops behind the last
node `p'` of smaller priority, splitting the chain into `a ++ [p']` and `b` as `insertL` does. -/
theorem pushScan_spec (ns : Array Node) (prio : Nat) (s0 : Option Nat) :
    ∀ (rest pre : List Nat) (p : Nat) (cur : Option Nat) (f : Nat),
      Seg ns s0 (pre ++ [p]) cur → Seg ns cur rest none → Full ns rest → rest.length ≤ f →
      (∀ j ∈ pre ++ [p], (entryAt ns j).1 < prio) →
      ∃ a p' b c, (pre ++ [p]) ++ rest = (a ++ [p']) ++ b ∧ pushScan ns prio f cur p = .ok (c, p') ∧
        Seg ns s0 (a ++ [p']) c ∧ Seg ns c b none ∧ (∀ j ∈ a ++ [p'], (entryAt ns j).1 < prio) ∧
        (∀ j ∈ b.head?, prio ≤ (entryAt ns j).1)
  | [], pre, p, cur, f, hpre, hcur, _, _, hlt => by
    cases hcur
    exact ⟨pre, p, [], none, rfl, pushScan_none _ _ _ _, hpre, rfl, hlt, fun j hj => nomatch hj⟩
  | i :: rest, pre, p, cur, f + 1, hpre, ⟨hc, t, ht, hseg⟩, hfull, hlen, hlt => by
    subst hc
    obtain ⟨n, hn, rfl⟩ := get_of_nx ht
    have hi := (full_node (hfull i List.mem_cons_self) hn).2
    simp only [pushScan, hn]
    by_cases hle : prio ≤ n.prio
    · rw [if_pos hle]
      exact ⟨pre, p, i :: rest, some i, rfl, rfl, hpre, ⟨rfl, _, ht, hseg⟩, hlt,
        fun j hj => by cases hj; rw [hi]; exact hle⟩
    · rw [if_neg hle]
      obtain ⟨a, p', b, c, h1, h⟩ := pushScan_spec ns prio s0 rest (pre ++ [p]) i n.next f
        (seg_append.mpr ⟨some i, hpre, rfl, _, ht, rfl⟩) hseg
        (fun j hj => hfull j (List.mem_cons_of_mem _ hj)) (Nat.le_of_succ_le_succ hlen)
        (fun j hj => by
          rcases List.mem_append.mp hj with hj | hj
          · exact hlt j hj
          · cases List.mem_singleton.mp hj; rw [hi]; exact Nat.not_le.mp hle)
      exact ⟨a, p', b, c, by rw [← h1, List.append_assoc (pre ++ [p])]; rfl, h⟩

theorem heap_push {q : PQ} {l : List Entry} (h : HRep q l) (val : Pkt) (prio : Nat) :
    ∃ q', q.push val prio = .ok q' ∧ HRep q' (insertL l (prio, val)) := by
  obtain ⟨is, hseg, hnd, hfull, rfl, hlen, hsz⟩ := h
  have hne : ∀ j ∈ is, j ≠ q.nodes.size := fun j hj => Nat.ne_of_lt (seg_lt hseg j hj)
  have hnew : q.nodes.size ∉ is := fun h => hne _ h rfl
  -- allocating the new node leaves the chain as it is: from here on everything is about the new array
  have hnxN : nx (q.nodes.push ⟨some val, none, none, prio⟩) q.nodes.size = some none := by
    rw [nx_push, if_pos rfl]
  have hpvN : pv (q.nodes.push ⟨some val, none, none, prio⟩) q.nodes.size = some (prio, some val) := by
    rw [pv_push, if_pos rfl]
  have hpv0 : ∀ j ∈ is, pv (q.nodes.push ⟨some val, none, none, prio⟩) j = pv q.nodes j :=
    fun j hj => by rw [pv_push, if_neg (hne j hj)]
  have hseg0 : Seg (q.nodes.push ⟨some val, none, none, prio⟩) q.head is none :=
    seg_congr (fun j hj => by rw [nx_push, if_neg (hne j hj)]) hseg
  have hfull0 := full_congr hpv0 hfull
  have hsz0 : is.length + 1 ≤ (q.nodes.push ⟨some val, none, none, prio⟩).size := by
    rw [Array.size_push]; exact Nat.succ_le_succ hsz
  rw [← map_entry_congr hpv0]
  clear hseg hfull hpv0
  cases his : is with
  | nil =>
    subst his
    exact ⟨_, by simp only [PQ.push, show q.head = none from hseg0],
      hrep_insert (A := []) (B := []) ⟨rfl, none, hnxN, rfl⟩ hnd hnew hfull0 hlen hsz0 hpvN rfl (fun _ => rfl)
        (fun _ h => nomatch h) (fun _ h => nomatch h)⟩
  | cons hd rest =>
    obtain ⟨hh, t, ht, hseg'⟩ : Seg _ q.head (hd :: rest) none := his ▸ hseg0
    obtain ⟨hn, hhn, rfl⟩ := get_of_nx ht
    have hhd := (full_node (hfull0 hd (his ▸ List.mem_cons_self)) hhn).2
    by_cases hle : prio ≤ hn.prio
    · -- new head
      subst his
      refine ⟨_, by simp only [PQ.push, hh, hhn, if_pos hle]; rfl, ?_⟩
      refine hrep_insert (A := []) (B := hd :: rest)
        ⟨rfl, some hd, ?_, seg_congr (fun j hj => ?_) (show Seg _ (some hd) _ none from ⟨rfl, _, ht, hseg'⟩)⟩
        hnd hnew hfull0 hlen hsz0 hpvN (by simp only [Array.size_modify]) (fun _ => by rw [pv_setLinks, pv_setLinks])
        (fun _ h => nomatch h) (fun _ h => by cases h; rw [hhd]; exact hle)
      · rw [nx_setPrev, nx_setNext, if_pos rfl, hnxN]; rfl
      · rw [nx_setPrev, nx_setNext, if_neg (hne j hj).symm]
    · -- behind some node `p` with a smaller priority: the scan looks at the head once more and moves on
      obtain ⟨a, p, b, c, h1, hscan, hsa, hsb, hA, hB⟩ := pushScan_spec _ prio (some hd) rest [] hd _ q.nodes.size
        ⟨rfl, _, ht, rfl⟩ hseg'
        (fun j hj => hfull0 j (his ▸ List.mem_cons_of_mem _ hj)) (Nat.le_of_succ_le (by rw [his] at hsz; exact hsz))
        (fun j hj => by cases List.mem_singleton.mp hj; rw [hhd]; exact Nat.not_le.mp hle)
      rw [show hd :: rest = _ from h1]
      obtain rfl : is = (a ++ [p]) ++ b := his.trans h1
      have hp : p ≠ q.nodes.size := hne p (List.mem_append_left _ (List.mem_append_right _ (List.mem_singleton_self p)))
      cases b with
      | nil =>
        cases hsb
        refine ⟨_, by simp only [PQ.push, hh, hhn, if_neg hle, fuel, pushScan, hscan]; rfl, ?_⟩
        refine hrep_insert (seg_link_after (b := []) hsa rfl hnd hnew (fun j hjp _ => ?_) ?_ ?_) hnd hnew hfull0 hlen
          hsz0 hpvN (by simp only [Array.size_modify]) (fun _ => by rw [pv_setLinks, pv_setLinks]) hA hB
        · rw [nx_setPrev, nx_setNext, if_neg hjp.symm]
        · rw [nx_setPrev, nx_setNext, if_pos rfl]
        · rw [nx_setPrev, nx_setNext, if_neg hp, hnxN]
      | cons j b =>
        obtain ⟨rfl, _⟩ := id hsb
        refine ⟨_, by simp only [PQ.push, hh, hhn, if_neg hle, fuel, pushScan, hscan]; rfl, ?_⟩
        refine hrep_insert (seg_link_after hsa hsb hnd hnew (fun k hkp hkn => ?_) ?_ ?_) hnd hnew hfull0 hlen
          hsz0 hpvN (by simp only [Array.size_modify])
          (fun _ => by rw [pv_setLinks, pv_setLinks, pv_setLinks]) hA hB
        · rw [nx_setPrev, nx_setNext, if_neg hkp.symm, nx_setNext, if_neg hkn.symm]
        · rw [nx_setPrev, nx_setNext, if_pos rfl, nx_setNext, if_neg hp.symm]
        · rw [nx_setPrev, nx_setNext, if_neg hp, nx_setNext, if_pos rfl, hnxN]; rfl

/-- ★ the heap-level queue refines the list-level queue. -/
def heapRefines : Refines heapImpl where
  Rep := HRep
  empty := ⟨[], rfl, List.nodup_nil, (fun i hi => by cases hi), rfl, rfl, Nat.zero_le _⟩
  length := fun h => by obtain ⟨is, _, _, _, hl, hlen, _⟩ := h; subst hl; simpa using hlen
  push := fun p s h => heap_push h p s
  find := fun s h => heap_find h s
  popAt := fun s h => heap_popAt h s
  popAtTs := fun t h => heap_popAtTs h t
  clear := fun h => heap_clear h

/-- the driver's `chain` observable returns exactly the represented chain. -/
theorem walk_spec (ns : Array Node) : ∀ (is : List Nat) (s : Option Nat) (f : Nat),
    Seg ns s is none → is.length ≤ f → walk ns f s = some is
  | [], s, f, hs, _ => by cases hs; cases f <;> rfl
  | i :: is, s, f + 1, ⟨hs, t, ht, hseg⟩, hlen => by
    subst hs
    obtain ⟨n, hn, rfl⟩ := get_of_nx ht
    simp only [walk, hn]
    rw [walk_spec ns is _ f hseg (Nat.le_of_succ_le_succ hlen)]
    rfl

end Interceptor.JitterBuffer
