/-
The specification's byte-level parser applied to the model's marshalled packet returns the packet's chunks,
statuses and deltas (`parse_toWire`): symbol packing as base-`B` digits (`digits_pack`), one word
(`parseWord_word`), the chunk list (`parseChunks_spec`), the deltas (`readDeltas_spec`).  At the end, the size of a
marshalled packet: at most `n/7 + 2` chunks for `n` statuses (`marshalSize_le`), and with the cap on the delta
bytes (fix of F-37) below what a uint16 holds (`marshalSize_fix`).
-/
import Interceptor.Model.TwccWire
import Interceptor.Proofs.TwccDecode
namespace Interceptor.Twcc
open Interceptor.TwccSpec (WChunk parseWord parseChunks readDeltas)

/-- `k` digits of `v` in base `B`, most significant first. -/
def digitsMSB (B : Nat) : Nat → Nat → List Nat
  | 0, _ => []
  | k + 1, v => (v / B ^ k % B) :: digitsMSB B k v

theorem range_map_digits (B v : Nat) (k : Nat) :
    (List.range k).map (fun i => v / B ^ (k - 1 - i) % B) = digitsMSB B k v := by
  induction k with
  | zero => rfl
  | succ k ih =>
    rw [List.range_succ_eq_map, List.map_cons, List.map_map, digitsMSB, ← ih]
    congr 1
    apply List.map_congr_left
    intro i hi
    have : i < k := List.mem_range.mp hi
    simp only [Function.comp]
    congr 3
    omega

/-- digits below position `k` do not see multiples of `B^k`. -/
theorem digits_mod (B : Nat) (hB : 0 < B) (k a r : Nat) (j : Nat) (hj : j ≤ k) :
    digitsMSB B j (a * B ^ k + r) = digitsMSB B j r := by
  induction j with
  | zero => rfl
  | succ j ih =>
    simp only [digitsMSB]
    rw [ih (by omega)]
    congr 1
    have hk : B ^ k = B ^ (k - j - 1) * (B ^ j * B) := by
      rw [← Nat.pow_succ, ← Nat.pow_add]
      congr 1; omega
    have hk2 : a * B ^ k = (a * B ^ (k - j - 1)) * B * B ^ j := by
      rw [hk]; ac_rfl
    have hpos : 0 < B ^ j := Nat.pow_pos hB
    rw [hk2, Nat.add_comm, Nat.add_mul_div_right _ _ hpos, Nat.add_mul_mod_self_right]

theorem digits_zero (B k : Nat) : digitsMSB B k 0 = List.replicate k 0 := by
  induction k with
  | zero => rfl
  | succ k ih => simp [digitsMSB, ih, List.replicate_succ]

theorem packSyms_lt (B : Nat) (hB : 0 < B) (k : Nat) (l : List Sym) : packSyms B k l < B ^ k := by
  induction k generalizing l with
  | zero => simp [packSyms]
  | succ k ih =>
    cases l with
    | nil => simp only [packSyms]; exact Nat.pow_pos hB
    | cons s rest =>
      simp only [packSyms]
      have h1 := ih rest
      have h2 : s.code % B < B := Nat.mod_lt _ hB
      have h3 : (s.code % B) * B ^ k + packSyms B k rest < (s.code % B + 1) * B ^ k := by
        rw [Nat.add_mul, Nat.one_mul]; omega
      have h4 : (s.code % B + 1) * B ^ k ≤ B * B ^ k := Nat.mul_le_mul_right _ (by omega)
      rw [Nat.pow_succ, Nat.mul_comm (B ^ k) B]
      omega

/-- the digits of a packed status vector: the symbols' codes (truncated to the slot), then zeros. -/
theorem digits_pack (B : Nat) (hB : 0 < B) (k : Nat) (l : List Sym) (hl : l.length ≤ k) :
    digitsMSB B k (packSyms B k l) = l.map (fun s => s.code % B) ++ List.replicate (k - l.length) 0 := by
  induction k generalizing l with
  | zero =>
    have : l = [] := List.length_eq_zero_iff.mp (by omega)
    subst this; rfl
  | succ k ih =>
    cases l with
    | nil => simp only [packSyms, digits_zero]; simp
    | cons s rest =>
      simp only [packSyms, digitsMSB, List.map_cons, List.length_cons, List.cons_append]
      have hlt := packSyms_lt B hB k rest
      have hpos : 0 < B ^ k := Nat.pow_pos hB
      congr 1
      · rw [Nat.add_comm, Nat.add_mul_div_right _ _ hpos, Nat.div_eq_of_lt hlt, Nat.zero_add,
          Nat.mod_mod]
      · rw [digits_mod B hB k _ _ k (Nat.le_refl _), ih rest (by simpa using hl)]
        congr 2; omega

/-- the chunk as the specification's parser sees it (vectors always 14 / 7 symbols). -/
def Chunk.toW : Chunk → WChunk
  | .run s n => .run s.code n
  | .vec1 l => .vec false (l.map Sym.code ++ List.replicate (14 - l.length) 0)
  | .vec2 l => .vec true (l.map Sym.code ++ List.replicate (7 - l.length) 0)

theorem Chunk.toW_expand (c : Chunk) : c.toW.expand = c.decode.map Sym.code := by
  cases c <;> simp [Chunk.toW, WChunk.expand, Chunk.decode, Sym.code]

theorem code_lt_4 (s : Sym) : s.code < 4 := by cases s <;> simp [Sym.code]

theorem parseWord_run (s n : Nat) (hs : s < 4) (hn : n < 8192) :
    parseWord (s * 8192 + n) = .run s n := by
  unfold parseWord
  rw [if_pos (by omega)]
  congr 1 <;> omega

theorem parseWord_vec1 (p : Nat) (hp : p < 16384) :
    parseWord (32768 + p) = .vec false (digitsMSB 2 14 p) := by
  unfold parseWord
  rw [if_neg (by omega), if_pos (by omega)]
  exact congrArg _ ((range_map_digits 2 _ 14).trans (digits_mod 2 (by decide) 14 2 p 14 (Nat.le_refl _)))

theorem parseWord_vec2 (p : Nat) (hp : p < 16384) :
    parseWord (32768 + 16384 + p) = .vec true (digitsMSB 4 7 p) := by
  unfold parseWord
  rw [if_neg (by omega), if_neg (by omega)]
  exact congrArg _ ((range_map_digits 4 _ 7).trans (digits_mod 4 (by decide) 7 3 p 7 (Nat.le_refl _)))

theorem parseWord_word (c : Chunk) (h : c.wf) : parseWord c.word = c.toW := by
  cases c with
  | run s n =>
    have hn : n % 8192 = n := Nat.mod_eq_of_lt (by have := h.2; omega)
    rw [Chunk.word, hn, parseWord_run _ _ (code_lt_4 s) (by omega)]; rfl
  | vec1 l =>
    -- no large delta among the fourteen symbols: every code fits one bit
    rw [Chunk.word, parseWord_vec1 _ (packSyms_lt 2 (by decide) 14 l),
      digits_pack 2 (by decide) 14 l (by rw [h.1]; exact Nat.le_refl _)]
    congr 2
    apply List.map_congr_left
    intro s hs
    have := h.2 s hs
    cases s <;> simp_all [Sym.code]
  | vec2 l =>
    rw [Chunk.word, parseWord_vec2 _ (packSyms_lt 4 (by decide) 7 l), digits_pack 4 (by decide) 7 l h.2]
    congr 2
    exact List.map_congr_left fun s _ => Nat.mod_eq_of_lt (code_lt_4 s)

/-- expanding the chunks as the specification's parser sees them gives the codes of the decoded
statuses. -/
theorem expand_toW (cs : List Chunk) :
    (cs.map Chunk.toW).flatMap WChunk.expand = (decodeChunks cs).map Sym.code := by
  unfold decodeChunks
  induction cs with
  | nil => rfl
  | cons c cs ih => simp only [List.map_cons, List.flatMap_cons, List.map_append, ih, Chunk.toW_expand]

theorem expand_word (cs : List Chunk) (hwf : ∀ c ∈ cs, c.wf) :
    cs.flatMap (fun c => (parseWord c.word).expand) = (decodeChunks cs).map Sym.code := by
  rw [← expand_toW, List.flatMap_map]
  induction cs with
  | nil => rfl
  | cons c cs ih =>
    simp only [List.flatMap_cons]
    rw [parseWord_word c (hwf c (by simp)), ih (fun d hd => hwf d (by simp [hd]))]

/-- the chunk list covers exactly `n` statuses: every chunk is needed, the last one reaches `n`. -/
def Exact : Nat → List Chunk → Prop
  | n, [] => n = 0
  | n, c :: rest => 0 < n ∧ Exact (n - c.decode.length) rest

theorem decode_length_ge (c : Chunk) : c.syms.length ≤ c.decode.length := by
  obtain ⟨k, hk⟩ := Chunk.decode_eq c
  rw [hk]; simp

theorem tight_exact (cs : List Chunk) (h : Tight cs) : Exact (cs.flatMap Chunk.syms).length cs := by
  induction cs with
  | nil => simp [Exact]
  | cons c rest ih =>
    cases rest with
    | nil =>
      have hp := wf_syms_pos (c := c) h
      have hg := decode_length_ge c
      simp only [List.flatMap_cons, List.flatMap_nil, List.append_nil, Exact]
      exact ⟨hp, by omega⟩
    | cons d rest =>
      obtain ⟨hf, ht⟩ := h
      have hp := wf_syms_pos (Chunk.full_wf hf)
      have hd := Chunk.decode_of_full hf
      have := ih ht
      simp only [List.flatMap_cons, List.length_append] at this ⊢
      refine ⟨by omega, ?_⟩
      rw [hd]
      have e : c.syms.length + ((d.syms).length + (List.flatMap Chunk.syms rest).length) - c.syms.length
          = (d.syms).length + (List.flatMap Chunk.syms rest).length := by omega
      rw [e]; exact this

/-- the two bytes of every chunk word. -/
def chunkBytes (cs : List Chunk) : List Nat := cs.flatMap fun c => [c.word / 256, c.word % 256]

theorem parseChunks_spec (cs : List Chunk) (n : Nat) (hex : Exact n cs) (hwf : ∀ c ∈ cs, c.wf)
    (tail : List Nat) (acc : List WChunk) (fuel : Nat) (hfuel : cs.length < fuel) :
    parseChunks fuel n (chunkBytes cs ++ tail) acc = some (acc.reverse ++ cs.map Chunk.toW, tail) := by
  induction cs generalizing n acc fuel with
  | nil =>
    cases fuel with
    | zero => omega
    | succ fuel =>
      simp only [Exact] at hex
      simp [parseChunks, hex, chunkBytes]
  | cons c rest ih =>
    cases fuel with
    | zero => omega
    | succ fuel =>
      obtain ⟨hpos, hrest⟩ := hex
      have hw : c.word / 256 * 256 + c.word % 256 = c.word := by omega
      have hpw := parseWord_word c (hwf c (by simp))
      have hlen : c.toW.expand.length = c.decode.length := by rw [Chunk.toW_expand]; simp
      have hne : c.toW.expand.length ≠ 0 := by
        have := wf_syms_pos (hwf c (by simp)); have := decode_length_ge c; omega
      simp only [chunkBytes, List.flatMap_cons, List.cons_append, List.nil_append, parseChunks]
      have hn0 : ¬ n = 0 := by omega
      simp only [hn0, if_false, hw, hpw, hne]
      rw [hlen]
      have := ih (n - c.decode.length) hrest (fun d hd => hwf d (by simp [hd])) (c.toW :: acc) fuel
        (by simp at hfuel; omega)
      simp only [chunkBytes] at this
      rw [this]
      simp

theorem readDeltas_recv {s : Sym} {q : Int}
    (hs : (s = Sym.small ∧ 0 ≤ q ∧ q ≤ 255) ∨ (s = Sym.large ∧ -32768 ≤ q ∧ q ≤ 32767))
    (ss bytes : List Nat) :
    readDeltas (s.code :: ss) (deltaBytes (s, q * 250) ++ bytes) =
      (readDeltas ss bytes).map ((s.code, some q) :: ·) := by
  have e1 : (q * 250).tdiv 250 = q := Int.mul_tdiv_cancel _ (by decide)
  rcases hs with ⟨rfl, h0, h1⟩ | ⟨rfl, h0, h1⟩
  · have : (((q % 256).toNat : Nat) : Int) = q := by omega
    simp only [Sym.code, deltaBytes, e1, List.cons_append, List.nil_append, readDeltas, this]
  · -- two bytes, big endian two's complement
    have hv : (q % 65536).toNat / 256 * 256 + (q % 65536).toNat % 256 = (q % 65536).toNat := by omega
    have : (if (q % 65536).toNat ≥ 32768 then (((q % 65536).toNat : Nat) : Int) - 65536
        else ((q % 65536).toNat : Nat)) = q := by split <;> omega
    simp only [Sym.code, deltaBytes, e1, List.cons_append, List.nil_append, readDeltas, hv, this]

theorem readDeltas_spec (syms : List Sym) (ds : List (Sym × Int)) (tail : List Nat)
    (hk : ds.map (·.1) = syms.filter (fun s => decide (s ≠ Sym.nr)))
    (hr : ∀ d ∈ ds, ∃ q : Int, d.2 = q * 250 ∧
      ((d.1 = Sym.small ∧ 0 ≤ q ∧ q ≤ 255) ∨ (d.1 = Sym.large ∧ -32768 ≤ q ∧ q ≤ 32767))) :
    readDeltas (syms.map Sym.code) (ds.flatMap deltaBytes ++ tail) = some (pair syms ds) := by
  induction syms generalizing ds with
  | nil => simp [readDeltas, pair]
  | cons s syms ih =>
    cases s with
    | nr =>
      simp only [List.map_cons, Sym.code, readDeltas, pair]
      rw [ih ds (by simpa using hk) hr]; rfl
    | small | large =>
      cases ds with
      | nil => simp at hk
      | cons d ds =>
        obtain ⟨k, v⟩ := d
        simp only [List.filter_cons, List.map_cons] at hk
        rw [if_pos (by decide)] at hk
        obtain ⟨rfl, hk2⟩ := List.cons.inj hk
        obtain ⟨q, rfl, hq⟩ := hr _ List.mem_cons_self
        rw [List.map_cons, List.flatMap_cons, List.append_assoc, readDeltas_recv hq,
          ih ds hk2 (fun d hd => hr d (List.mem_cons_of_mem _ hd))]
        simp only [pair, Int.mul_ediv_cancel _ (show (250 : Int) ≠ 0 by decide), Option.map_some]

theorem chunkBytes_length (cs : List Chunk) : (chunkBytes cs).length = 2 * cs.length := by
  induction cs with
  | nil => rfl
  | cons c cs ih => simp only [chunkBytes, List.flatMap_cons, List.length_append, List.length_cons,
      List.length_nil] at ih ⊢; omega

theorem body_split (p : Packet) :
    ∃ tail, p.body = chunkBytes p.chunks ++ (p.deltas.flatMap deltaBytes ++ tail) := by
  unfold Packet.body chunkBytes
  simp only []
  split
  · exact ⟨[], by simp⟩
  · exact ⟨_, by simp only [List.append_assoc]; rfl⟩

/-- the specification's parser, applied to the bytes of the model's packet, finds the packet's
chunks and pairs every received status with its delta. -/
theorem parse_toWire {f : Feedback} {syms : List Sym} (h : FbInv f syms) (hc : f.count < 65536) :
    TwccSpec.parse f.getRTCP.toWire =
      some ⟨f.getRTCP.chunks.map Chunk.toW, pair syms f.deltas.toList⟩ := by
  obtain ⟨ht, hs⟩ := getRTCP_tight h
  obtain ⟨_, ⟨pad, hdec⟩, hd, hcnt⟩ := getRTCP_spec h
  have hlen : syms.length % 65536 = syms.length := by rw [← h.count]; omega
  have hex : Exact f.getRTCP.count f.getRTCP.chunks := by
    rw [hcnt, hlen, ← hs]; exact tight_exact _ ht
  obtain ⟨tail, hb⟩ := body_split f.getRTCP
  unfold TwccSpec.parse
  simp only [Packet.toWire, hb]
  rw [parseChunks_spec _ _ hex (tight_wf _ ht) _ [] _
    (by simp only [List.length_append, chunkBytes_length]; omega)]
  simp only [List.reverse_nil, List.nil_append]
  have hst : ((f.getRTCP.chunks.map Chunk.toW).flatMap WChunk.expand).take f.getRTCP.count
      = syms.map Sym.code := by
    rw [expand_toW, hdec, hcnt, hlen, List.map_append, List.take_left' (by simp)]
  rw [hst, hd, readDeltas_spec syms f.deltas.toList tail h.kinds h.range]

theorem syms_length_ge (k : Nat) (cs : List Chunk) (h : ∀ c ∈ cs, k ≤ c.syms.length) :
    k * cs.length ≤ (cs.flatMap Chunk.syms).length := by
  induction cs with
  | nil => simp
  | cons c cs ih =>
    have := h c (by simp)
    have := ih (fun d hd => h d (by simp [hd]))
    simp only [List.length_cons, List.flatMap_cons, List.length_append, Nat.mul_add]
    omega

/-- padding adds at most three bytes to headers, chunk words and deltas. -/
theorem Packet.marshalSize_le_pad (p : Packet) :
    p.marshalSize ≤ 20 + 2 * p.chunks.length + (p.deltas.map deltaSize).sum + 3 := by
  unfold Packet.marshalSize
  simp only []
  split <;> omega

/-- size bound: a packet with `n` statuses has at most `n` chunks and `n` deltas. -/
theorem marshalSize_le {f : Feedback} {syms : List Sym} (h : FbInv f syms) :
    f.getRTCP.marshalSize ≤ 23 + 4 * syms.length := by
  obtain ⟨ht, hs⟩ := getRTCP_tight h
  have hch := syms_length_ge 1 _ fun c hc => wf_syms_pos (tight_wf _ ht c hc)
  rw [hs] at hch
  have hds : (f.getRTCP.deltas.map deltaSize).sum ≤ 2 * f.getRTCP.deltas.length := by
    induction f.getRTCP.deltas with
    | nil => simp
    | cons d ds ih =>
      have := deltaSize_le d
      simp only [List.map_cons, List.sum_cons, List.length_cons]; omega
  have h2 : f.getRTCP.deltas.length ≤ syms.length := h.deltas_length ▸ List.length_filter_le _ _
  have := f.getRTCP.marshalSize_le_pad
  omega

/-- with the cap on the delta bytes (the fix of F-37) a packet of `n` statuses needs at most
`n/7 + 2` chunks and `maxDeltaBytes + 1` bytes of deltas. -/
theorem marshalSize_fix {f : Feedback} {syms : List Sym} (hi : FbInv f syms) (hb : FbBig f)
    (hl : f.len ≤ maxDeltaBytes + 1) :
    f.getRTCP.marshalSize ≤ 20 + 2 * (syms.length / 7 + 2) + (maxDeltaBytes + 1) + 3 := by
  have hfl := flush_size (f.last.deltas.size + 1) f.last f.chunks hi.pack.inv (by simp)
  have hch : f.getRTCP.chunks.length = (flushChunks (f.last.deltas.size + 1) f.last f.chunks).size :=
    Array.length_toList
  have h7 := syms_length_ge 7 f.chunks.toList hb
  have hc : (f.chunks.toList.flatMap Chunk.syms).length + f.last.deltas.toList.length = syms.length := by
    rw [← List.length_append]; exact congrArg List.length hi.pack.content
  rw [Array.length_toList] at h7
  have hds : (f.getRTCP.deltas.map deltaSize).sum = f.len := hi.len.symm
  have := f.getRTCP.marshalSize_le_pad
  omega

end Interceptor.Twcc
