/-
What the responder's operations leave alone: clearing touches only `streams` and leaves the
stream's ring empty; no operation touches `pending`, and none resets `closed`.
-/
import Interceptor.Proofs.Responder
namespace Interceptor.RtpBuffer
open Interceptor

theorem clearList_frame (l : List (Nat × Nat)) (r : Resp) :
    ∃ ss, l.foldl (fun r e => clearStream r e.2) r = { r with streams := ss } := by
  induction l generalizing r with
  | nil => exact ⟨_, rfl⟩
  | cons e l ih =>
    obtain ⟨ss, h⟩ := clearStream_frame r e.2
    rw [List.foldl_cons, h]
    exact ih _

theorem close_frame (r : Resp) :
    ∃ ss, r.close = { r with streams := ss, bound := [], closed := true,
                             closeWaiting := r.closeWaiting || r.pending.isSome } :=
  clearList_frame r.bound _

theorem clearStream_bound (r : Resp) (w : Nat) : (clearStream r w).bound = r.bound := by
  obtain ⟨ss, h⟩ := clearStream_frame r w
  rw [h]

theorem close_closed (r : Resp) : r.close.closed = true := by
  obtain ⟨ss, h⟩ := close_frame r
  rw [h]

theorem close_pending (r : Resp) : r.close.pending = r.pending := by
  obtain ⟨ss, h⟩ := close_frame r
  rw [h]

theorem close_closeWaiting (r : Resp) : r.close.closeWaiting = (r.closeWaiting || r.pending.isSome) := by
  obtain ⟨ss, h⟩ := close_frame r
  rw [h]

/-- no operation touches the resend in flight, and none reopens a closed responder. -/
theorem applyOp_frame (r : Resp) (op : Op) :
    (applyOp r op).pending = r.pending ∧ (r.closed = true → (applyOp r op).closed = true) := by
  cases op with
  | bind a b c fb =>
    simp only [applyOp]
    unfold Resp.bind
    split <;> exact ⟨rfl, fun h => h⟩
  | write w hd pl =>
    simp only [applyOp]
    unfold Resp.write
    repeat' split
    all_goals exact ⟨rfl, fun h => h⟩
  | unbind s =>
    simp only [applyOp]
    unfold Resp.unbind
    split
    · exact ⟨rfl, fun h => h⟩
    · obtain ⟨ss, h⟩ := clearStream_frame { r with bound := r.bound.filter (·.1 ≠ s) } ‹Nat›
      rw [h]
      exact ⟨rfl, fun h => h⟩
  | close => exact ⟨close_pending r, fun _ => close_closed r⟩

theorem runOps_frame (r : Resp) (sp : Specs) (ops : List Op) :
    (runOps r sp ops).1.pending = r.pending ∧ (r.closed = true → (runOps r sp ops).1.closed = true) := by
  induction ops generalizing r sp with
  | nil => exact ⟨rfl, fun h => h⟩
  | cons op ops ih =>
    have h1 := applyOp_frame r op
    have h2 := ih (applyOp r op) (applySpec r sp op)
    exact ⟨h2.1.trans h1.1, fun h => h2.2 (h1.2 h)⟩

/-- stream `w` (if it has a ring) has an all-empty ring. -/
def AllEmpty (r : Resp) (w : Nat) : Prop :=
  ∀ st b, r.streams[w]? = some st → st.buf = some b → ∀ i, slot b.slots i = none

theorem clearStream_allEmpty_self (r : Resp) (w : Nat) : AllEmpty (clearStream r w) w := by
  intro st b hs hb i
  rw [clearStream_streams] at hs
  simp only [if_true] at hs
  cases h0 : r.streams[w]? with
  | none => rw [h0] at hs; cases hs
  | some st0 =>
    rw [h0] at hs
    simp only [Option.map_some, Option.some.injEq] at hs
    cases hb0 : st0.buf with
    | none => rw [hb0] at hs; subst hs; rw [hb0] at hb; cases hb
    | some b0 =>
      rw [hb0] at hs
      subst hs
      simp only [Option.some.injEq] at hb
      subst hb
      simp [clear, slot_replicate]

theorem clearStream_allEmpty_keep (r : Resp) (w v : Nat) (h : AllEmpty r v) : AllEmpty (clearStream r w) v := by
  by_cases e : v = w
  · subst e; exact clearStream_allEmpty_self r v
  · intro st b hs hb i
    rw [clearStream_streams] at hs
    simp only [e, if_false] at hs
    exact h st b hs hb i

theorem clearList_allEmpty (l : List (Nat × Nat)) (r : Resp) (v : Nat)
    (h : (∃ e ∈ l, e.2 = v) ∨ AllEmpty r v) :
    AllEmpty (l.foldl (fun r e => clearStream r e.2) r) v := by
  induction l generalizing r with
  | nil =>
    rcases h with ⟨e, he, _⟩ | h
    · cases he
    · exact h
  | cons e l ih =>
    simp only [List.foldl_cons]
    apply ih
    rcases h with ⟨e', he', hv⟩ | h
    · simp only [List.mem_cons] at he'
      rcases he' with rfl | he'
      · right; rw [← hv]; exact clearStream_allEmpty_self r _
      · left; exact ⟨e', he', hv⟩
    · right; exact clearStream_allEmpty_keep r e.2 v h

theorem lookupBound_filter_self (l : List (Nat × Nat)) (ssrc : Nat) :
    lookupBound (l.filter (·.1 ≠ ssrc)) ssrc = none := by
  unfold lookupBound
  have : (l.filter (·.1 ≠ ssrc)).find? (·.1 = ssrc) = none := by
    apply List.find?_eq_none.2
    intro x hx
    simp only [List.mem_filter, decide_eq_true_eq] at hx
    simpa using hx.2
  rw [this]; rfl

theorem nack_unbound (r : Resp) (ssrc : Nat) (pairs : List (Nat × Nat))
    (h : lookupBound r.bound ssrc = none) : r.nack ssrc pairs = (r, []) := by
  unfold Resp.nack; rw [h]; split <;> rfl

theorem nack_closed (r : Resp) (ssrc : Nat) (pairs : List (Nat × Nat))
    (h : r.closed = true) : r.nack ssrc pairs = (r, []) := by
  unfold Resp.nack; rw [if_pos h]

theorem resume_closed (r : Resp) : r.resume.1.closed = r.closed := by
  unfold Resp.resume; split <;> rfl

theorem resume_pending (r : Resp) : r.resume.1.pending = none := by
  unfold Resp.resume; split
  · rename_i h; simp only [h]
  · rfl

theorem resume_idle (r : Resp) (h : r.pending = none) : r.resume.2 = [] := by
  unfold Resp.resume; rw [h]

end Interceptor.RtpBuffer
