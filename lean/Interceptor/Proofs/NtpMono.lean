/-
The stages of `ToNTP` in the exact binary64 model.  `s` (seconds since 1900) is monotone in the
instant and within 486 ns of it (`sOf_close`: three roundings), hence in `[2^31, 2^32)` up to `maxNs`
and on the `2^-21` grid, so that everything after it is exact: `ToNTP t` is
`⌊s⌋·2^32 + ⌊(s − ⌊s⌋)·(2^32 − 1)⌋` (`toNTP_struct`).
-/
import Interceptor.Proofs.F64Mono
import Interceptor.Model.Ntp
namespace Interceptor.Ntp
open Interceptor.F64

/-- the last instant of NTP era 0 that is kept clear of the 2^32-second boundary:
2036-02-07 06:28:15 UTC, in Unix nanoseconds. -/
def maxNs : Int := 2085978495 * 1000000000

/-- `s` of `ToNTP`: seconds since 1900 as a binary64 value. -/
def sOf (ns : Int) : ℚ := add (div (ofInt ns) 1000000000) 2208988800

/-- the fractional-part expression of `ToNTP` for a given integer part. -/
def fracOf (s : ℚ) (ip : Nat) : ℚ := mul (sub s (ofInt ip)) 4294967295

theorem toNTP_eq (ns : Int) :
    toNTP ns = toUint32 (sOf ns) * 4294967296 + toUint32 (fracOf (sOf ns) (toUint32 (sOf ns))) := rfl

theorem ofInt_nonneg (ns : Int) (h0 : 0 ≤ ns) : 0 ≤ ofInt ns := rne_nonneg _ (by exact_mod_cast h0)

theorem ofInt_mono (a b : Int) (h0 : 0 ≤ a) (h : a ≤ b) : ofInt a ≤ ofInt b :=
  rne_mono _ _ (by exact_mod_cast h0) (by exact_mod_cast h)

theorem secs_nonneg (ns : Int) (h0 : 0 ≤ ns) : 0 ≤ div (ofInt ns) 1000000000 := by
  unfold div; exact rne_nonneg _ (div_nonneg (ofInt_nonneg ns h0) (by norm_num))

theorem secs_mono (a b : Int) (h0 : 0 ≤ a) (h : a ≤ b) :
    div (ofInt a) 1000000000 ≤ div (ofInt b) 1000000000 := by
  unfold div
  exact rne_mono _ _ (div_nonneg (ofInt_nonneg a h0) (by norm_num))
    (div_le_div_of_nonneg_right (ofInt_mono a b h0 h) (by norm_num))

theorem sOf_mono (a b : Int) (h0 : 0 ≤ a) (h : a ≤ b) : sOf a ≤ sOf b := by
  unfold sOf add
  exact rne_mono _ _ (by have := secs_nonneg a h0; linarith) (by have := secs_mono a b h0 h; linarith)

theorem ofInt_err (ns : Int) (h0 : 0 ≤ ns) (h : ns ≤ maxNs) :
    ofInt ns ≤ (ns : ℚ) + 128 ∧ (ns : ℚ) - 128 ≤ ofInt ns := by
  unfold ofInt
  have hns : (ns : ℚ) ≤ 2085978495 * 1000000000 := by exact_mod_cast h
  exact rne_err pow2_7 (by decide) (ns : ℚ) (by exact_mod_cast h0) (by linarith only [hns])

theorem secs_err (ns : Int) (h0 : 0 ≤ ns) (h : ns ≤ maxNs) :
    div (ofInt ns) 1000000000 ≤ ofInt ns / 1000000000 + 1 / 8388608 ∧
    ofInt ns / 1000000000 - 1 / 8388608 ≤ div (ofInt ns) 1000000000 := by
  unfold div
  have hx : ofInt ns ≤ 2085978495 * 1000000000 + 128 := by
    have : (ns : ℚ) ≤ 2085978495 * 1000000000 := by exact_mod_cast h
    linarith only [this, (ofInt_err ns h0 h).1]
  exact rne_err pow2_m23 (by decide) (ofInt ns / 1000000000)
    (div_nonneg (ofInt_nonneg ns h0) (by norm_num)) (by rw [div_lt_iff₀ (by norm_num)]; linarith only [hx])

theorem sOf_err (ns : Int) (h0 : 0 ≤ ns) (h : ns ≤ maxNs) :
    sOf ns ≤ div (ofInt ns) 1000000000 + 2208988800 + 1 / 4194304 ∧
    div (ofInt ns) 1000000000 + 2208988800 - 1 / 4194304 ≤ sOf ns := by
  unfold sOf add
  have h1 := secs_nonneg ns h0
  have h2 : div (ofInt ns) 1000000000 ≤ 2085978495 + 1 / 2 := by
    have : (ns : ℚ) ≤ 2085978495 * 1000000000 := by exact_mod_cast h
    linarith only [this, (ofInt_err ns h0 h).1, (secs_err ns h0 h).1]
  exact rne_err pow2_m22 (by decide) (div (ofInt ns) 1000000000 + 2208988800) (by linarith only [h1])
    (by linarith only [h2])

/-- ★ `s` (seconds since 1900 as computed by `ToNTP`) is within 486 ns of the instant: 128 ns (`ofInt_err`) +
2^-23 s = 119.3 ns (`secs_err`) + 2^-22 s = 238.5 ns (`sOf_err`). -/
theorem sOf_close (ns : Int) (h0 : 0 ≤ ns) (h : ns ≤ maxNs) :
    sOf ns * 1000000000 ≤ (ns : ℚ) + 2208988800 * 1000000000 + 486 ∧
    (ns : ℚ) + 2208988800 * 1000000000 - 486 ≤ sOf ns * 1000000000 := by
  obtain ⟨a1, a2⟩ := ofInt_err ns h0 h
  obtain ⟨b1, b2⟩ := secs_err ns h0 h
  obtain ⟨c1, c2⟩ := sOf_err ns h0 h
  exact ⟨by linarith only [a1, b1, c1], by linarith only [a2, b2, c2]⟩

/-- `s` stays in `[2^31, 2^32)`: the instant is at most `maxNs`, one second short of 2^32 seconds. -/
theorem sOf_range (ns : Int) (h0 : 0 ≤ ns) (h : ns ≤ maxNs) :
    2147483648 ≤ sOf ns ∧ sOf ns < 4294967296 := by
  obtain ⟨c1, c2⟩ := sOf_close ns h0 h
  have hn0 : (0 : ℚ) ≤ ns := by exact_mod_cast h0
  have hn : (ns : ℚ) ≤ 2085978495 * 1000000000 := by exact_mod_cast h
  exact ⟨by linarith only [c2, hn0], by linarith only [c1, hn]⟩

theorem floor_bracket (n : Nat) (x : ℚ) (h : (n : Int) = x.floor) : (n : ℚ) ≤ x ∧ x - 1 < (n : ℚ) := by
  have e : (n : ℚ) = ((x.floor : Int) : ℚ) := by rw [← h, Int.cast_natCast]
  rw [e]
  have := Rat.lt_floor_add_one x
  rw [Int.cast_add, Int.cast_one] at this
  exact ⟨Rat.floor_le x, sub_lt_iff_lt_add.mpr this⟩

/-- `s` lies in `[2^31, 2^32)`, hence on the `2^-21` grid. -/
theorem sOf_multiple (ns : Int) (h0 : 0 ≤ ns) : ∃ z : Int, sOf ns = (z : ℚ) * (1 / 2097152) := by
  unfold sOf add
  have h1 := secs_nonneg ns h0
  exact rne_multiple pow2_m21 _ (by linarith only [h1])

/-- for `ip ≤ s < ip+1` on the `2^-21` grid, the fraction expression is computed exactly. -/
theorem fracOf_exact (s : ℚ) (z : Int) (ip : Nat) (hz : s = (z : ℚ) * (1 / 2097152))
    (hip : (ip : ℚ) ≤ s) (hlt : s < (ip : ℚ) + 1) (hipr : ip < 4294967296) :
    fracOf s ip = (s - (ip : ℚ)) * 4294967295 := by
  have hofi : ofInt (ip : Int) = (ip : ℚ) := ofInt_natCast ip (by omega)
  have hd0 : 0 ≤ s - (ip : ℚ) := sub_nonneg.mpr hip
  have hd1 : s - (ip : ℚ) < 1 := sub_lt_iff_lt_add'.mpr hlt
  unfold fracOf mul sub
  rw [hofi, rne_exact pow2_m21 (by decide) (s - ip) (z - (ip : Int) * 2097152) hd0 (by linarith only [hd1])
    (by rw [hz]; push_cast; ring)]
  exact rne_exact pow2_m21 (by decide) _ ((z - (ip : Int) * 2097152) * 4294967295)
    (mul_nonneg hd0 (by norm_num)) (by linarith only [hd1]) (by rw [hz]; push_cast; ring)

/-- ★ `ToNTP t = ip·2^32 + fp` with `ip = ⌊s⌋` and `fp = ⌊(s − ip)·(2^32 − 1)⌋`, all float
operations after `s` being exact. -/
theorem toNTP_struct (t : Int) (h0 : 0 ≤ t) (h : t ≤ maxNs) :
    ∃ ip fp : Nat, toNTP t = ip * 4294967296 + fp ∧ fp < 4294967296 ∧
      (ip : Int) = (sOf t).floor ∧ (fp : Int) = ((sOf t - (ip : ℚ)) * 4294967295).floor := by
  obtain ⟨hs1, hs2⟩ := sOf_range t h0 h
  obtain ⟨z, hz⟩ := sOf_multiple t h0
  have hip := toUint32_of_range (sOf t) (by linarith only [hs1]) (by linarith only [hs2])
  obtain ⟨b1, b2⟩ := floor_bracket _ _ hip
  refine ⟨toUint32 (sOf t), toUint32 (fracOf (sOf t) (toUint32 (sOf t))), toNTP_eq t, toUint32_lt _,
    hip, ?_⟩
  rw [fracOf_exact (sOf t) z _ hz b1 (by linarith only [b2]) (toUint32_lt _)]
  generalize toUint32 (sOf t) = ip at b1 b2
  exact toUint32_of_range _ (mul_nonneg (sub_nonneg.mpr b1) (by norm_num)) (by linarith only [b2])

end Interceptor.Ntp
