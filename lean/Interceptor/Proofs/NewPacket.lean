/-
`PacketFactoryCopy.NewPacket` on every input: refused above 1460 bytes, a plain copy without RTX,
and with RTX the RFC 4588 form or the padding-overflow error.
-/
import Interceptor.Model.RtpBuffer
import Interceptor.Spec.Rtx
namespace Interceptor.RtpBuffer
open Interceptor

theorem getLastD_append_ne {a b : List Nat} (hb : b ≠ []) : (a ++ b).getLastD 0 = b.getLastD 0 := by
  cases b with
  | nil => exact absurd rfl hb
  | cons x xs => simp [List.getLastD_eq_getLast?, List.getLast?_append, List.getLast?_cons]

theorem newPacket_long (h : Hdr) (pl : List Nat) (rs rp k : Nat) (hlen : pl.length > 1460) :
    newPacket h pl rs rp k = (.error .short, false) := by
  unfold newPacket maxPayloadLen; rw [if_pos hlen]

theorem newPacket_copy (h : Hdr) (pl : List Nat) (rs rp k : Nat) (hoff : rtxOn rs rp = false)
    (hlen : pl.length ≤ 1460) :
    newPacket h pl rs rp k = (.ok { seq := h.seq, hdr := h, payload := pl }, false) := by
  unfold newPacket maxPayloadLen
  rw [if_neg (Nat.not_lt.2 hlen), hoff]; rfl

/-- `NewPacket` with RTX negotiated, on every payload it accepts: the RFC 4588 form unless the
legacy padding count exceeds the payload. -/
theorem newPacket_rtx (h : Hdr) (pl : List Nat) (rs rp k : Nat) (hon : rtxOn rs rp = true)
    (hlen : pl.length ≤ 1460) :
    newPacket h pl rs rp k =
      if h.padding = true ∧ h.paddingSize = 0 ∧ pl.getLastD 0 > pl.length then (.error .padding, true)
      else (.ok (rtxForm h pl rs rp k), true) := by
  unfold newPacket rtxForm dropPadding
  have h1 : ¬ pl.length > maxPayloadLen := Nat.not_lt.2 hlen
  simp only [h1, if_false, hon, if_true]
  have hlen2 : (be16 h.seq ++ pl).length = pl.length + 2 := by simp [be16]
  by_cases hp : h.padding = true
  · by_cases hps : h.paddingSize = 0
    · by_cases hne : pl = []
      · subst hne
        simp [hp, hps, be16]
      · -- the count is read behind the prefix, so it is the payload's own last byte
        have hl : (be16 h.seq ++ pl).getLastD 0 = pl.getLastD 0 := getLastD_append_ne hne
        have hpos : pl.length > 0 := List.length_pos_iff.2 hne
        have h2 : pl.length + 2 > 2 := by omega
        simp only [hp, hps, hl, hlen2, h2, Nat.add_sub_cancel, true_and, and_self, if_true]
        split
        · rfl
        · rename_i hover
          have ht : List.take (pl.length + 2 - pl.getLastD 0) (be16 h.seq ++ pl)
                  = be16 h.seq ++ List.take (pl.length - pl.getLastD 0) pl := by
            rw [List.take_append]
            have : (be16 h.seq).length = 2 := rfl
            rw [this, List.take_of_length_le (by rw [this]; omega)]
            congr 2; omega
          rw [ht]
    · simp [hp, hps]
  · have hp' : h.padding = false := by simpa using hp
    simp [hp']

/-- whatever is stored keeps the original sequence number as its ring key. -/
theorem newPacket_seq {h : Hdr} {pl : List Nat} {rs rp k : Nat} {p : Pkt}
    (e : (newPacket h pl rs rp k).1 = .ok p) : p.seq = h.seq := by
  by_cases hlen : pl.length ≤ 1460
  · cases hon : rtxOn rs rp
    · rw [newPacket_copy h pl rs rp k hon hlen] at e
      cases e; rfl
    · rw [newPacket_rtx h pl rs rp k hon hlen] at e
      split at e
      · cases e
      · cases e; rfl
  · rw [newPacket_long h pl rs rp k (Nat.lt_of_not_le hlen)] at e
    cases e

end Interceptor.RtpBuffer
