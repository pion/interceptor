/-
The generated translations of pkg/twcc/arrival_time_map.go (Gen/Fn_twcc.lean, regenerated from /repo on
every run) — capacity, index, get, HasReceived, setNotReceived, reallocate, adjustToSize, AddPacket,
RemoveOldPackets, FindNextAtOrAfter, EraseTo (Clamp is in Facts/FnTwcc.lean) — compute exactly what the
hand-written model `Interceptor.Twcc.ArrivalMap` (Model/Twcc.lean) computes.

* abstraction `Rel g m`: `arrivalTimes = buf.toList`, begin/end equal (`conc m` is the Go struct of `m`).
* bit level: `band_mask` — `sn & (2^k−1)` is the Euclidean remainder for every (also negative) `sn`.
* invariant `Inv g`: −2^62 < begin ≤ end ≤ 2^62, end − begin ≤ capacity, capacity = 0 or a power of two in
  [128, 32768]; established by the zero value (`inv_init`), the power-of-two capacity by the first
  `AddPacket`; preserved by every mutator (`*_preserves_inv`, and the `Inv g'` conjunct of
  AddPacket / RemoveOldPackets / EraseTo).
* loops: every theorem about a function with loops gives a fuel bound `n` and holds for all `fuel ≥ n`
  (the `_eq` lemmas give the concrete bound; 32770 for the public mutators).
* arrival times are never computed with, so they are unconstrained; sequence numbers |sn| < 2^62.
Core Lean only (no Mathlib).
-/
import Interceptor.Gen.Fn_twcc
import Interceptor.Model.Twcc
import Interceptor.Facts.FnTwcc
import Interceptor.Proofs.TwccMap
import Interceptor.Proofs.GoWrap
set_option linter.unusedVariables false
namespace Interceptor.Facts.FnTwccMap
open Interceptor.Gen.Fn Interceptor.GoSem Interceptor.Twcc

theorem ones_xor (k x : Nat) (hx : x < 2 ^ k) : (2 ^ k - 1) ^^^ x = 2 ^ k - 1 - x := by
  apply Nat.eq_of_testBit_eq
  intro i
  have e : 2 ^ k - 1 - x = 2 ^ k - (x + 1) := by omega
  rw [e, Nat.testBit_xor, Nat.testBit_two_pow_sub_one, Nat.testBit_two_pow_sub_succ hx]
  by_cases h : i < k
  · simp [h]
  · have : x < 2 ^ i := Nat.lt_of_lt_of_le hx (Nat.pow_le_pow_right (by omega) (by omega))
    simp [h, Nat.testBit_lt_two_pow this]

/-- ★ `band` with the mask `2^k − 1` is the Euclidean remainder modulo `2^k`, for EVERY integer
(in particular a negative first argument, the `.negSucc` branch of `GoSem.band`). -/
theorem band_mask (sn : Int) (k : Nat) : band sn (((2 ^ k - 1 : Nat) : Nat) : Int) = sn % ((2 ^ k : Nat) : Int) := by
  have hpos : 0 < 2 ^ k := Nat.two_pow_pos k
  cases sn with
  | ofNat m =>
    show ((m &&& (2 ^ k - 1) : Nat) : Int) = _
    rw [Nat.and_two_pow_sub_one_eq_mod]
    simp
  | negSucc m =>
    show (((2 ^ k - 1) ^^^ ((2 ^ k - 1) &&& m) : Nat) : Int) = _
    rw [Nat.and_comm, Nat.and_two_pow_sub_one_eq_mod, ones_xor k _ (Nat.mod_lt _ hpos)]
    rw [Int.negSucc_emod m (by exact_mod_cast hpos)]
    have hlt : m % 2 ^ k < 2 ^ k := Nat.mod_lt _ hpos
    have hc : ((m % 2 ^ k : Nat) : Int) = (m : Int) % ((2 ^ k : Nat) : Int) := by omega
    generalize 2 ^ k = P at *
    omega

/-- abstraction: the Go struct represents the model map (`arrivalTimes` ↔ `buf`, begin/end equal). -/
def Rel (g : S_twcc_packetArrivalTimeMap) (m : ArrivalMap) : Prop :=
  g.arrivalTimes = m.buf.toList ∧ g.beginSequenceNumber = m.beginSN ∧ g.endSequenceNumber = m.endSN

/-- the Go struct that represents a model map. -/
def conc (m : ArrivalMap) : S_twcc_packetArrivalTimeMap :=
  { arrivalTimes := m.buf.toList, beginSequenceNumber := m.beginSN, endSequenceNumber := m.endSN }

theorem Rel.eq {g : S_twcc_packetArrivalTimeMap} {m : ArrivalMap} (h : Rel g m) : g = conc m := by
  obtain ⟨gl, gb, ge⟩ := g
  obtain ⟨h1, h2, h3⟩ := h
  simp only at h1 h2 h3
  simp [conc, h1, h2, h3]

theorem rel_conc (m : ArrivalMap) : Rel (conc m) m := ⟨rfl, rfl, rfl⟩

theorem conc_endSN (m : ArrivalMap) : (conc m).endSequenceNumber = m.endSN := rfl
theorem conc_beginSN (m : ArrivalMap) : (conc m).beginSequenceNumber = m.beginSN := rfl

/-- the range of a Go `int64` / `int`. -/
def I64 (x : Int) : Prop := -9223372036854775808 ≤ x ∧ x < 9223372036854775808

def Pow2 (c : Nat) : Prop := ∃ k, c = 2 ^ k

/-- a power of two that an `int` can hold (with room for one doubling). -/
def P2 (c : Nat) : Prop := Pow2 c ∧ c ≤ 4611686018427387904

/-- the index computation `int(sn & int64(c-1))` for `c = 2^k`. -/
theorem mask_idx (sn : Int) (c : Nat) (hc : P2 c) :
    s64 (band sn (s64 ((c : Int) - 1))) = sn % (c : Int) := by
  obtain ⟨⟨k, rfl⟩, hle⟩ := hc
  have hpos : 0 < 2 ^ k := Nat.two_pow_pos k
  have e1 : (((2 ^ k : Nat) : Int) - 1) = (((2 ^ k - 1 : Nat) : Nat) : Int) := by omega
  have e2 : s64 (((2 ^ k : Nat) : Int) - 1) = ((2 ^ k : Nat) : Int) - 1 := s64_id _ (by omega)
  rw [e2, e1, band_mask]
  apply s64_id
  have := Int.emod_nonneg sn (b := ((2 ^ k : Nat) : Int)) (by omega)
  have := Int.emod_lt_of_pos sn (b := ((2 ^ k : Nat) : Int)) (by omega)
  omega

theorem slot_cast (c : Nat) (hc : 0 < c) (sn : Int) : ((ArrivalMap.slot c sn : Nat) : Int) = sn % (c : Int) := by
  unfold ArrivalMap.slot
  have := Int.emod_nonneg sn (b := (c : Int)) (by omega)
  omega

theorem P2_pos {c : Nat} (h : P2 c) : 0 < c := by
  obtain ⟨⟨k, rfl⟩, _⟩ := h; exact Nat.two_pow_pos k

/-- ★ `capacity` as written in the source equals the model's `cap`. -/
theorem capacity_src_eq_model (g : S_twcc_packetArrivalTimeMap) (m : ArrivalMap) (h : Rel g m) :
    twcc_packetArrivalTimeMap_capacity g = (m.cap : Int) := by
  obtain ⟨h1, _, _⟩ := h
  simp [twcc_packetArrivalTimeMap_capacity, ArrivalMap.cap, len, h1]

/-- ★ `index` as written in the source (`sn & (cap-1)`) equals the model's `slot` (`sn % cap`), for every
int64 `sn` (negative ones included).  The Go code needs the capacity to be a power of two. -/
theorem index_src_eq_model (g : S_twcc_packetArrivalTimeMap) (m : ArrivalMap) (h : Rel g m)
    (hc : P2 m.cap) (sn : Int) :
    twcc_packetArrivalTimeMap_index g sn = (ArrivalMap.slot m.cap sn : Int) := by
  unfold twcc_packetArrivalTimeMap_index
  rw [capacity_src_eq_model g m h, mask_idx sn _ hc, slot_cast _ (P2_pos hc)]

/-- ★ `index` never leaves the buffer (no index-out-of-range panic in `get`, `AddPacket`, `setNotReceived`)
when the capacity is a power of two. -/
theorem index_in_bounds (g : S_twcc_packetArrivalTimeMap) (m : ArrivalMap) (h : Rel g m)
    (hc : P2 m.cap) (sn : Int) :
    0 ≤ twcc_packetArrivalTimeMap_index g sn ∧
      twcc_packetArrivalTimeMap_index g sn < twcc_packetArrivalTimeMap_capacity g := by
  rw [index_src_eq_model g m h hc, capacity_src_eq_model g m h, slot_cast _ (P2_pos hc)]
  have hpos := P2_pos hc
  exact ⟨Int.emod_nonneg _ (by omega), Int.emod_lt_of_pos _ (by omega)⟩

theorem idx_toList (a : Array Int) (i : Nat) : idx a.toList (i : Int) = a.getD i 0 := by
  unfold idx
  have : ¬ ((i : Int) < 0) := by omega
  simp [this]

/-- ★ `get` as written in the source equals the model's, for every int64 `sn`.  The capacity is 0 (the
zero value) or a power of two. -/
theorem get_src_eq_model (g : S_twcc_packetArrivalTimeMap) (m : ArrivalMap) (h : Rel g m)
    (hc : m.cap = 0 ∨ P2 m.cap) (sn : Int) :
    twcc_packetArrivalTimeMap_get g sn = m.get sn := by
  unfold twcc_packetArrivalTimeMap_get ArrivalMap.get
  obtain ⟨h1, h2, h3⟩ := h
  rw [h2, h3]
  by_cases hr : sn < m.beginSN ∨ sn ≥ m.endSN
  · simp [hr]
  · rw [if_neg hr, if_neg (by simpa using hr)]
    rcases hc with h0 | hp
    · have e : m.buf = #[] := by simpa [ArrivalMap.cap] using h0
      simp [h1, e, idx]
    · rw [index_src_eq_model g m ⟨h1, h2, h3⟩ hp, h1, idx_toList]

/-- ★ `HasReceived` as written in the source equals the model's. -/
theorem hasReceived_src_eq_model (g : S_twcc_packetArrivalTimeMap) (m : ArrivalMap) (h : Rel g m)
    (hc : m.cap = 0 ∨ P2 m.cap) (sn : Int) :
    twcc_packetArrivalTimeMap_HasReceived g sn = m.hasReceived sn := by
  unfold twcc_packetArrivalTimeMap_HasReceived ArrivalMap.hasReceived
  rw [get_src_eq_model g m h hc]

theorem set_toList (a : Array Int) (i : Nat) (v : Int) :
    GoSem.set a.toList (i : Int) v = (a.setIfInBounds i v).toList := by
  unfold GoSem.set
  have : ¬ ((i : Int) < 0) := by omega
  simp [this]

/-- the store `m.arrivalTimes[m.index(sn)] = t`. -/
theorem conc_set (m : ArrivalMap) (hp : P2 m.cap) (sn t : Int) :
    { conc m with arrivalTimes := (GoSem.set (conc m).arrivalTimes (twcc_packetArrivalTimeMap_index (conc m) sn) t) }
      = conc (m.set sn t) := by
  rw [index_src_eq_model _ _ (rel_conc m) hp]
  show ({ arrivalTimes := GoSem.set m.buf.toList _ t, beginSequenceNumber := m.beginSN, endSequenceNumber := m.endSN } : S_twcc_packetArrivalTimeMap) = _
  rw [set_toList]
  rfl

/-- one round of a counting loop `for sn < e { ..; sn++ }` with `n + 1` rounds to go: the test succeeds, the
increment does not overflow, `n` rounds remain. -/
theorem count_step {e sn : Int} {n : Nat} (he : I64 e) (hn : (e - sn).toNat = n + 1) (hs : I64 sn) :
    sn < e ∧ (e - (sn + 1)).toNat = n ∧ I64 (sn + 1) := by
  unfold I64 at *; omega

theorem setNR_loop (eX : Int) (heX : I64 eX) :
    ∀ (n : Nat) (m : ArrivalMap) (sn : Int), P2 m.cap → (eX - sn).toNat = n → I64 sn →
      loop (n + 1) (fun ((m, sn) : S_twcc_packetArrivalTimeMap × Int) => (decide (sn < eX)))
        (fun ((m, sn) : S_twcc_packetArrivalTimeMap × Int) =>
          let m := { m with arrivalTimes := (set m.arrivalTimes (twcc_packetArrivalTimeMap_index m sn) (-1)) }
          let sn := (s64 (sn + 1))
          (m, sn))
        (conc m, sn)
      = some (conc { m with buf := ArrivalMap.setNRLoop m.cap n sn m.buf }, max sn eX) := by
  intro n
  induction n with
  | zero =>
    intro m sn hp hn hsn
    have h : eX ≤ sn := by omega
    rw [loop_succ, if_dec_neg (Int.not_lt.mpr h), Int.max_eq_left h]
    rfl
  | succ n ih =>
    intro m sn hp hn hsn
    obtain ⟨h1, h2, h64⟩ := count_step heX hn hsn
    rw [loop_succ, if_dec_pos h1]
    show loop (n + 1) _ _ ({ conc m with
      arrivalTimes := GoSem.set (conc m).arrivalTimes (twcc_packetArrivalTimeMap_index (conc m) sn) (-1) },
      s64 (sn + 1)) = _
    rw [conc_set m hp, s64_id _ h64, ih (m.set sn (-1)) (sn + 1) (by rw [ArrivalMap.cap_set]; exact hp) h2 h64,
      ArrivalMap.cap_set, Int.max_eq_right h1, Int.max_eq_right (Int.le_of_lt h1)]
    rfl

/-- what a loop over `[b, e)` needs: both ends are int64 values and the fuel covers one pass. -/
def WinOK (b e : Int) (fuel : Nat) : Prop := I64 b ∧ I64 e ∧ (e - b).toNat + 1 ≤ fuel

theorem setNR_eq (m : ArrivalMap) (hc : P2 m.cap) (s e : Int) (fuel : Nat) (h : WinOK s e fuel) :
    twcc_packetArrivalTimeMap_setNotReceived fuel (conc m) s e = some (conc (m.setNotReceived s e)) := by
  unfold twcc_packetArrivalTimeMap_setNotReceived
  simp only []
  rw [loop_mono _ _ (setNR_loop e h.2.1 (e - s).toNat m s hc rfl h.1) h.2.2]
  rfl

/-- ★ `setNotReceived` as written in the source terminates (fuel `(e − s) + 1` suffices) and equals the
model's, for every int64 range `[s, e)`.  The Go code needs the capacity to be a power of two. -/
theorem setNotReceived_src_eq_model (g : S_twcc_packetArrivalTimeMap) (m : ArrivalMap) (h : Rel g m)
    (hc : P2 m.cap) (s e : Int) (hs : I64 s) (he : I64 e) :
    ∃ n, ∀ fuel, n ≤ fuel → ∃ g', twcc_packetArrivalTimeMap_setNotReceived fuel g s e = some g' ∧
      Rel g' (m.setNotReceived s e) := by
  obtain rfl := h.eq
  exact ⟨(e - s).toNat + 1, fun fuel hf => ⟨_, setNR_eq m hc s e fuel ⟨hs, he, hf⟩, rel_conc _⟩⟩

theorem realloc_loop (m : ArrivalMap) (hc : m.cap = 0 ∨ P2 m.cap) (c : Nat) (hcn : P2 c) (hE : I64 m.endSN) :
    ∀ (n : Nat) (sn : Int) (nb : Array Int), (m.endSN - sn).toNat = n → I64 sn →
      loop (n + 1) (fun ((newBuffer, sn) : List Int × Int) => (decide (sn < m.endSN)))
        (fun ((newBuffer, sn) : List Int × Int) =>
          let newBuffer := (GoSem.set newBuffer (s64 (band sn (s64 ((c : Int) - 1)))) (twcc_packetArrivalTimeMap_get (conc m) sn))
          let sn := (s64 (sn + 1))
          (newBuffer, sn))
        (nb.toList, sn)
      = some ((ArrivalMap.reallocLoop m c n sn nb).toList, max sn m.endSN) := by
  intro n
  induction n with
  | zero =>
    intro sn nb hn hsn
    have h : m.endSN ≤ sn := by omega
    rw [loop_succ, if_dec_neg (Int.not_lt.mpr h), Int.max_eq_left h]
    rfl
  | succ n ih =>
    intro sn nb hn hsn
    obtain ⟨h1, h2, h64⟩ := count_step hE hn hsn
    rw [loop_succ, if_dec_pos h1]
    show loop (n + 1) _ _ (GoSem.set nb.toList (s64 (band sn (s64 ((c : Int) - 1))))
      (twcc_packetArrivalTimeMap_get (conc m) sn), s64 (sn + 1)) = _
    rw [mask_idx sn c hcn, ← slot_cast c (P2_pos hcn), set_toList, get_src_eq_model _ _ (rel_conc m) hc sn,
      s64_id _ h64, ih _ _ h2 h64, Int.max_eq_right h1, Int.max_eq_right (Int.le_of_lt h1)]
    rfl

theorem reallocate_eq (m : ArrivalMap) (hc : m.cap = 0 ∨ P2 m.cap) (c : Nat) (hcn : P2 c) (fuel : Nat)
    (h : WinOK m.beginSN m.endSN fuel) :
    twcc_packetArrivalTimeMap_reallocate fuel (conc m) (c : Int) = some (conc (m.reallocate c)) := by
  unfold twcc_packetArrivalTimeMap_reallocate
  have e : mkSlice (c : Int) = (Array.replicate c 0).toList := by simp [mkSlice]
  rw [e, conc_beginSN, conc_endSN]
  simp only []
  rw [loop_mono _ _ (realloc_loop m hc c hcn h.2.1 (m.endSN - m.beginSN).toNat m.beginSN _ rfl h.1) h.2.2]
  rfl

theorem le_double {n : Int} {c f : Nat} (h : n ≤ (c : Int) * ((2 ^ (f + 1) : Nat) : Int)) :
    n ≤ ((c * 2 : Nat) : Int) * ((2 ^ f : Nat) : Int) := by
  have e : ((2 ^ (f + 1) : Nat) : Int) = 2 * ((2 ^ f : Nat) : Int) := by rw [Nat.pow_succ]; omega
  rw [e] at h
  rw [Int.natCast_mul, Int.mul_assoc]
  exact h

/-- the doubling loop: terminates within `f` iterations when `n ≤ c·2^f`, result = the model's `growCap`. -/
theorem grow_loop (n : Int) (hn : n ≤ 2305843009213693952) :
    ∀ (f : Nat) (c : Nat), 0 < c → n ≤ (c : Int) * ((2 ^ f : Nat) : Int) →
      loop (f + 1) (fun newCapacity => (decide (newCapacity < n))) (fun newCapacity =>
          let newCapacity := (s64 (newCapacity * 2))
          newCapacity) (c : Int)
      = some ((ArrivalMap.growCap f c n : Nat) : Int) := by
  intro f
  induction f with
  | zero =>
    intro c hc hle
    have h1 : ¬ ((c : Int) < n) := by simp at hle; omega
    rw [loop_succ, if_dec_neg h1]
    rfl
  | succ f ih =>
    intro c hc hle
    rw [loop_succ, ArrivalMap.growCap]
    by_cases h1 : (c : Int) < n
    · have h2 : s64 ((c : Int) * 2) = ((c * 2 : Nat) : Int) := by
        rw [s64_id _ (by omega)]; omega
      rw [if_dec_pos h1, if_pos h1]
      show loop (f + 1) _ _ (s64 ((c : Int) * 2)) = _
      rw [h2]
      exact ih (c * 2) (by omega) (le_double hle)
    · rw [if_dec_neg h1, if_neg h1]

/-- doubling a capacity that an `int` can hold, for a size up to 2^60, gives one that an `int` can hold. -/
theorem growCap_spec (n : Int) (hn : n ≤ 1152921504606846976) (c : Nat) (hp : P2 c) :
    P2 (ArrivalMap.growCap 64 c n) := by
  obtain ⟨⟨k, rfl⟩, hle⟩ := hp
  obtain ⟨k', _, h2, h3, _⟩ := ArrivalMap.growCap_spec 64 k 60 n hn (by omega)
  have hk : k ≤ 62 := (Nat.pow_le_pow_iff_right (by decide)).mp hle
  rw [h3]
  exact ⟨⟨k', rfl⟩, Nat.pow_le_pow_right (by decide) (show k' ≤ 62 by omega)⟩

/-- the halving loop: terminates within `f` iterations when `c < 2^f`, result = the model's `shrinkCap`. -/
theorem shrink_loop (n : Int) (hn : -2305843009213693952 ≤ n ∧ n ≤ 2305843009213693952) :
    ∀ (f : Nat) (c : Nat), c < 2 ^ f → c ≤ 4611686018427387904 →
      loop (f + 1) (fun newCapacity_1 => (decide (newCapacity_1 ≥ (s64 (2 * (max n 128)))))) (fun newCapacity_1 =>
          let newCapacity_1 := (s64 (quo newCapacity_1 2))
          newCapacity_1) (c : Int)
      = some ((ArrivalMap.shrinkCap f c n : Nat) : Int) := by
  rw [s64_id (2 * (max n 128)) (by omega)]
  intro f
  induction f with
  | zero =>
    intro c hc hle
    have h1 : ¬ ((c : Int) ≥ 2 * max n 128) := by simp at hc; omega
    rw [loop_succ, if_dec_neg h1]
    rfl
  | succ f ih =>
    intro c hc hle
    rw [loop_succ, ArrivalMap.shrinkCap]
    by_cases h1 : (c : Int) ≥ 2 * max n ((minCapacity : Nat) : Int)
    · have h2 : s64 (quo (c : Int) 2) = ((c / 2 : Nat) : Int) := by
        rw [quo_nonneg _ _ (by omega), s64_id _ (by omega)]; omega
      rw [if_pos h1, if_dec_pos (show (c : Int) ≥ 2 * max n 128 from h1)]
      show loop (f + 1) _ _ (s64 (quo (c : Int) 2)) = _
      rw [h2]
      exact ih (c / 2) (by rw [Nat.pow_succ] at hc; omega) (by omega)
    · rw [if_neg h1, if_dec_neg (show ¬ (c : Int) ≥ 2 * max n 128 from h1)]

/-- the halving loop from a power of two `≥ max n 128` ends at a power of two that is still `≥ max n 128`. -/
theorem shrinkCap_spec (n : Int) (f c : Nat) (hp : Pow2 c) (hge : max n 128 ≤ (c : Int)) :
    Pow2 (ArrivalMap.shrinkCap f c n) ∧ ArrivalMap.shrinkCap f c n ≤ c ∧
      max n 128 ≤ (ArrivalMap.shrinkCap f c n : Int) := by
  obtain ⟨k, rfl⟩ := hp
  obtain ⟨k', h1, h2, h3⟩ := ArrivalMap.shrinkCap_spec f k n hge
  rw [h2]
  exact ⟨⟨k', rfl⟩, Nat.pow_le_pow_right (by decide) h1, h3⟩

theorem cap_conc (m : ArrivalMap) : twcc_packetArrivalTimeMap_capacity (conc m) = (m.cap : Int) :=
  capacity_src_eq_model _ _ (rel_conc m)

/-- the range of `newSize` for which `newSize*4`, `2*max(newSize,128)` and the doubling do not overflow. -/
def SizeOK (n : Int) : Prop := -1152921504606846976 ≤ n ∧ n ≤ 1152921504606846976

/-- the second half of `adjustToSize` (shrinking). -/
theorem shrink_phase (m : ArrivalMap) (hc : m.cap = 0 ∨ P2 m.cap) (n : Int) (hn : SizeOK n)
    (fuel : Nat) (h65 : 65 ≤ fuel) (hw : WinOK m.beginSN m.endSN fuel) :
    (if (decide ((twcc_packetArrivalTimeMap_capacity (conc m)) > (max 128 (s64 (n * 4))))) then
      let newCapacity_1 := (twcc_packetArrivalTimeMap_capacity (conc m))
      match loop fuel (fun newCapacity_1 => (decide (newCapacity_1 ≥ (s64 (2 * (max n 128)))))) (fun newCapacity_1 =>
          let newCapacity_1 := (s64 (quo newCapacity_1 2))
          newCapacity_1
        ) newCapacity_1 with
      | none => none
      | some newCapacity_1 =>
        match (twcc_packetArrivalTimeMap_reallocate fuel (conc m) newCapacity_1) with
        | none => none
        | some __c =>
          let m := __c
          some (m)
    else
      some (conc m))
    = some (conc (if (m.cap : Int) > max ((minCapacity : Nat) : Int) (n * 4)
        then m.reallocate (ArrivalMap.shrinkCap 64 m.cap n) else m)) := by
  unfold SizeOK at hn
  have e4 : s64 (n * 4) = n * 4 := s64_id _ (by omega)
  have hm : ((minCapacity : Nat) : Int) = 128 := rfl
  rw [cap_conc, e4, hm]
  by_cases h : (m.cap : Int) > max 128 (n * 4)
  · have hp : P2 m.cap := by
      rcases hc with h0 | hp
      · rw [h0] at h; omega
      · exact hp
    have hlt : m.cap < 2 ^ 64 := by
      have : m.cap ≤ 4611686018427387904 := hp.2
      have e : (2 : Nat) ^ 64 = 18446744073709551616 := by decide
      omega
    have hl := loop_mono _ _ (shrink_loop n (by omega) 64 m.cap hlt hp.2) h65
    have hsp := shrinkCap_spec n 64 m.cap hp.1 (by omega)
    have hr := reallocate_eq m hc (ArrivalMap.shrinkCap 64 m.cap n) ⟨hsp.1, Nat.le_trans hsp.2.1 hp.2⟩ fuel hw
    simp only [h, decide_true, if_true, hl, hr]
  · simp only [h, decide_false, if_false, Bool.false_eq_true]

theorem adjust_eq (m : ArrivalMap) (n : Int) (hc : (m.cap = 0 ∧ n ≤ 0) ∨ P2 m.cap) (fuel : Nat)
    (h : WinOK m.beginSN m.endSN fuel ∧ SizeOK n ∧ 65 ≤ fuel) :
    twcc_packetArrivalTimeMap_adjustToSize fuel (conc m) n = some (conc (m.adjustToSize n)) := by
  obtain ⟨hw, hn, h65⟩ := h
  have hc' : m.cap = 0 ∨ P2 m.cap := by
    rcases hc with h | h
    · exact Or.inl h.1
    · exact Or.inr h
  unfold twcc_packetArrivalTimeMap_adjustToSize ArrivalMap.adjustToSize
  rw [cap_conc m]
  by_cases h : n > (m.cap : Int)
  · have hp : P2 m.cap := by
      rcases hc with h0 | hp
      · omega
      · exact hp
    have hn' := hn
    unfold SizeOK at hn'
    have hpos := P2_pos hp
    have hle : n ≤ (m.cap : Int) * ((2 ^ 64 : Nat) : Int) := by
      have e : ((2 ^ 64 : Nat) : Int) = 18446744073709551616 := by decide
      rw [e]; omega
    have hl := loop_mono _ _ (grow_loop n (by omega) 64 m.cap hpos hle) h65
    have hp2 := growCap_spec n hn'.2 m.cap hp
    have hr := reallocate_eq m hc' _ hp2 fuel hw
    simp only [h, decide_true, if_true, hl, hr]
    exact shrink_phase (m.reallocate (ArrivalMap.growCap 64 m.cap n))
      (Or.inr (by rw [ArrivalMap.cap_reallocate]; exact hp2)) n hn fuel h65 hw
  · simp only [h, decide_false, if_false, Bool.false_eq_true]
    exact shrink_phase m hc' n hn fuel h65 hw

/-- the invariant of `packetArrivalTimeMap`: sequence numbers within ±2^62, `begin ≤ end`, the window fits
the buffer, and the capacity is 0 (before the first packet) or a power of two in `[128, 32768]`. -/
def Inv (g : S_twcc_packetArrivalTimeMap) : Prop :=
  -4611686018427387904 < g.beginSequenceNumber ∧ g.beginSequenceNumber ≤ g.endSequenceNumber ∧
  g.endSequenceNumber ≤ 4611686018427387904 ∧
  g.endSequenceNumber - g.beginSequenceNumber ≤ (g.arrivalTimes.length : Int) ∧
  (g.arrivalTimes.length = 0 ∨
    (Pow2 g.arrivalTimes.length ∧ 128 ≤ g.arrivalTimes.length ∧ g.arrivalTimes.length ≤ 32768))

/-- ★ the invariant is established by the constructor (the zero value `&packetArrivalTimeMap{}` of
`NewRecorder`), which represents the model's empty map. -/
theorem inv_init : Inv {} ∧ Rel {} {} := by
  simp [Inv, Rel]

theorem conc_begin (m : ArrivalMap) (b : Int) :
    { conc m with beginSequenceNumber := b } = conc { m with beginSN := b } := rfl
theorem conc_end (m : ArrivalMap) (e : Int) :
    { conc m with endSequenceNumber := e } = conc { m with endSN := e } := rfl

theorem adjust_begin (m : ArrivalMap) (n : Int) : (m.adjustToSize n).beginSN = m.beginSN :=
  (ArrivalMap.adjustToSize_ends m n).1

theorem adjust_end (m : ArrivalMap) (n : Int) : (m.adjustToSize n).endSN = m.endSN :=
  (ArrivalMap.adjustToSize_ends m n).2

/-- a capacity the invariant allows once the first packet has arrived. -/
def CapOK (c : Nat) : Prop := Pow2 c ∧ 128 ≤ c ∧ c ≤ 32768

theorem CapOK.p2 {c : Nat} (h : CapOK c) : P2 c := ⟨h.1, by have := h.2.2; omega⟩

/-- in exponents: `2^k` with `7 ≤ k ≤ 15`. -/
theorem capOK_iff (c : Nat) : CapOK c ↔ ∃ k, 7 ≤ k ∧ k ≤ 15 ∧ c = 2 ^ k := by
  have e7 : (2 : Nat) ^ 7 = 128 := by decide
  have e15 : (2 : Nat) ^ 15 = 32768 := by decide
  constructor
  · rintro ⟨⟨k, rfl⟩, h1, h2⟩
    rw [← e7] at h1
    rw [← e15] at h2
    exact ⟨k, (Nat.pow_le_pow_iff_right (by decide)).mp h1, (Nat.pow_le_pow_iff_right (by decide)).mp h2, rfl⟩
  · rintro ⟨k, h1, h2, rfl⟩
    exact ⟨⟨k, rfl⟩, e7 ▸ Nat.pow_le_pow_right (by decide) h1, e15 ▸ Nat.pow_le_pow_right (by decide) h2⟩

theorem adjust_cap (m : ArrivalMap) (n : Int) (hc : CapOK m.cap) (hn : n ≤ 32768) :
    CapOK (m.adjustToSize n).cap ∧ n ≤ ((m.adjustToSize n).cap : Int) := by
  obtain ⟨k, k7, k15, ke⟩ := (capOK_iff _).mp hc
  obtain ⟨k', a, b, c, d, _⟩ := ArrivalMap.adjustToSize_cap m k 15 k7 k15 (Nat.le_refl _) ke n hn
  rw [c]
  exact ⟨(capOK_iff _).mpr ⟨k', a, b, rfl⟩, d⟩

theorem adjust_zero (m : ArrivalMap) (n : Int) (h0 : m.cap = 0) (hn : n ≤ 0) : m.adjustToSize n = m := by
  unfold ArrivalMap.adjustToSize
  have hm : ((minCapacity : Nat) : Int) = 128 := rfl
  have h1 : ¬ (n > (m.cap : Int)) := by omega
  rw [if_neg h1]
  have h2 : ¬ ((m.cap : Int) > max ((minCapacity : Nat) : Int) (n * 4)) := by omega
  simp only [h2, if_false]

/-- the invariant, read on the model side. -/
def MInv (m : ArrivalMap) : Prop :=
  -4611686018427387904 < m.beginSN ∧ m.beginSN ≤ m.endSN ∧ m.endSN ≤ 4611686018427387904 ∧
    m.endSN - m.beginSN ≤ (m.cap : Int) ∧ (m.cap = 0 ∨ CapOK m.cap)

theorem MInv.cap_le {m : ArrivalMap} (hm : MInv m) : (m.cap : Int) ≤ 32768 := by
  rcases hm.2.2.2.2 with h | h
  · omega
  · have := h.2.2; omega

theorem inv_conc (m : ArrivalMap) : Inv (conc m) ↔ MInv m := by
  simp [Inv, MInv, conc, ArrivalMap.cap, CapOK]

theorem Rel.inv {g : S_twcc_packetArrivalTimeMap} {m : ArrivalMap} (h : Rel g m) : Inv g ↔ MInv m := by
  obtain rfl := h.eq; exact inv_conc m

/-- the common tail of `AddPacket` when the packet goes after the buffer (after `begin` may have been moved):
adjustToSize, fill the gap with "not received", move `end`, store. -/
theorem add_tail (m : ArrivalMap) (hc : CapOK m.cap) (sn t : Int) (fuel : Nat) (hf : 32770 ≤ fuel)
    (h : -4611686018427387904 ≤ m.beginSN ∧ m.beginSN ≤ m.endSN ∧ m.endSN ≤ sn ∧ sn < 4611686018427387904 ∧
      sn + 1 - m.beginSN ≤ 32768) :
    (match (twcc_packetArrivalTimeMap_adjustToSize fuel (conc m) (s64 (sn + 1 - (conc m).beginSequenceNumber))) with
      | none => none
      | some __c =>
        let m := __c
        match (twcc_packetArrivalTimeMap_setNotReceived fuel m m.endSequenceNumber sn) with
        | none => none
        | some __c =>
          let m := __c
          let m := { m with endSequenceNumber := sn + 1 }
          let m := { m with arrivalTimes := (GoSem.set m.arrivalTimes (twcc_packetArrivalTimeMap_index m sn) t) }
          some (m))
    = some (conc (({ (m.adjustToSize (sn + 1 - m.beginSN)).setNotReceived
          (m.adjustToSize (sn + 1 - m.beginSN)).endSN sn with endSN := sn + 1 } : ArrivalMap).set sn t)) := by
  have hc1 := (adjust_cap m (sn + 1 - m.beginSN) hc h.2.2.2.2).1.p2
  have he1 := adjust_end m (sn + 1 - m.beginSN)
  rw [conc_beginSN, s64_id _ (by omega),
    adjust_eq m (sn + 1 - m.beginSN) (Or.inr hc.p2) fuel (by unfold WinOK I64 SizeOK; omega)]
  -- all that is needed of the adjusted map is `hc1` and `he1`
  generalize m.adjustToSize (sn + 1 - m.beginSN) = m1 at hc1 he1 ⊢
  simp only []
  rw [conc_endSN, setNR_eq m1 hc1 m1.endSN sn fuel (by rw [he1]; unfold WinOK I64; omega)]
  exact congrArg some (conc_set ({ m1.setNotReceived m1.endSN sn with endSN := sn + 1 } : ArrivalMap)
    (by show P2 (m1.setNotReceived _ sn).cap
        rw [ArrivalMap.cap_setNotReceived]; exact hc1) sn t)

theorem len_conc (m : ArrivalMap) : len (conc m).arrivalTimes = (m.cap : Int) := cap_conc m

/-- `AddPacket` as written in the source, run with fuel ≥ 32770 on the image of a model map that satisfies the
invariant, returns the image of the model's `addPacket`; one case per equation `ArrivalMap.addPacket_*`. -/
theorem addPacket_eq (m : ArrivalMap) (hi : Inv (conc m)) (sn t : Int)
    (hsn : -4611686018427387904 < sn ∧ sn < 4611686018427387904) (fuel : Nat) (hf : 32770 ≤ fuel) :
    twcc_packetArrivalTimeMap_AddPacket fuel (conc m) sn t = some (conc (m.addPacket sn t)) := by
  have hm := (inv_conc m).1 hi
  obtain ⟨hB, hbe, hE, hsz, -⟩ := id hm
  unfold twcc_packetArrivalTimeMap_AddPacket
  rw [conc_beginSN, conc_endSN, s64_id (sn + 1) (by omega)]
  by_cases h0 : m.cap = 0
  · have hp : P2 128 := ⟨⟨7, rfl⟩, by omega⟩
    have hr : twcc_packetArrivalTimeMap_reallocate fuel (conc m) 128 = some (conc (m.reallocate 128)) :=
      reallocate_eq m (Or.inl h0) 128 hp fuel (by unfold WinOK I64; omega)
    rw [ArrivalMap.addPacket_empty m sn t h0]
    refine (if_dec_pos (by rw [len_conc, h0]; rfl) _ _).trans ?_
    rw [hr]
    exact congrArg some (conc_set ({ m.reallocate minCapacity with beginSN := sn, endSN := sn + 1 } : ArrivalMap)
      (by show P2 (m.reallocate minCapacity).cap
          rw [ArrivalMap.cap_reallocate]; exact hp) sn t)
  · have hc : CapOK m.cap := hm.2.2.2.2.resolve_left h0
    refine (if_dec_neg (by rw [len_conc]; omega) _ _).trans ?_
    by_cases hin : sn ≥ m.beginSN ∧ sn < m.endSN
    · rw [ArrivalMap.addPacket_inside m sn t h0 hin]
      refine (if_pos (by simpa using hin)).trans ?_
      exact congrArg some (conc_set m hc.p2 sn t)
    · refine (if_neg (by simpa using hin)).trans ?_
      by_cases hlt : sn < m.beginSN
      · refine (if_dec_pos hlt _ _).trans ?_
        rw [s64_id (m.endSN - sn) (by omega)]
        by_cases hbig : m.endSN - sn > 32768
        · rw [ArrivalMap.addPacket_ignored m sn t h0 hlt hbig]
          exact if_dec_pos hbig _ _
        · rw [ArrivalMap.addPacket_below m sn t h0 hlt hbig]
          refine (if_dec_neg hbig _ _).trans ?_
          clear hin
          have hc1 := (adjust_cap m (m.endSN - sn) hc (by omega)).1.p2
          have hb1 := adjust_begin m (m.endSN - sn)
          rw [adjust_eq m (m.endSN - sn) (Or.inr hc.p2) fuel (by unfold WinOK I64 SizeOK; omega)]
          generalize m.adjustToSize (m.endSN - sn) = m1 at hc1 hb1 ⊢
          simp only []
          rw [conc_set _ hc1, conc_beginSN, setNR_eq (m1.set sn t) (by rw [ArrivalMap.cap_set]; exact hc1) (sn + 1)
            m1.beginSN fuel (by rw [hb1]; unfold WinOK I64; omega)]
          rfl
      · refine (if_dec_neg hlt _ _).trans ?_
        rw [s64_id (m.endSN + 32768) (by omega)]
        by_cases hfar : sn + 1 ≥ m.endSN + 32768
        · rw [ArrivalMap.addPacket_far m sn t h0 hin hlt hfar]
          refine (if_dec_pos hfar _ _).trans ?_
          exact congrArg some (conc_set ({ m with beginSN := sn, endSN := sn + 1 } : ArrivalMap) hc.p2 sn t)
        · rw [ArrivalMap.addPacket_near m sn t h0 hin hlt hfar _ rfl]
          have hes : m.endSN ≤ sn := by omega
          clear hin
          refine (if_dec_neg hfar _ _).trans ?_
          rw [s64_id (sn + 1 - 32768) (by omega)]
          by_cases hbump : m.beginSN < sn + 1 - 32768
          · refine (if_dec_pos hbump _ _).trans ?_
            rw [Int.max_eq_right (Int.le_of_lt hbump)]
            exact add_tail ({ m with beginSN := sn + 1 - 32768 } : ArrivalMap) hc sn t fuel hf (by simp only; omega)
          · refine (if_dec_neg hbump _ _).trans ?_
            rw [Int.max_eq_left (Int.not_lt.mp hbump)]
            exact add_tail m hc sn t fuel hf (by omega)

theorem capOK_128 : CapOK 128 := ⟨⟨7, rfl⟩, by omega, by omega⟩

/-- the source-level invariant with a non-zero capacity is the model's well-formedness. -/
theorem MInv.wf {m : ArrivalMap} (hm : MInv m) (hc : CapOK m.cap) : ArrivalMap.WF m := by
  obtain ⟨k, k7, k15, hk⟩ := (capOK_iff _).mp hc
  have h32 := hm.cap_le
  have hsz := hm.2.2.2.1
  exact ⟨⟨k, k7, by omega, hk⟩, hm.2.1, by omega, hsz⟩

/-- `addPacket` never leaves a capacity above 2^15 (the model's `WF` only says 2^16). -/
theorem addPacket_cap_le (m : ArrivalMap) (hc : CapOK m.cap) (sn t : Int) : (m.addPacket sn t).cap ≤ 32768 := by
  have h0 : m.cap ≠ 0 := by have := hc.2.1; omega
  by_cases hin : sn ≥ m.beginSN ∧ sn < m.endSN
  · rw [ArrivalMap.addPacket_inside m sn t h0 hin, ArrivalMap.cap_set]; exact hc.2.2
  · by_cases hlt : sn < m.beginSN
    · by_cases hbig : m.endSN - sn > 32768
      · rw [ArrivalMap.addPacket_ignored m sn t h0 hlt hbig]; exact hc.2.2
      · rw [ArrivalMap.addPacket_below m sn t h0 hlt hbig]
        show (((m.adjustToSize (m.endSN - sn)).set sn t).setNotReceived _ _).cap ≤ _
        rw [ArrivalMap.cap_setNotReceived, ArrivalMap.cap_set]
        exact (adjust_cap m _ hc (by omega)).1.2.2
    · by_cases hfar : sn + 1 ≥ m.endSN + 32768
      · rw [ArrivalMap.addPacket_far m sn t h0 hin hlt hfar, ArrivalMap.cap_set]; exact hc.2.2
      · rw [ArrivalMap.addPacket_near m sn t h0 hin hlt hfar _ rfl, ArrivalMap.cap_set]
        show (ArrivalMap.setNotReceived _ _ sn).cap ≤ _
        rw [ArrivalMap.cap_setNotReceived]
        exact (adjust_cap { m with beginSN := max m.beginSN (sn + 1 - 32768) } _ hc (by omega)).1.2.2

theorem addPacket_inv (m : ArrivalMap) (hi : Inv (conc m)) (sn t : Int)
    (hsn : -4611686018427387904 < sn ∧ sn < 4611686018427387904) :
    Inv (conc (m.addPacket sn t)) ∧ CapOK (m.addPacket sn t).cap := by
  have hm := (inv_conc m).1 hi
  obtain ⟨hB, hbe, hE, hsz, hcap⟩ := id hm
  rw [inv_conc]
  rcases hcap with h0 | hc
  · obtain ⟨w, b, e, _⟩ := ArrivalMap.addPacket_first m h0 sn t
    have hcp : (m.addPacket sn t).cap = 128 := by
      rw [ArrivalMap.addPacket_empty m sn t h0, ArrivalMap.cap_set]; exact ArrivalMap.cap_reallocate m 128
    unfold MInv
    rw [b, e, hcp]
    exact ⟨⟨hsn.1, by omega, by omega, by omega, Or.inr capOK_128⟩, capOK_128⟩
  · obtain ⟨w, sp⟩ := ArrivalMap.addPacket_spec m (hm.wf hc) sn t
    have hc' : CapOK (m.addPacket sn t).cap := by
      obtain ⟨k, _, _, e⟩ := w.pow
      exact ⟨⟨k, e⟩, w.pow.ge, addPacket_cap_le m hc sn t⟩
    have hends : -4611686018427387904 < (m.addPacket sn t).beginSN ∧
        (m.addPacket sn t).endSN ≤ 4611686018427387904 := by
      by_cases hig : sn < m.beginSN ∧ m.endSN - sn > 32768
      · rw [if_pos hig] at sp; rw [sp]; exact ⟨hB, hE⟩
      · rw [if_neg hig] at sp
        have := ArrivalMap.newBegin_ge m sn
        rw [sp.1, sp.2.1]; omega
    exact ⟨⟨hends.1, w.order, hends.2, w.fits, Or.inr hc'⟩, hc'⟩

theorem remove_loop (checkTo limit : Int) (hck : I64 checkTo) :
    ∀ (n : Nat) (m : ArrivalMap), (m.cap = 0 ∨ P2 m.cap) → (checkTo - m.beginSN).toNat = n → I64 m.beginSN →
      loop (n + 1) (fun m => ((decide (m.beginSequenceNumber < checkTo)) && (decide ((twcc_packetArrivalTimeMap_get m m.beginSequenceNumber) ≤ limit)))) (fun m =>
          let m := { m with beginSequenceNumber := (s64 (m.beginSequenceNumber + 1)) }
          m) (conc m)
      = some (conc (ArrivalMap.removeLoop n m checkTo limit)) := by
  intro n
  induction n with
  | zero =>
    intro m hc hn hb
    rw [loop_succ]
    exact if_neg (by simp [conc_beginSN, show ¬ m.beginSN < checkTo by omega])
  | succ n ih =>
    intro m hc hn hb
    obtain ⟨h1, h2, h64⟩ := count_step hck hn hb
    have hget := get_src_eq_model _ _ (rel_conc m) hc m.beginSN
    rw [loop_succ, ArrivalMap.removeLoop]
    by_cases h3 : m.get m.beginSN ≤ limit
    · refine (if_pos (by simp [conc_beginSN, hget, h1, h3])).trans ?_
      show loop (n + 1) _ _ { conc m with beginSequenceNumber := s64 (m.beginSN + 1) } = _
      rw [s64_id _ h64, conc_begin, ih { m with beginSN := m.beginSN + 1 } hc h2 h64, if_pos ⟨h1, h3⟩]
    · refine (if_neg (by simp [conc_beginSN, hget, h1, h3])).trans ?_
      rw [if_neg (fun h => h3 h.2)]

/-- what `RemoveOldPackets` and `EraseTo` end with: the lower end raised to `b`, then `adjustToSize` to the
size of what is left. -/
theorem adjust_raised (m : ArrivalMap) (hi : MInv m) (b : Int) (hb : m.beginSN ≤ b ∧ b ≤ m.endSN)
    (fuel : Nat) (hf : 32770 ≤ fuel) :
    twcc_packetArrivalTimeMap_adjustToSize fuel (conc { m with beginSN := b }) (s64 (m.endSN - b))
      = some (conc (({ m with beginSN := b } : ArrivalMap).adjustToSize (m.endSN - b))) ∧
    MInv (({ m with beginSN := b } : ArrivalMap).adjustToSize (m.endSN - b)) := by
  -- the last conjunct of `hi` (a disjunction about the capacity) is used only through `hi.cap_le`
  obtain ⟨hB, hbe, hE, hsz, -⟩ := id hi
  have h32 := hi.cap_le
  rw [s64_id _ (by omega)]
  refine ⟨adjust_eq ({ m with beginSN := b } : ArrivalMap) (m.endSN - b) (hi.2.2.2.2.imp (fun h => ⟨h, by have h' : m.cap = 0 := h; omega⟩) CapOK.p2) fuel
    (by show WinOK b m.endSN fuel ∧ _; unfold WinOK I64 SizeOK; omega), ?_⟩
  unfold MInv
  rw [adjust_begin, adjust_end]
  rcases hi.2.2.2.2 with h | h
  · rw [adjust_zero ({ m with beginSN := b } : ArrivalMap) _ h (by omega)]
    exact ⟨by show _ < b; omega, hb.2, hE, by show m.endSN - b ≤ (m.cap : Int); omega, Or.inl h⟩
  · obtain ⟨hc1, hn1⟩ := adjust_cap ({ m with beginSN := b } : ArrivalMap) (m.endSN - b) h (by omega)
    exact ⟨by show _ < b; omega, hb.2, hE, hn1, Or.inr hc1⟩

theorem removeOld_eq (m : ArrivalMap) (hi : MInv m) (sn limit : Int) (hsn : I64 sn) (fuel : Nat)
    (hf : 32770 ≤ fuel) :
    twcc_packetArrivalTimeMap_RemoveOldPackets fuel (conc m) sn limit = some (conc (m.removeOld sn limit)) ∧
      MInv (m.removeOld sn limit) := by
  obtain ⟨hB, hbe, hE, hsz, -⟩ := id hi
  have h32 := hi.cap_le
  unfold twcc_packetArrivalTimeMap_RemoveOldPackets ArrivalMap.removeOld
  rw [conc_endSN]
  simp only []
  have hl := loop_mono _ _ (remove_loop (min sn m.endSN) limit (by unfold I64 at *; omega)
    (min sn m.endSN - m.beginSN).toNat m (hi.2.2.2.2.imp id CapOK.p2) rfl (by unfold I64; omega)) (show _ ≤ fuel by omega)
  obtain ⟨s1, s2, s3, s4, -⟩ := ArrivalMap.removeLoop_spec (min sn m.endSN - m.beginSN).toNat m (min sn m.endSN) limit
    (by omega) (by omega)
  generalize ArrivalMap.removeLoop (min sn m.endSN - m.beginSN).toNat m (min sn m.endSN) limit = r at *
  obtain ⟨b, rfl⟩ : ∃ b, r = { m with beginSN := b } := ⟨_, ArrivalMap.eq_raise s1 s2⟩
  have s3' : m.beginSN ≤ b := s3
  have s4' : b ≤ max m.beginSN (min sn m.endSN) := s4
  obtain ⟨a1, a2⟩ := adjust_raised m hi b ⟨s3', by omega⟩ fuel hf
  simp only [hl, conc_endSN, conc_beginSN, a1]
  exact ⟨trivial, a2⟩

/-- the Go result triple `(seq, time, ok)` of a model result. -/
def findRes : Option (Int × Int) → Int × Int × Bool
  | some (s, t) => (s, t, true)
  | none => (-1, -1, false)

theorem find_loop (m : ArrivalMap) (hc : m.cap = 0 ∨ P2 m.cap) (hE : I64 m.endSN) :
    ∀ (n : Nat) (seq : Int), (m.endSN - seq).toNat = n → I64 seq →
      ∃ seq', loop (n + 2) (fun ((__ret, seq) : Option (Int × Int × Bool) × Int) => (__ret.isNone && (decide (seq < (conc m).endSequenceNumber))))
        (fun ((__ret, seq) : Option (Int × Int × Bool) × Int) =>
          let arrivalTime := (twcc_packetArrivalTimeMap_get (conc m) seq)
          if (decide (arrivalTime ≥ 0)) then
            let __ret : Option ((Int × Int × Bool)) := some (seq, arrivalTime, true)
            (__ret, seq)
          else
            let seq := (s64 (seq + 1))
            (__ret, seq))
        (none, seq)
      = some ((ArrivalMap.findLoop m n seq).map (fun p => (p.1, p.2, true)), seq') := by
  rw [conc_endSN]
  intro n
  induction n with
  | zero =>
    intro seq hn hs
    exact ⟨seq, by simp [loop, show ¬ seq < m.endSN by omega, ArrivalMap.findLoop]⟩
  | succ n ih =>
    intro seq hn hs
    obtain ⟨h1, h2, h64⟩ := count_step hE hn hs
    have hget := get_src_eq_model _ _ (rel_conc m) hc seq
    by_cases h3 : m.get seq ≥ 0
    · exact ⟨seq, by simp [loop, h1, h3, hget, ArrivalMap.findLoop]⟩
    · obtain ⟨seq', hl⟩ := ih (seq + 1) h2 h64
      refine ⟨seq', ?_⟩
      simp only [loop, h1, h3, hget, s64_id _ h64, decide_true, decide_false, Option.isNone_none, Bool.and_self,
        if_true, if_false, Bool.false_eq_true, ArrivalMap.findLoop]
      exact hl

theorem findNext_eq (m : ArrivalMap) (hc : m.cap = 0 ∨ P2 m.cap) (hB : I64 m.beginSN) (hE : I64 m.endSN)
    (sn : Int) (hsn : I64 sn) (fuel : Nat) (hf : (m.endSN - m.clamp sn).toNat + 2 ≤ fuel) :
    twcc_packetArrivalTimeMap_FindNextAtOrAfter fuel (conc m) sn = some (findRes (m.findNext sn)) := by
  have hcl := FnTwcc.clamp_src_eq_model (conc m) m rfl rfl sn
  have hcI : I64 (m.clamp sn) := by
    unfold ArrivalMap.clamp; split
    · exact hB
    · split
      · exact hE
      · exact hsn
  obtain ⟨seq', hl⟩ := find_loop m hc hE (m.endSN - m.clamp sn).toNat (m.clamp sn) rfl hcI
  have hl := loop_mono _ _ hl hf
  simp only [twcc_packetArrivalTimeMap_FindNextAtOrAfter, ArrivalMap.findNext, hcl, hl]
  cases ArrivalMap.findLoop m (m.endSN - m.clamp sn).toNat (m.clamp sn) with
  | none => rfl
  | some p => rfl

/-- model of `EraseTo`, transcribed branch by branch. -/
def eraseTo (m : ArrivalMap) (sn : Int) : ArrivalMap :=
  if sn < m.beginSN then m
  else if sn ≥ m.endSN then { m with beginSN := m.endSN }
  else ({ m with beginSN := sn } : ArrivalMap).adjustToSize (m.endSN - sn)

theorem eraseTo_eq (m : ArrivalMap) (hi : MInv m) (sn : Int) (fuel : Nat) (hf : 32770 ≤ fuel) :
    twcc_packetArrivalTimeMap_EraseTo fuel (conc m) sn = some (conc (eraseTo m sn)) ∧ MInv (eraseTo m sn) := by
  obtain ⟨hB, hbe, hE, hsz, -⟩ := id hi
  unfold twcc_packetArrivalTimeMap_EraseTo eraseTo
  simp only [conc_endSN, conc_beginSN]
  by_cases h1 : sn < m.beginSN
  · simp only [h1, decide_true, if_true]
    exact ⟨trivial, hi⟩
  · simp only [h1, decide_false, if_false, Bool.false_eq_true]
    by_cases h2 : sn ≥ m.endSN
    · simp only [h2, decide_true, if_true]
      exact ⟨rfl, by show _ < m.endSN; omega, by show m.endSN ≤ m.endSN; omega, hE,
        by show m.endSN - m.endSN ≤ ((m.cap : Nat) : Int); omega, hi.2.2.2.2⟩
    · simp only [h2, decide_false, if_false, Bool.false_eq_true]
      obtain ⟨a1, a2⟩ := adjust_raised m hi sn ⟨by omega, by omega⟩ fuel hf
      have a1' : twcc_packetArrivalTimeMap_adjustToSize fuel
          { arrivalTimes := (conc m).arrivalTimes, beginSequenceNumber := sn, endSequenceNumber := m.endSN }
          (s64 (m.endSN - sn)) = _ := a1
      simp only [a1']
      exact ⟨trivial, a2⟩

/-- under the invariant the capacity is 0 or a power of two (what `index`/`get` need). -/
theorem Rel.cap_ok {g : S_twcc_packetArrivalTimeMap} {m : ArrivalMap} (h : Rel g m) (hi : Inv g) :
    m.cap = 0 ∨ P2 m.cap := by
  have := (h.inv.1 hi).2.2.2.2
  exact this.imp id CapOK.p2

/-- ★ `reallocate` as written in the source terminates and equals the model's.  The Go code needs the old
capacity to be 0 or a power of two and the new one a power of two (≤ 2^62); begin/end are any int64. -/
theorem reallocate_src_eq_model (g : S_twcc_packetArrivalTimeMap) (m : ArrivalMap) (h : Rel g m)
    (hc : m.cap = 0 ∨ P2 m.cap) (c : Nat) (hcn : P2 c) (hB : I64 m.beginSN) (hE : I64 m.endSN) :
    ∃ n, ∀ fuel, n ≤ fuel → ∃ g', twcc_packetArrivalTimeMap_reallocate fuel g (c : Int) = some g' ∧
      Rel g' (m.reallocate c) := by
  obtain rfl := h.eq
  exact ⟨(m.endSN - m.beginSN).toNat + 1, fun fuel hf =>
    ⟨_, reallocate_eq m hc c hcn fuel ⟨hB, hE, hf⟩, rel_conc _⟩⟩

/-- ★ `reallocate` to an allowed capacity that holds the window preserves the invariant. -/
theorem reallocate_preserves_inv (g g' : S_twcc_packetArrivalTimeMap) (m : ArrivalMap) (h : Rel g m)
    (hi : Inv g) (c : Nat) (hc : CapOK c) (hsz : m.endSN - m.beginSN ≤ (c : Int))
    (h' : Rel g' (m.reallocate c)) : Inv g' := by
  obtain ⟨hB, hbe, hE, _, _⟩ := h.inv.1 hi
  rw [h'.inv]
  unfold MInv
  rw [ArrivalMap.cap_reallocate]
  exact ⟨hB, hbe, hE, hsz, Or.inr hc⟩

/-- ★ `setNotReceived` preserves the invariant (it only overwrites slots). -/
theorem setNotReceived_preserves_inv (g g' : S_twcc_packetArrivalTimeMap) (m : ArrivalMap) (h : Rel g m)
    (hi : Inv g) (s e : Int) (h' : Rel g' (m.setNotReceived s e)) : Inv g' := by
  have := h.inv.1 hi
  rw [h'.inv]
  unfold MInv at this ⊢
  rw [ArrivalMap.cap_setNotReceived]
  exact this

/-- ★ `adjustToSize` as written in the source terminates (both capacity loops and both copies) and equals
the model's (whose loops have fuel 64).  The Go code needs a power-of-two capacity (or capacity 0 with
nothing to hold: doubling 0 never terminates) and `|newSize| ≤ 2^60` (no overflow of `newSize*4`). -/
theorem adjustToSize_src_eq_model (g : S_twcc_packetArrivalTimeMap) (m : ArrivalMap) (h : Rel g m) (n : Int)
    (hc : (m.cap = 0 ∧ n ≤ 0) ∨ P2 m.cap) (hn : SizeOK n) (hB : I64 m.beginSN) (hE : I64 m.endSN) :
    ∃ N, ∀ fuel, N ≤ fuel → ∃ g', twcc_packetArrivalTimeMap_adjustToSize fuel g n = some g' ∧
      Rel g' (m.adjustToSize n) := by
  obtain rfl := h.eq
  exact ⟨65 + (m.endSN - m.beginSN).toNat + 1, fun fuel hf =>
    ⟨_, adjust_eq m n hc fuel ⟨⟨hB, hE, by omega⟩, hn, by omega⟩, rel_conc _⟩⟩

/-- ★ `adjustToSize n` with `end − begin ≤ n ≤ 32768` preserves the invariant, and the capacity becomes ≥ n
when it was not 0. -/
theorem adjustToSize_preserves_inv (g g' : S_twcc_packetArrivalTimeMap) (m : ArrivalMap) (h : Rel g m)
    (hi : Inv g) (n : Int) (h1 : m.endSN - m.beginSN ≤ n) (h2 : n ≤ 32768) (h0 : m.cap = 0 → n ≤ 0)
    (h' : Rel g' (m.adjustToSize n)) : Inv g' ∧ (m.cap ≠ 0 → n ≤ ((m.adjustToSize n).cap : Int)) := by
  obtain ⟨hB, hbe, hE, hsz, hcap⟩ := h.inv.1 hi
  rw [h'.inv]
  unfold MInv
  rw [adjust_begin, adjust_end]
  rcases hcap with hz | hc
  · rw [adjust_zero m n hz (h0 hz)]
    exact ⟨⟨hB, hbe, hE, hsz, Or.inl hz⟩, fun hne => absurd hz hne⟩
  · obtain ⟨hc1, hn1⟩ := adjust_cap m n hc h2
    exact ⟨⟨hB, hbe, hE, by omega, Or.inr hc1⟩, fun _ => hn1⟩

/-- ★ `AddPacket` as written in the source terminates (fuel 32770 suffices for all its loops) and equals the
model's `addPacket`, for every state satisfying the invariant and every `|sn| < 2^62`, every `t`; the
invariant is preserved and afterwards the capacity is a power of two in [128, 32768] (so the first
`AddPacket` establishes the power-of-two capacity). -/
theorem addPacket_src_eq_model (g : S_twcc_packetArrivalTimeMap) (m : ArrivalMap) (h : Rel g m) (hi : Inv g)
    (sn t : Int) (hsn : -4611686018427387904 < sn ∧ sn < 4611686018427387904) :
    ∃ n, ∀ fuel, n ≤ fuel → ∃ g', twcc_packetArrivalTimeMap_AddPacket fuel g sn t = some g' ∧
      Rel g' (m.addPacket sn t) ∧ Inv g' ∧ CapOK g'.arrivalTimes.length := by
  obtain rfl := h.eq
  obtain ⟨i1, i2⟩ := addPacket_inv m hi sn t hsn
  exact ⟨32770, fun fuel hf => ⟨_, addPacket_eq m hi sn t hsn fuel hf, rel_conc _, i1, by
    simpa [conc, ArrivalMap.cap] using i2⟩⟩

/-- ★ `RemoveOldPackets` as written in the source terminates and equals the model's `removeOld`, for every
state satisfying the invariant, every int64 `sn` and `limit`; the invariant is preserved. -/
theorem removeOldPackets_src_eq_model (g : S_twcc_packetArrivalTimeMap) (m : ArrivalMap) (h : Rel g m)
    (hi : Inv g) (sn limit : Int) (hsn : I64 sn) :
    ∃ n, ∀ fuel, n ≤ fuel → ∃ g', twcc_packetArrivalTimeMap_RemoveOldPackets fuel g sn limit = some g' ∧
      Rel g' (m.removeOld sn limit) ∧ Inv g' := by
  obtain rfl := h.eq
  have hm := (inv_conc m).1 hi
  exact ⟨32770, fun fuel hf => ⟨_, (removeOld_eq m hm sn limit hsn fuel hf).1, rel_conc _,
    (inv_conc _).2 (removeOld_eq m hm sn limit hsn fuel hf).2⟩⟩

/-- ★ `FindNextAtOrAfter` as written in the source terminates and returns the model's `findNext`
(`none` ↔ `(-1, -1, false)`), for every int64 `sn`; needs only a capacity that is 0 or a power of two and
begin/end in int64 range. -/
theorem findNextAtOrAfter_src_eq_model (g : S_twcc_packetArrivalTimeMap) (m : ArrivalMap) (h : Rel g m)
    (hc : m.cap = 0 ∨ P2 m.cap) (hB : I64 m.beginSN) (hE : I64 m.endSN) (sn : Int) (hsn : I64 sn) :
    ∃ n, ∀ fuel, n ≤ fuel →
      twcc_packetArrivalTimeMap_FindNextAtOrAfter fuel g sn = some (findRes (m.findNext sn)) := by
  obtain rfl := h.eq
  exact ⟨(m.endSN - m.clamp sn).toNat + 2, fun fuel hf => findNext_eq m hc hB hE sn hsn fuel hf⟩

/-- ★ `EraseTo` as written in the source terminates and equals `eraseTo` (defined above: Model/Twcc.lean has
no counterpart), for every state satisfying the invariant and every `sn`; the invariant is preserved. -/
theorem eraseTo_src_eq_model (g : S_twcc_packetArrivalTimeMap) (m : ArrivalMap) (h : Rel g m) (hi : Inv g)
    (sn : Int) :
    ∃ n, ∀ fuel, n ≤ fuel → ∃ g', twcc_packetArrivalTimeMap_EraseTo fuel g sn = some g' ∧
      Rel g' (eraseTo m sn) ∧ Inv g' := by
  obtain rfl := h.eq
  have hm := (inv_conc m).1 hi
  exact ⟨32770, fun fuel hf => ⟨_, (eraseTo_eq m hm sn fuel hf).1, rel_conc _,
    (inv_conc _).2 (eraseTo_eq m hm sn fuel hf).2⟩⟩

/-! ## the hypotheses are satisfiable: a concrete non-trivial state -/

/-- window [-3, 2) in a 128-slot buffer: packets -3 and 1 received, -2..0 marked "not received";
slot of -3 is 125 (negative sequence number). -/
def mEx : ArrivalMap := (({} : ArrivalMap).addPacket (-3) 1000).addPacket 1 2000

theorem mEx_inv : Inv (conc mEx) ∧ CapOK mEx.cap :=
  addPacket_inv _ (addPacket_inv ({} : ArrivalMap) inv_init.1 (-3) 1000 (by omega)).1 1 2000 (by omega)

theorem mEx_p2 : P2 mEx.cap := mEx_inv.2.p2
theorem mEx_b : I64 mEx.beginSN := by
  have := ((inv_conc _).1 mEx_inv.1); unfold MInv at this; unfold I64; omega
theorem mEx_e : I64 mEx.endSN := by
  have := ((inv_conc _).1 mEx_inv.1); unfold MInv at this; unfold I64; omega

example := band_mask (-3) 7
example := capacity_src_eq_model (conc mEx) mEx (rel_conc _)
example := index_src_eq_model (conc mEx) mEx (rel_conc _) mEx_p2 (-3)
example := index_in_bounds (conc mEx) mEx (rel_conc _) mEx_p2 (-3)
example := get_src_eq_model (conc mEx) mEx (rel_conc _) (Or.inr mEx_p2) (-3)
example := hasReceived_src_eq_model (conc mEx) mEx (rel_conc _) (Or.inr mEx_p2) (-2)
example := setNotReceived_src_eq_model (conc mEx) mEx (rel_conc _) mEx_p2 (-10) (-3) (by unfold I64; omega)
  (by unfold I64; omega)
example := reallocate_src_eq_model (conc mEx) mEx (rel_conc _) (Or.inr mEx_p2) 256 ⟨⟨8, rfl⟩, by omega⟩ mEx_b mEx_e
example := fun g' => reallocate_preserves_inv (conc mEx) g' mEx (rel_conc _) mEx_inv.1 32768
  ⟨⟨15, rfl⟩, by omega, by omega⟩
  (by have := ((inv_conc _).1 mEx_inv.1); unfold MInv at this; have := mEx_inv.2.2.2; omega)
example := fun g' => setNotReceived_preserves_inv (conc mEx) g' mEx (rel_conc _) mEx_inv.1 (-10) (-3)
example := adjustToSize_src_eq_model (conc mEx) mEx (rel_conc _) 1000 (Or.inr mEx_p2) (by unfold SizeOK; omega)
  mEx_b mEx_e
example := fun g' => adjustToSize_preserves_inv (conc mEx) g' mEx (rel_conc _) mEx_inv.1 32768
  (by have := ((inv_conc _).1 mEx_inv.1); unfold MInv at this; have := mEx_inv.2.2.2; omega) (by omega)
  (fun h => by have := mEx_inv.2.2.1; omega)
example := addPacket_src_eq_model (conc mEx) mEx (rel_conc _) mEx_inv.1 (-40) 3000 (by omega)
example := addPacket_src_eq_model {} {} inv_init.2 inv_init.1 (-40) 3000 (by omega)
example := removeOldPackets_src_eq_model (conc mEx) mEx (rel_conc _) mEx_inv.1 0 1500 (by unfold I64; omega)
example := findNextAtOrAfter_src_eq_model (conc mEx) mEx (rel_conc _) (Or.inr mEx_p2) mEx_b mEx_e (-2)
  (by unfold I64; omega)
example := eraseTo_src_eq_model (conc mEx) mEx (rel_conc _) mEx_inv.1 0

end Interceptor.Facts.FnTwccMap
