/-
C13 — the retention facts regenerated from /repo: every statement through which a value derived
from a caller-owned parameter (`header *rtp.Header`, `payload/b []byte`, `attributes`,
`pkts []rtcp.Packet`) of an RTP/RTCP reader or writer function leaves the call (store into a
field / element / container, channel send, `go`) passes through a copying wrapper, or is listed
in the exception table below.  Closed by `decide +kernel`; a source change that adds an aliasing
store makes it fail (as the trees before the fixes of F-25, F-26 and F-33 do).
-/
import Interceptor.Facts.RetentionTypes
import Interceptor.Gen.RetentionFacts
import Interceptor.Props.C13
namespace Interceptor.Facts.C13
open Interceptor.Facts Interceptor.Gen.RetentionFacts Interceptor.Alias

/-- Sites that are not copies, with the reason why they are outside the property (all trusted,
listed in the evidence). -/
def exceptions : List RException := [
  { ctx := nm! "rtpbuffer.RTPBuffer.Add", kind := .store,
    reason := "the RetainablePacket comes from PacketFactory.NewPacket: PacketFactoryCopy copies header (Clone) and payload (copy into a pooled buffer); PacketFactoryNoOp is installed only by nack.DisableCopy, the documented exception of C13" },
  { ctx := nm! "interceptor.Attributes.GetRTPHeader", kind := .store,
    reason := "parse cache: the header parsed from the read buffer is stored in the attributes map that travels with this very Read and is returned to the caller; the map is the caller's, nothing is kept by the interceptor (attributes are outside the wording of C13)" },
  { ctx := nm! "interceptor.Attributes.GetRTCPPackets", kind := .store,
    reason := "parse cache: as GetRTPHeader, for the RTCP packets parsed from the read buffer" },
  { ctx := nm! "nack.ResponderInterceptor.BindRTCPReader", kind := .goStmt,
    reason := "the resend goroutine captures the parsed *rtcp.TransportLayerNack: pion/rtcp unmarshals NACK pairs into a fresh []NackPair of integers, no reference into the read buffer (trusted: pion/rtcp); the correspondence run overwrites the buffer before the goroutine runs" },
  { ctx := nm! "twcc.SenderInterceptor.BindRemoteStream", kind := .send,
    reason := "twcc.packet.hdr (the header parsed from the read buffer) is sent to the loop goroutine but never read there: only ssrc, sequenceNumber and arrivalTime are used and the value is dropped when Record returns" }
]

/-- ★ every retention site of every RTP/RTCP reader/writer function is a copy or a justified exception. -/
theorem facts_ok : sites.all (siteOk exceptions) = true := by decide +kernel

/-- no entry of the exception table is stale. -/
theorem exceptions_used : staleExceptions exceptions sites = [] := by decide +kernel

/-- the translator found the reader/writer functions (a refactoring that hides them from the
pass would empty the fact file and make `facts_ok` vacuous). -/
theorem roots_found : 25 ≤ roots.length ∧ 10 ≤ sites.length := by decide +kernel

/-- the storing policy of an interceptor as the facts say: all-copy iff every site in its
packages is a copy or excepted. -/
def policyOf (pkgs : List Name) : Policy :=
  if (sites.filter fun s => pkgs.any (·.isPrefixOf s.ctx)).all (siteOk exceptions) then Policy.copyAll
  else ⟨false, false, false, false⟩

/-- the interceptors of the correspondence run with the packages their calls reach. -/
def interceptors : List (String × List Name) := [
  ("responder", [nm! "nack.", nm! "rtpbuffer.", nm! "interceptor."]),
  ("flexfec", [nm! "flexfec."]),
  ("leaky", [nm! "gcc.", nm! "cc."]),
  ("pacing", [nm! "pacing."]),
  ("pdsend", [nm! "packetdump."]),
  ("pdrecv", [nm! "packetdump.", nm! "interceptor."]),
  ("stats", [nm! "stats.", nm! "interceptor."]),
  ("jitter", [nm! "jitterbuffer."]),
  ("twccsend", [nm! "twcc.", nm! "interceptor."]),
  ("rtpfb", [nm! "rtpfb.", nm! "interceptor."]),
  ("sr", [nm! "report."]),
  ("rr", [nm! "report.", nm! "interceptor."])]

theorem policies_copy : interceptors.all (fun i => (policyOf i.2).allCopy) = true := by decide +kernel

/-- ★ `noninterference` instantiated from the facts: for every interceptor of the run, with the
storing policy the regenerated facts give it, and whatever its logic is, inserting scribbles
after returned calls does not change a single emission. -/
theorem noninterference_per_interceptor {ε} (M : Machine ε) {ops ops' : List Op} (h : Scribbled ops ops') :
    ∀ i ∈ interceptors, emissions (policyOf i.2) M ops = emissions (policyOf i.2) M ops' := by
  intro i hi
  have := List.all_eq_true.mp policies_copy i hi
  exact noninterference this M h

end Interceptor.Facts.C13
