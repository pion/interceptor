/-
Generated translation (Gen/Fn_report.lean, regenerated from /repo on every run) of `newSenderStream`
(pkg/report/sender_stream.go) against the transcription `goNew` that Facts/FnSenderReport.lean's `rel_new`
starts from: the constructor as written in the source IS that literal, so
`Rel (newSenderStream …) (SenderReport.new …)` holds for the regenerated definition and the chain
constructor → processRTP* → generateReport is about source-derived definitions from the first step on.
-/
import Interceptor.Gen.Fn_report
import Interceptor.Facts.FnSenderReport
namespace Interceptor.Facts.FnSenderNew
open Interceptor.Gen.Fn Interceptor.GoSem Interceptor

/-- ★ the constructor as written in the source is the literal `rel_new` is about (the zero `time.Time` is the
default of the generated structure). -/
theorem newSenderStream_src_eq_goNew (ssrc rate : Nat) (useLatest : Bool) :
    report_newSenderStream ssrc rate useLatest = FnSenderReport.goNew ssrc rate useLatest := rfl

/-- ★ the constructor as written in the source establishes the abstraction relation of FnSenderReport. -/
theorem newSenderStream_rel (ssrc rate : Nat) (useLatest : Bool) :
    FnSenderReport.Rel (report_newSenderStream ssrc rate useLatest) (SenderReport.new ssrc rate useLatest) := by
  rw [newSenderStream_src_eq_goNew]; exact FnSenderReport.rel_new ssrc rate useLatest

end Interceptor.Facts.FnSenderNew
