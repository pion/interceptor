/-
Generated translations of pkg/twcc/twcc.go (chunk.canAdd, chunk.add, chunk.reset, feedback.setBase) and of
arrival_time_map.go (Clamp, BeginSequenceNumber/EndSequenceNumber) equal the hand-written model Model/Twcc.lean
on the abstraction (`chunkRel` for chunks, equal fields for the others).
-/
import Interceptor.Gen.Fn_twcc
import Interceptor.Model.Twcc
namespace Interceptor.Facts.FnTwcc
open Interceptor.Gen.Fn Interceptor.GoSem Interceptor.Twcc

/-- the Go status symbol of a model symbol. -/
def code (s : Sym) : Int := (s.code : Int)

theorem code_inj (a b : Sym) : code a = code b ↔ a = b := by
  cases a <;> cases b <;> simp [code, Sym.code]

/-- abstraction: the Go chunk represents the model chunk state. -/
def chunkRel (c : S_twcc_chunk) (m : ChunkSt) : Prop :=
  c.hasLargeDelta = m.hasLarge ∧ c.hasDifferentTypes = m.hasDiff ∧ c.deltas = m.deltas.toList.map code

theorem idx0 (m : ChunkSt) : idx (m.deltas.toList.map code) 0 = (if m.deltas.size = 0 then 0 else code m.first) := by
  unfold idx ChunkSt.first
  rcases m with ⟨hl, hd, ⟨ds⟩⟩
  cases ds <;> simp [code, Sym.code]

/-- ★ `chunk.canAdd` as written in the source equals the model's. -/
theorem canAdd_src_eq_model (c : S_twcc_chunk) (m : ChunkSt) (h : chunkRel c m) (d : Sym) :
    twcc_chunk_canAdd c (code d) = m.canAdd d := by
  obtain ⟨h1, h2, h3⟩ := h
  unfold twcc_chunk_canAdd ChunkSt.canAdd maxTwoBitCap maxOneBitCap maxRunLengthCap
  have hlen : len c.deltas = (m.deltas.size : Int) := by rw [h3]; simp [len]
  have hlarge : (code d ≠ 2) ↔ d ≠ .large := by
    have := code_inj d .large; simp [code, Sym.code] at this ⊢; exact not_congr this
  rw [hlen, h1, h2, h3, idx0]
  by_cases a1 : m.deltas.size < 7
  · have : ((m.deltas.size : Int) < 7) := by omega
    simp [a1, this]
  · have n1 : ¬ ((m.deltas.size : Int) < 7) := by omega
    have n0 : m.deltas.size ≠ 0 := by omega
    simp only [a1, n1, n0, decide_false, Bool.false_eq_true, if_false]
    have e14 : ((m.deltas.size : Int) < 14) ↔ m.deltas.size < 14 := by omega
    have e8191 : ((m.deltas.size : Int) < 8191) ↔ m.deltas.size < 8191 := by omega
    have efirst : (code d = code m.first) ↔ d = m.first := code_inj _ _
    simp only [e14, e8191, hlarge, efirst]
    cases m.hasLarge <;> cases m.hasDiff <;> simp <;> (repeat' split) <;> simp_all

/-- ★ `chunk.add` as written in the source equals the model's. -/
theorem add_src_eq_model (c : S_twcc_chunk) (m : ChunkSt) (h : chunkRel c m) (d : Sym) :
    chunkRel (twcc_chunk_add c (code d)) (m.add d) := by
  obtain ⟨h1, h2, h3⟩ := h
  unfold twcc_chunk_add ChunkSt.add chunkRel
  have hlarge : (code d = 2) ↔ d = .large := by
    have := code_inj d .large; simpa [code, Sym.code] using this
  refine ⟨?_, ?_, ?_⟩
  · simp [h1, hlarge]
  · simp only [h2, h3]
    congr 1
    rcases m with ⟨hl, hd, ⟨ds⟩⟩
    cases ds with
    | nil => simp [idx]
    | cons x xs => simp [idx, code_inj]
  · simp [h3]

/-- ★ `feedback.setBase` as written in the source equals the model's (for `|timeUS| ≤ 2^62`). -/
theorem setBase_src_eq_model (f : S_twcc_feedback) (m : Feedback) (seq : Nat) (t : Int)
    (ht : -4611686018427387904 ≤ t ∧ t ≤ 4611686018427387904) :
    let f' := twcc_feedback_setBase f seq t
    let m' := m.setBase seq t
    f'.baseSequenceNumber = m'.base ∧ f'.nextSequenceNumber = m'.nextSeq ∧
    f'.refTimestamp64MS = m'.ref64 ∧ f'.lastTimestampUS = m'.lastUS := by
  have hq : -4611686018427387904 ≤ Int.tdiv t 64000 ∧ Int.tdiv t 64000 ≤ 4611686018427387904 ∧
      -4611686018427387904 ≤ Int.tdiv t 64000 * 64000 ∧ Int.tdiv t 64000 * 64000 ≤ 4611686018427387904 := by
    by_cases h0 : 0 ≤ t
    · rw [Int.tdiv_eq_ediv_of_nonneg h0]; omega
    · have e : Int.tdiv t 64000 = -((-t) / 64000) := by
        have := Int.neg_tdiv (a := -t) (b := 64000)
        rw [Int.neg_neg] at this
        rw [this, Int.tdiv_eq_ediv_of_nonneg (by omega)]
      rw [e]; omega
  simp only [twcc_feedback_setBase, Feedback.setBase, quo]
  have e1 : s64 (Int.tdiv t 64000) = Int.tdiv t 64000 := by unfold s64; omega
  have e2 : s64 (Int.tdiv t 64000 * 64000) = Int.tdiv t 64000 * 64000 := by unfold s64; omega
  simp [e1, e2]

/-- ★ `Clamp` as written in the source equals the model's. -/
theorem clamp_src_eq_model (g : S_twcc_packetArrivalTimeMap) (m : ArrivalMap)
    (hb : g.beginSequenceNumber = m.beginSN) (he : g.endSequenceNumber = m.endSN) (sn : Int) :
    twcc_packetArrivalTimeMap_Clamp g sn = m.clamp sn := by
  unfold twcc_packetArrivalTimeMap_Clamp ArrivalMap.clamp
  rw [hb, he]
  split <;> simp_all <;> omega

/-- ★ `chunk.reset` as written in the source yields the model's empty chunk state (the `{}` that `encode` leaves behind). -/
theorem reset_src_eq_model (c : S_twcc_chunk) : chunkRel (twcc_chunk_reset c) {} := by
  simp [twcc_chunk_reset, chunkRel]

/-- ★ `BeginSequenceNumber` / `EndSequenceNumber` as written in the source return the model's window bounds. -/
theorem bounds_src_eq_model (g : S_twcc_packetArrivalTimeMap) (m : ArrivalMap)
    (hb : g.beginSequenceNumber = m.beginSN) (he : g.endSequenceNumber = m.endSN) :
    twcc_packetArrivalTimeMap_BeginSequenceNumber g = m.beginSN ∧
    twcc_packetArrivalTimeMap_EndSequenceNumber g = m.endSN := by
  simp [twcc_packetArrivalTimeMap_BeginSequenceNumber, twcc_packetArrivalTimeMap_EndSequenceNumber, hb, he]

end Interceptor.Facts.FnTwcc
