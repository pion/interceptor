/-
The generated translation of internal/sequencenumber/unwrapper.go (Gen/Fn_sequencenumber.lean, regenerated from
/repo on every run) computes exactly the hand-written model Model/Unwrapper.lean that the C20, C05,
C08 and C19 theorems are about — for every 16-bit input and every state whose last result is within
±2^62 (int64 overflow needs more than 2^46 sequence-number cycles).
-/
import Interceptor.Gen.Fn_sequencenumber
import Interceptor.Proofs.Unwrapper
import Interceptor.Proofs.GoWrap
namespace Interceptor.Facts.FnUnwrapper
open Interceptor.Gen.Fn Interceptor.GoSem

/-- abstraction of the Go struct to the model state. -/
def absU (u : S_sequencenumber_Unwrapper) : Unwrapper.State :=
  if u.init then some u.lastUnwrapped else none

/-- ★ `isNewer` as written in the source equals the model's. -/
theorem isNewer_src_eq_model (v p : Nat) (hv : v < 65536) (hp : p < 65536) :
    sequencenumber_isNewer v p = Unwrapper.isNewer v p := by
  unfold sequencenumber_isNewer Unwrapper.isNewer u16
  rw [← Unwrapper.fwd_cast v p hp]
  generalize (v + 65536 - p) % 65536 = n
  have e1 : ((n : Int) = 32768) = (n = 32768) := propext (by omega)
  have e2 : ((n : Int) < 32768) = (n < 32768) := propext (by omega)
  simp only [e1, e2, Int.ofNat_lt, gt_iff_lt, ne_eq, Int.natCast_inj, decide_eq_true_eq]

theorem Unwrap_fresh (last i : Int) :
    sequencenumber_Unwrapper_Unwrap ⟨false, last⟩ i = (i, ⟨true, i⟩) := rfl

/-- on an initialised unwrapper the translated `Unwrap` returns the model's `step` and stores it. -/
theorem Unwrap_init (last : Int) (i : Nat) (hi : i < 65536)
    (hb : -4611686018427387904 ≤ last ∧ last ≤ 4611686018427387904) :
    sequencenumber_Unwrapper_Unwrap ⟨true, last⟩ i
      = (Unwrapper.step last i, ⟨true, Unwrapper.step last i⟩) := by
  have hnew := isNewer_src_eq_model i _ hi (Unwrapper.lastWrapped_lt last)
  rw [Unwrapper.lastWrapped_cast] at hnew
  have hd : 0 ≤ ((i : Int) - last) % 65536 ∧ ((i : Int) - last) % 65536 < 65536 :=
    ⟨Int.emod_nonneg _ (by decide), Int.emod_lt_of_pos _ (by decide)⟩
  simp only [sequencenumber_Unwrapper_Unwrap, Unwrapper.step_int last i, u16,
    hnew, Int.sub_emod_emod, Bool.not_true, Bool.false_eq_true, if_false]
  generalize ((i : Int) - last) % 65536 = d at hd
  rw [s64_id (last + d) (by omega), s64_id (d - 65536) (by omega), s64_id (last + d - 65536) (by omega),
    s64_id (last + (d - 65536)) (by omega)]
  have hneg : ¬ d < 0 := by omega
  simp only [hneg, decide_false, Bool.false_eq_true, if_false, Bool.and_eq_true, decide_eq_true_eq]
  split
  · rfl
  · split <;> rfl

/-- ★ `Unwrap` as written in the source equals the model's step, on the abstraction. -/
theorem unwrap_src_eq_model (u : S_sequencenumber_Unwrapper) (i : Nat) (hi : i < 65536)
    (hb : -4611686018427387904 ≤ u.lastUnwrapped ∧ u.lastUnwrapped ≤ 4611686018427387904) :
    let r := sequencenumber_Unwrapper_Unwrap u i
    (absU r.2, r.1) = Unwrapper.unwrap (absU u) i := by
  obtain ⟨ini, last⟩ := u
  cases ini
  · rfl
  · simp only [Unwrap_init last i hi hb, absU, Unwrapper.unwrap, if_true]

end Interceptor.Facts.FnUnwrapper
