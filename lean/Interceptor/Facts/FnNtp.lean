/-
The generated translation of internal/ntp/ntp.go (regenerated from /repo on every run) computes exactly
the hand-written model the C20 theorems are about.
-/
import Interceptor.Gen.Fn_ntp
import Interceptor.Model.Ntp
import Interceptor.Base.GoBits
import Interceptor.Proofs.GoWrap
namespace Interceptor.Facts.FnNtp
open Interceptor.Gen.Fn Interceptor.GoSem

theorem toUint32_cast (q : Rat) : ((F64.toUint32 q : Nat) : Int) = u32 (F64.toInt64 q) := by
  unfold F64.toUint32 u32; omega

/-- `a<<32 | b` for 32-bit halves. -/
theorem bor_shl32 (a b : Nat) (ha : a < 4294967296) (hb : b < 4294967296) :
    u64 (bor (u64 (shl (a : Int) 32)) (b : Int)) = ((a * 4294967296 + b : Nat) : Int) := by
  have h1 : shl (a : Int) 32 = ((a * 4294967296 : Nat) : Int) := by
    unfold shl; rw [Int.natCast_mul]; rfl
  have h2 : a * 4294967296 ||| b = a * 4294967296 + b := or_field a b 32 hb
  rw [h1, u64_id ((a * 4294967296 : Nat) : Int) (by omega), bor_ofNat, h2, u64_id _ (by omega)]

/-- ★ `ToNTP` as written in the source equals the model. -/
theorem toNTP_src_eq_model (ns : Int) : ntp_ToNTP ns = (Ntp.toNTP ns : Int) := by
  unfold ntp_ToNTP Ntp.toNTP
  simp only [← toUint32_cast]
  rw [bor_shl32 _ _ (by unfold F64.toUint32; omega) (by unfold F64.toUint32; omega)]

end Interceptor.Facts.FnNtp
