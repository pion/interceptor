/-
Generated translations of pkg/gcc (gcc.go, state.go, arrival_group_accumulator.go, slope_estimator.go,
rate_controller.go; Gen/Fn_gcc.lean, regenerated from /repo on every run) against the hand-written model
Model/Gcc.lean that the C16 theorems are about.

* `clampInt`, `state.transition` have direct counterparts in the model (`Gcc.clampInt`,
  `Gcc.State.transition`) and are proved equal to them for every argument.
* `clampDuration` has no counterpart of its own: it is stated against `Gcc.clampInt` (a `time.Duration`
  is an int64 and `int` is 64 bit).
* `interArrivalTimePkt`, `interGroupDelayVariationPkt`, `interGroupDelayVariation` belong to the stages the
  model treats as oracles ("arrival-group / Kalman / threshold / overuse stages collapse into some usage"):
  there is no model function.  They are stated against the closest model expression, the difference of
  instants `GoTime.sub t (some u) = t − u` of Model/GoTime.lean, under the exact condition the Go code
  needs (no `Sub` saturates, the int64 subtraction does not overflow).
* `rateController.onReceivedRate`, `rateController.updateRTT` assign fields (`latestReceivedRate`,
  `latestRTT`) the model does not have: they are stated as stutter steps of the model (the abstraction of the
  rate controller, `target`/`init`, is unchanged, as is every other field).
-/
import Interceptor.Gen.Fn_gcc
import Interceptor.Model.Gcc
import Interceptor.Model.GoTime
import Interceptor.Proofs.GoWrap
namespace Interceptor.Facts.FnGcc
open Interceptor.Gen.Fn Interceptor.GoSem Interceptor.Gcc

/-! ## clampInt / clampDuration -/

/-- ★ `clampInt` as written in the source equals the model's, for all integers. -/
theorem clampInt_src_eq_model (b lo hi : Int) : gcc_clampInt b lo hi = Gcc.clampInt b lo hi := rfl

/-- ★ `clampDuration` as written in the source is the model's `clampInt` on the nanosecond counts
(no model function of its own; the conversions `int(d)`/`time.Duration(…)` are between 64-bit types). -/
theorem clampDuration_src_eq_model (d lo hi : Int) : gcc_clampDuration d lo hi = Gcc.clampInt d lo hi := rfl

/-- the result of `clampInt` stays in the int64 range when the arguments are (no wrap is needed, and the
translator emits none). -/
theorem clampInt_range (b lo hi : Int) (B : Int) (hb : -B ≤ b ∧ b ≤ B) (hl : -B ≤ lo ∧ lo ≤ B)
    (hh : -B ≤ hi ∧ hi ≤ B) : -B ≤ gcc_clampInt b lo hi ∧ gcc_clampInt b lo hi ≤ B := by
  unfold gcc_clampInt; omega

/-! ## state.transition -/

/-- Go's `state` constants (state.go: `stateIncrease = iota`, `stateDecrease`, `stateHold`). -/
def stateCode : State → Int
  | .increase => 0
  | .decrease => 1
  | .hold => 2

/-- Go's `usage` constants (usage.go: `usageOver = iota`, `usageUnder`, `usageNormal`). -/
def usageCode : Usage → Int
  | .over => 0
  | .under => 1
  | .normal => 2

theorem stateCode_inj (a b : State) : stateCode a = stateCode b ↔ a = b := by
  cases a <;> cases b <;> simp [stateCode]

theorem usageCode_inj (a b : Usage) : usageCode a = usageCode b ↔ a = b := by
  cases a <;> cases b <;> simp [usageCode]

/-- ★ `state.transition` as written in the source equals the model's, for every state and usage. -/
theorem transition_src_eq_model (s : State) (u : Usage) :
    gcc_state_transition (stateCode s) (usageCode u) = stateCode (s.transition u) := by
  cases s <;> cases u <;> rfl

/-- ★ outside the declared constants (`state`/`usage` are plain `int`s) the source falls out of both
switches and returns `stateIncrease`; with the theorem above this determines the function on every pair
of int arguments. -/
theorem transition_default (s u : Int) (h : ¬ (0 ≤ s ∧ s ≤ 2) ∨ ¬ (0 ≤ u ∧ u ≤ 2)) :
    gcc_state_transition s u = stateCode .increase := by
  unfold gcc_state_transition stateCode
  rcases h with h | h
  · have h0 : s ≠ 0 := by omega
    have h1 : s ≠ 1 := by omega
    have h2 : s ≠ 2 := by omega
    simp [h0, h1, h2]
  · have h0 : u ≠ 0 := by omega
    have h1 : u ≠ 1 := by omega
    have h2 : u ≠ 2 := by omega
    simp only [h0, h1, h2, decide_false, Bool.false_eq_true, if_false]
    split
    · rfl
    · split
      · rfl
      · split <;> rfl

/-- every int in 0..2 is the code of a state (resp. usage): the two theorems above are exhaustive. -/
theorem code_surj (s : Int) (h : 0 ≤ s ∧ s ≤ 2) : (∃ st : State, stateCode st = s) ∧ (∃ us : Usage, usageCode us = s) := by
  have : s = 0 ∨ s = 1 ∨ s = 2 := by omega
  rcases this with rfl | rfl | rfl
  · exact ⟨⟨.increase, rfl⟩, ⟨.over, rfl⟩⟩
  · exact ⟨⟨.decrease, rfl⟩, ⟨.under, rfl⟩⟩
  · exact ⟨⟨.hold, rfl⟩, ⟨.normal, rfl⟩⟩

/-! ## differences of instants -/

/-- `t.Sub(u)` does not saturate: the true difference fits an int64. -/
def fits (d : Int) : Prop := -9223372036854775808 ≤ d ∧ d ≤ 9223372036854775807

theorem timeSub_exact (a b : Int) (h : fits (a - b)) : timeSub a b = GoTime.sub a (some b) := by
  unfold fits at h
  unfold timeSub GoTime.sub
  simp only
  split
  · omega
  · split
    · omega
    · rfl

/-- ★ `interArrivalTimePkt` as written in the source is the difference of the two arrival instants
(closest model expression: `GoTime.sub`; the model has no arrival-group stage), whenever that difference
fits an int64 — the only thing the Go code needs. -/
theorem interArrivalTimePkt_src_eq_model (g : S_gcc_arrivalGroup) (ack : S_cc_Acknowledgment)
    (h : fits (ack.Arrival - g.arrival)) :
    gcc_interArrivalTimePkt g ack = GoTime.sub ack.Arrival (some g.arrival) := by
  unfold gcc_interArrivalTimePkt; exact timeSub_exact _ _ h

/-- a clock reading between the Unix epoch and 2^62 ns (year 2116). -/
def instant (t : Int) : Prop := 0 ≤ t ∧ t < 4611686018427387904

/-- the expression both delay-variation functions compute, on two pairs of instants: two saturating `Sub`s and a
wrapping subtraction, all exact when the differences fit. -/
theorem delayVariation_exact (a1 a0 d1 d0 : Int) (ha : fits (a1 - a0)) (hd : fits (d1 - d0))
    (hv : fits ((a1 - a0) - (d1 - d0))) :
    s64 (timeSub a1 a0 - timeSub d1 d0) = GoTime.sub a1 (some a0) - GoTime.sub d1 (some d0) := by
  rw [timeSub_exact _ _ ha, timeSub_exact _ _ hd]
  exact s64_id ((a1 - a0) - (d1 - d0)) (by unfold fits at hv; omega)

theorem delayVariation_instants (a1 a0 d1 d0 : Int) (h1 : instant a0) (h2 : instant a1) (h3 : instant d0)
    (h4 : instant d1) : s64 (timeSub a1 a0 - timeSub d1 d0) = (a1 - a0) - (d1 - d0) := by
  unfold instant at h1 h2 h3 h4
  exact delayVariation_exact a1 a0 d1 d0 (by unfold fits; omega) (by unfold fits; omega) (by unfold fits; omega)

/-- ★ `interGroupDelayVariationPkt` as written in the source is (arrival difference) − (departure
difference), whenever the two differences and their difference fit an int64. -/
theorem interGroupDelayVariationPkt_src_eq_model (g : S_gcc_arrivalGroup) (ack : S_cc_Acknowledgment)
    (ha : fits (ack.Arrival - g.arrival)) (hd : fits (ack.Departure - g.departure))
    (hv : fits ((ack.Arrival - g.arrival) - (ack.Departure - g.departure))) :
    gcc_interGroupDelayVariationPkt g ack
      = GoTime.sub ack.Arrival (some g.arrival) - GoTime.sub ack.Departure (some g.departure) :=
  delayVariation_exact _ _ _ _ ha hd hv

/-- ★ `interGroupDelayVariation` as written in the source is (arrival difference) − (departure difference)
of the two groups, whenever the two differences and their difference fit an int64. -/
theorem interGroupDelayVariation_src_eq_model (a b : S_gcc_arrivalGroup)
    (ha : fits (b.arrival - a.arrival)) (hd : fits (b.departure - a.departure))
    (hv : fits ((b.arrival - a.arrival) - (b.departure - a.departure))) :
    gcc_interGroupDelayVariation a b
      = GoTime.sub b.arrival (some a.arrival) - GoTime.sub b.departure (some a.departure) :=
  delayVariation_exact _ _ _ _ ha hd hv

/-- ★ the three `fits` hypotheses hold for all instants below 2^62 ns: on clock readings
`interGroupDelayVariation` is exactly `(b.arrival − a.arrival) − (b.departure − a.departure)`. -/
theorem interGroupDelayVariation_instants (a b : S_gcc_arrivalGroup)
    (h1 : instant a.arrival) (h2 : instant b.arrival) (h3 : instant a.departure) (h4 : instant b.departure) :
    gcc_interGroupDelayVariation a b = (b.arrival - a.arrival) - (b.departure - a.departure) :=
  delayVariation_instants _ _ _ _ h1 h2 h3 h4

/-- ★ the same for the per-packet variant. -/
theorem interGroupDelayVariationPkt_instants (g : S_gcc_arrivalGroup) (ack : S_cc_Acknowledgment)
    (h1 : instant g.arrival) (h2 : instant ack.Arrival) (h3 : instant g.departure) (h4 : instant ack.Departure) :
    gcc_interGroupDelayVariationPkt g ack = (ack.Arrival - g.arrival) - (ack.Departure - g.departure) :=
  delayVariation_instants _ _ _ _ h1 h2 h3 h4

/-! ## rateController.onReceivedRate / updateRTT -/

/-- the Go rate controller represents the rate-controller part of the model state (`rcTarget`, `rcInit`). -/
def rcRel (c : S_gcc_rateController) (st : St) : Prop := c.target = st.rcTarget ∧ c.init = st.rcInit

/-- ★ `onReceivedRate` as written in the source is a stutter step of the model: it assigns
`latestReceivedRate` (not a model field: it only feeds the float oracle `raw` of the next `delayStats`
event) and changes nothing else — in particular the represented model state is the same. -/
theorem onReceivedRate_src_eq_model (c : S_gcc_rateController) (rate : Int) :
    gcc_rateController_onReceivedRate c rate = { c with latestReceivedRate := rate } ∧
    ∀ st, rcRel c st → rcRel (gcc_rateController_onReceivedRate c rate) st :=
  ⟨rfl, fun _ h => h⟩

/-- ★ `updateRTT` as written in the source is a stutter step of the model: it assigns `latestRTT` and
changes nothing else. -/
theorem updateRTT_src_eq_model (c : S_gcc_rateController) (rtt : Int) :
    gcc_rateController_updateRTT c rtt = { c with latestRTT := rtt } ∧
    ∀ st, rcRel c st → rcRel (gcc_rateController_updateRTT c rtt) st :=
  ⟨rfl, fun _ h => h⟩

/-- ★ `rcRel` is established by the constructor: `newRateController` sets `target = initialTargetBitrate`
and leaves `init` false, `St.init` does the same. -/
theorem rcRel_init (cfg : Cfg) :
    rcRel { initialTargetBitrate := cfg.init, minBitrate := cfg.min, maxBitrate := cfg.max, target := cfg.init }
      (St.init cfg) := ⟨rfl, rfl⟩

/-! satisfiability of the hypotheses on concrete non-trivial values -/

example : gcc_clampInt 5000000 100000 2000000 = Gcc.clampInt 5000000 100000 2000000 := clampInt_src_eq_model _ _ _
example : gcc_state_transition 1 2 = stateCode .hold := transition_src_eq_model .decrease .normal
example : gcc_state_transition 7 0 = 0 := transition_default 7 0 (by omega)
example : fits ((946684800123456789 : Int) - 946684800000000000) := by unfold fits; omega
example : gcc_interArrivalTimePkt { arrival := 946684800000000000 } { Arrival := 946684800005000000 } = 5000000 :=
  interArrivalTimePkt_src_eq_model _ _ (by unfold fits; decide)
example : instant 946684800000000000 := by unfold instant; omega
example :
    gcc_interGroupDelayVariation { arrival := 946684800000000000, departure := 946684799990000000 }
      { arrival := 946684800007000000, departure := 946684799995000000 } = 2000000 :=
  interGroupDelayVariation_instants _ _ (by unfold instant; decide) (by unfold instant; decide)
    (by unfold instant; decide) (by unfold instant; decide)
example :
    gcc_interGroupDelayVariationPkt { arrival := 946684800000000000, departure := 946684799990000000 }
      { Arrival := 946684800007000000, Departure := 946684799995000000 } = 2000000 :=
  interGroupDelayVariationPkt_instants _ _ (by unfold instant; decide) (by unfold instant; decide)
    (by unfold instant; decide) (by unfold instant; decide)
example : rcRel { target := 300000, init := true, latestRTT := 5 }
    { latest := 1, rcTarget := 300000, rcInit := true, lossBitrate := 2, stats := none, closed := false,
      receivers := true, pacer := [], cbs := [] } := ⟨rfl, rfl⟩

end Interceptor.Facts.FnGcc
