/-
The generated translation of pkg/rfc8888/stream_log.go (Gen/Fn_rfc8888.lean, regenerated from /repo on every
run: `newStreamLog`, `streamLog.add`, `streamLog.metricsAfter`) computes exactly the hand-written model
`Rfc8888.StreamLog` (Model/Rfc8888.lean: `StreamLog.new`, `add`, `metricsAfter`) that the C08 theorems are about.

The Go `map[int64]*packetReport` is translated to an association list (`List (Int × S_rfc8888_packetReport)`,
Base/GoSem.lean `mapGet/mapHas/mapSet/mapDel/mapLen/mapFilter`); the model's log is an association list of its own.
The abstraction relation `LogRel` says that both lists represent the same finite map (same key set, same
(arrivalTime, ecn) per key) and that the keys of the Go list are unique.
-/
import Interceptor.Gen.Fn_rfc8888
import Interceptor.Model.Rfc8888
import Interceptor.Facts.FnUnwrapper
import Interceptor.Facts.FnRfc8888
import Interceptor.Proofs.Rfc8888
set_option linter.unusedVariables false
namespace Interceptor.Facts.FnStreamLog
open Interceptor.Gen.Fn Interceptor.GoSem Interceptor.Facts.FnUnwrapper Interceptor.Facts.FnRfc8888

/-- the finite map that a Go association list represents. -/
def glookup {α : Type} : List (Int × α) → Int → Option α
  | [], _ => none
  | (k, e) :: m, n => if k = n then some e else glookup m n

theorem mapHas_eq {α : Type} (gl : List (Int × α)) (k : Int) : mapHas gl k = (glookup gl k).isSome := by
  induction gl with
  | nil => rfl
  | cons p t ih =>
    obtain ⟨a, b⟩ := p
    unfold mapHas at ih ⊢
    simp only [List.any_cons, glookup, ih]
    by_cases h : a = k <;> simp [h]

theorem mapGet_eq {α : Type} [Inhabited α] (gl : List (Int × α)) (k : Int) :
    mapGet gl k = (glookup gl k).getD default := by
  induction gl with
  | nil => rfl
  | cons p t ih =>
    obtain ⟨a, b⟩ := p
    unfold mapGet at ih ⊢
    simp only [List.find?_cons, glookup]
    by_cases h : a = k
    · simp [h]
    · have : (a == k) = false := by simp [h]
      simp only [this, h, if_false]
      exact ih

theorem glookup_filter {α : Type} (keep : Int → Bool) (gl : List (Int × α)) (j : Int) :
    glookup (gl.filter (fun e => keep e.1)) j = if keep j then glookup gl j else none := by
  induction gl with
  | nil => simp [glookup]
  | cons p t ih =>
    obtain ⟨a, b⟩ := p
    by_cases hk : keep a = true
    · simp only [List.filter_cons, hk, if_true, glookup, ih]
      by_cases h : a = j
      · subst h; simp [hk]
      · simp [h]
    · simp only [List.filter_cons, hk, if_false, glookup, ih, Bool.false_eq_true]
      by_cases h : a = j
      · subst h; simp [hk]
      · simp [h]

theorem glookup_mapDel {α : Type} (gl : List (Int × α)) (k j : Int) :
    glookup (mapDel gl k) j = if j = k then none else glookup gl j := by
  have := glookup_filter (fun x => x != k) gl j
  unfold mapDel
  rw [this]
  by_cases h : j = k <;> simp [h]

theorem glookup_mapSet {α : Type} (gl : List (Int × α)) (k j : Int) (v : α) :
    glookup (mapSet gl k v) j = if j = k then some v else glookup gl j := by
  unfold mapSet
  simp only [glookup, glookup_mapDel]
  by_cases h : j = k
  · subst h; simp
  · have : ¬ k = j := fun e => h e.symm
    simp [h, this]

theorem glookup_mapFilter {α : Type} (keep : Int → Bool) (gl : List (Int × α)) (j : Int) :
    glookup (mapFilter keep gl) j = if keep j then glookup gl j else none := glookup_filter keep gl j

/-- a key of `if _, ok := m[k]; !ok { m[k] = v }` is `k` or an old key. -/
theorem isSome_setIfAbsent {α : Type} {gl : List (Int × α)} {k j : Int} {v : α}
    (h : (glookup (if mapHas gl k then gl else mapSet gl k v) j).isSome = true) :
    j = k ∨ (glookup gl j).isSome = true := by
  split at h
  · exact Or.inr h
  · rw [glookup_mapSet] at h
    by_cases e : j = k
    · exact Or.inl e
    · rw [if_neg e] at h; exact Or.inr h

def keys {α : Type} (gl : List (Int × α)) : List Int := gl.map Prod.fst

theorem mem_keys_iff {α : Type} (gl : List (Int × α)) (k : Int) : k ∈ keys gl ↔ (glookup gl k).isSome = true := by
  induction gl with
  | nil => simp [keys, glookup]
  | cons p t ih =>
    obtain ⟨a, b⟩ := p
    unfold keys at ih ⊢
    simp only [List.map_cons, List.mem_cons, glookup, ih]
    by_cases h : a = k
    · simp [h]
    · have : ¬ k = a := fun e => h e.symm
      simp [h, this]

theorem keys_filter_nodup {α : Type} (p : Int × α → Bool) (gl : List (Int × α)) (h : (keys gl).Nodup) :
    (keys (gl.filter p)).Nodup :=
  List.Nodup.sublist (List.Sublist.map Prod.fst List.filter_sublist) h

theorem keys_mapDel_nodup {α : Type} (gl : List (Int × α)) (k : Int) (h : (keys gl).Nodup) :
    (keys (mapDel gl k)).Nodup := keys_filter_nodup _ gl h

theorem keys_mapFilter_nodup {α : Type} (keep : Int → Bool) (gl : List (Int × α)) (h : (keys gl).Nodup) :
    (keys (mapFilter keep gl)).Nodup := keys_filter_nodup _ gl h

theorem keys_mapSet_nodup {α : Type} (gl : List (Int × α)) (k : Int) (v : α) (h : (keys gl).Nodup) :
    (keys (mapSet gl k v)).Nodup := by
  unfold mapSet
  show (k :: keys (mapDel gl k)).Nodup
  refine List.nodup_cons.mpr ⟨?_, keys_mapDel_nodup gl k h⟩
  rw [mem_keys_iff, glookup_mapDel]
  simp

def toGoE (e : Rfc8888.Entry) : S_rfc8888_packetReport := { arrivalTime := e.arrival, ecn := (e.ecn : Int) }

/-- the Go association list and the model's log represent the same finite map (same key set, same arrival time
and ECN mark per key), and no key occurs twice in the Go list. -/
structure LogRel (gl : List (Int × S_rfc8888_packetReport)) (ml : Rfc8888.Log) : Prop where
  nodup : (keys gl).Nodup
  same : ∀ k, glookup gl k = (Rfc8888.lookup ml k).map toGoE

structure Rel (g : S_rfc8888_streamLog) (m : Rfc8888.StreamLog) : Prop where
  ssrc : g.ssrc = (m.ssrc : Int)
  seq : absU g.sequence = m.seq
  init : g.init = m.init
  next : g.nextSequenceNumberToReport = m.next
  last : g.lastSequenceNumberReceived = m.last
  log : LogRel g.log m.log

theorem LogRel.nil : LogRel [] [] := ⟨List.nodup_nil, fun _ => rfl⟩

theorem LogRel.empty_iff {gl : List (Int × S_rfc8888_packetReport)} {ml : Rfc8888.Log} (h : LogRel gl ml) :
    gl = [] ↔ ml = [] := by
  constructor
  · intro e
    subst e
    cases ml with
    | nil => rfl
    | cons p t =>
      have := h.same p.1
      simp [glookup, Rfc8888.lookup] at this
  · intro e
    subst e
    cases gl with
    | nil => rfl
    | cons p t =>
      have := h.same p.1
      simp [glookup, Rfc8888.lookup] at this

theorem LogRel.isSome_iff {gl : List (Int × S_rfc8888_packetReport)} {ml : Rfc8888.Log} (h : LogRel gl ml) (k : Int) :
    (glookup gl k).isSome = (Rfc8888.lookup ml k).isSome := by
  rw [h.same]; exact Option.isSome_map

theorem LogRel.has {gl : List (Int × S_rfc8888_packetReport)} {ml : Rfc8888.Log} (h : LogRel gl ml) (k : Int) :
    mapHas gl k = (Rfc8888.lookup ml k).isSome := by
  rw [mapHas_eq, h.isSome_iff]

/-- both sides filtered by the same predicate on keys: what `delete` and the truncation loop do. -/
theorem LogRel.filter {gl : List (Int × S_rfc8888_packetReport)} {ml : Rfc8888.Log} (h : LogRel gl ml)
    (keep : Int → Bool) : LogRel (gl.filter (fun e => keep e.1)) (ml.filter (fun e => keep e.1)) := by
  refine ⟨keys_filter_nodup _ gl h.nodup, fun j => ?_⟩
  rw [glookup_filter, Rfc8888.lookup_filter, h.same]
  cases keep j <;> rfl

theorem LogRel.del {gl : List (Int × S_rfc8888_packetReport)} {ml : Rfc8888.Log} (h : LogRel gl ml) (k : Int) :
    LogRel (mapDel gl k) (Rfc8888.erase ml k) := h.filter (fun x => x != k)

theorem LogRel.dropBelow {gl : List (Int × S_rfc8888_packetReport)} {ml : Rfc8888.Log} (h : LogRel gl ml) (n : Int) :
    LogRel (mapFilter (fun seq => !(decide (seq < n))) gl) (Rfc8888.dropBelow ml n) :=
  h.filter (fun seq => !(decide (seq < n)))

theorem LogRel.set {gl : List (Int × S_rfc8888_packetReport)} {ml : Rfc8888.Log} (h : LogRel gl ml) (k : Int)
    (e : Rfc8888.Entry) : LogRel (mapSet gl k (toGoE e)) ((k, e) :: ml) := by
  refine ⟨keys_mapSet_nodup gl k _ h.nodup, fun j => ?_⟩
  rw [glookup_mapSet, h.same]
  simp only [Rfc8888.lookup]
  by_cases c : j = k
  · subst c; simp
  · have : ¬ k = j := fun x => c x.symm
    simp [c, this]

/-- `if _, ok := log[k]; !ok { log[k] = e }` on both sides. -/
theorem LogRel.setIfAbsent {gl : List (Int × S_rfc8888_packetReport)} {ml : Rfc8888.Log} (h : LogRel gl ml) (k : Int)
    (e : Rfc8888.Entry) :
    LogRel (if mapHas gl k then gl else mapSet gl k (toGoE e))
      (match Rfc8888.lookup ml k with
        | some _ => ml
        | none => (k, e) :: ml) := by
  rw [h.has]
  cases Rfc8888.lookup ml k with
  | some _ => exact h
  | none => exact h.set k e

/-- ★ `newStreamLog(ssrc)` as written in the source is the model's `StreamLog.new ssrc` (for every uint32). -/
theorem newStreamLog_src_eq_model (ssrc : Nat) :
    Rel (rfc8888_newStreamLog (ssrc : Int)) (Rfc8888.StreamLog.new ssrc) :=
  ⟨rfl, rfl, rfl, rfl, rfl, LogRel.nil⟩

example : Rel (rfc8888_newStreamLog 4660) (Rfc8888.StreamLog.new 4660) := newStreamLog_src_eq_model 4660

/-- the generated `add` as one record update under one test (the shape of `Rfc8888.addU_eq`). -/
theorem add_eq (g : S_rfc8888_streamLog) (ts sn ecn : Int) :
    rfc8888_streamLog_add g ts sn ecn =
      (let c := sequencenumber_Unwrapper_Unwrap g.sequence sn
       let next := if g.init then g.nextSequenceNumberToReport else c.1
       if decide (c.1 < next) then { g with sequence := c.2, init := true, nextSequenceNumberToReport := next }
       else
         { g with sequence := c.2, init := true, nextSequenceNumberToReport := next,
                  log := if mapHas g.log c.1 then g.log
                    else mapSet g.log c.1 { arrivalTime := ts, ecn := ecn },
                  lastSequenceNumberReceived :=
                    if decide (g.lastSequenceNumberReceived < c.1) then c.1
                    else g.lastSequenceNumberReceived }) := by
  obtain ⟨gssrc, gseq, ginit, gnext, glast, glog⟩ := g
  unfold rfc8888_streamLog_add
  generalize sequencenumber_Unwrapper_Unwrap gseq sn = c
  -- with `init` known every remaining condition is a Boolean that both sides test alike
  cases ginit <;>
    simp only [Bool.false_eq_true, if_false, if_true, Bool.not_false, Bool.not_true, Int.lt_irrefl, decide_false]
  · cases mapHas glog c.1 <;> cases decide (glast < c.1) <;> rfl
  · cases decide (c.1 < gnext)
    · cases mapHas glog c.1 <;> cases decide (glast < c.1) <;> rfl
    · rfl

/-- ★ (a) `streamLog.add(ts, sequenceNumber, ecn)` as written in the source is the model's `add`: related states
stay related, for every time, every uint16 sequence number and every ECN value.  The only hypothesis is the int64
bound of the unwrapper (`|lastUnwrapped| ≤ 2^62`, Facts/FnUnwrapper.lean), which `Inv` below maintains. -/
theorem add_src_eq_model {g : S_rfc8888_streamLog} {m : Rfc8888.StreamLog} (h : Rel g m) (ts : Int) (sn : Nat)
    (hsn : sn < 65536) (ecn : Nat)
    (hb : -4611686018427387904 ≤ g.sequence.lastUnwrapped ∧ g.sequence.lastUnwrapped ≤ 4611686018427387904) :
    Rel (rfc8888_streamLog_add g ts (sn : Int) (ecn : Int)) (Rfc8888.add m ts sn ecn) := by
  have hu := unwrap_src_eq_model g.sequence sn hsn hb
  simp only at hu
  rw [h.seq] at hu
  have hu1 := congrArg Prod.fst hu
  have hu2 := congrArg Prod.snd hu
  simp only at hu1 hu2
  rw [add_eq]
  unfold Rfc8888.add
  rw [Rfc8888.addU_eq]
  simp only [decide_eq_true_eq]
  rw [← hu1, ← hu2]
  generalize sequencenumber_Unwrapper_Unwrap g.sequence (sn : Int) = c
  have hnext : (if g.init then g.nextSequenceNumberToReport else c.1)
      = Rfc8888.addNext { m with seq := absU c.2 } c.1 := by
    unfold Rfc8888.addNext; rw [h.init, h.next]
  rw [hnext]
  split
  · exact ⟨h.ssrc, rfl, rfl, rfl, h.last, h.log⟩
  · refine ⟨h.ssrc, rfl, rfl, rfl, ?_, h.log.setIfAbsent c.1 ⟨ts, ecn⟩⟩
    simp only []
    rw [h.last]

/-- the state of the emit loop: (gapDetected, i, l, lastReceived, metricBlocks). -/
abbrev LoopSt := Bool × Int × S_rfc8888_streamLog × Int × List S_rtcp_CCFeedbackMetricBlock

/-- the loop condition `i <= l.lastSequenceNumberReceived`, verbatim from the generated definition. -/
def gCond : LoopSt → Bool :=
  fun (gapDetected, i, l, lastReceived, metricBlocks) => (decide (i ≤ l.lastSequenceNumberReceived))

/-- the loop body, with the write to `metricBlocks[i-offset]` stated once and `gapDetected` tested first; the
tests are those of the generated body (`metricsAfter_unfold` shows that the two agree pointwise).  After
`lastReceived = i` the generated test `i > lastReceived + 1` reads `i > s64 (i + 1)`: false within the int64 bounds,
so that `gapDetected = true` is dead code (`gBody_step`). -/
def gBody (ref off : Int) : LoopSt → LoopSt :=
  fun (gap, i, l, lr, mbs) =>
    let mbs' := setG mbs (s64 (i - off))
      (if mapHas l.log i then
        ({ Received := true, ECN := (mapGet l.log i).ecn,
           ArrivalTimeOffset := rfc8888_getArrivalTimeOffset ref (mapGet l.log i).arrivalTime } :
            S_rtcp_CCFeedbackMetricBlock)
       else { Received := false, ECN := 0, ArrivalTimeOffset := 0 })
    if gap then (gap, s64 (i + 1), l, lr, mbs')
    else if mapHas l.log i && decide (i = l.nextSequenceNumberToReport) then
      let l' := { l with log := mapDel l.log i,
                         nextSequenceNumberToReport := s64 (l.nextSequenceNumberToReport + 1) }
      if decide (i > s64 (i + 1)) then (true, s64 (i + 1), l', i, mbs') else (false, s64 (i + 1), l', i, mbs')
    else if decide (i > s64 (lr + 1)) then (true, s64 (i + 1), l, lr, mbs') else (false, s64 (i + 1), l, lr, mbs')

/-- the part of `metricsAfter` after the truncation: allocate `numReports` metric blocks, run the loop, build
the report block. -/
def finish (fuel : Nat) (reference : Int) (l : S_rfc8888_streamLog) (numReports : Int) :
    Option (S_rtcp_CCFeedbackReportBlock × S_rfc8888_streamLog) :=
  match loop fuel gCond (gBody reference l.nextSequenceNumberToReport)
      (false, l.nextSequenceNumberToReport, l, l.nextSequenceNumberToReport,
        mkSliceG (α := S_rtcp_CCFeedbackMetricBlock) numReports) with
  | none => none
  | some (_, _, l', _, metricBlocks) =>
    some ({ MediaSSRC := l'.ssrc, BeginSequence := u16 l.nextSequenceNumberToReport, MetricBlocks := metricBlocks }, l')

/-- the truncation step `if numReports > maxReportBlocks { … }` on the struct. -/
def gTrunc (l : S_rfc8888_streamLog) (maxReportBlocks : Int) : S_rfc8888_streamLog :=
  let newNext : Int := s64 (s64 (l.lastSequenceNumberReceived - maxReportBlocks) + 1)
  { l with log := mapFilter (fun seq => !(decide (seq < newNext))) l.log, nextSequenceNumberToReport := newNext }

theorem metricsAfter_unfold (fuel : Nat) (l : S_rfc8888_streamLog) (reference maxReportBlocks : Int) :
    rfc8888_streamLog_metricsAfter fuel l reference maxReportBlocks =
      if decide (mapLen l.log = 0) then
        some ({ MediaSSRC := l.ssrc, BeginSequence := u16 l.nextSequenceNumberToReport, MetricBlocks := [] }, l)
      else if decide (s64 (s64 (l.lastSequenceNumberReceived - l.nextSequenceNumberToReport) + 1) > maxReportBlocks) then
        finish fuel reference (gTrunc l maxReportBlocks) maxReportBlocks
      else
        finish fuel reference l (s64 (s64 (l.lastSequenceNumberReceived - l.nextSequenceNumberToReport) + 1)) := by
  unfold rfc8888_streamLog_metricsAfter finish
  dsimp only
  -- branch by branch with `ite_congr` (`split` on the unfolded definition is very slow); in both loops the
  -- generated body is `gBody` pointwise: it nests `ok` outside `gapDetected`, the other tests are the same
  refine ite_congr rfl (fun _ => rfl) (fun _ => ite_congr rfl (fun _ => ?_) (fun _ => ?_))
  all_goals
    rw [loop_congr (body' := gBody reference _)]
    · rfl
    · rintro ⟨gap, i, l, lr, mbs⟩
      dsimp only [gBody, gTrunc]
      cases gap <;> cases mapHas l.log i <;> rfl

def toGoM (x : Rfc8888.Metric) : S_rtcp_CCFeedbackMetricBlock :=
  { Received := x.received, ECN := (x.ecn : Int), ArrivalTimeOffset := (x.ato : Int) }

def toGoB (b : Rfc8888.Block) : S_rtcp_CCFeedbackReportBlock :=
  { MediaSSRC := (b.ssrc : Int), BeginSequence := (b.begin : Int), MetricBlocks := b.metrics.map toGoM }

theorem metric_eq {gl : List (Int × S_rfc8888_packetReport)} {ml : Rfc8888.Log} (h : LogRel gl ml) (ref i : Int) :
    (if mapHas gl i then
        ({ Received := true, ECN := (mapGet gl i).ecn,
           ArrivalTimeOffset := rfc8888_getArrivalTimeOffset ref (mapGet gl i).arrivalTime } :
            S_rtcp_CCFeedbackMetricBlock)
      else { Received := false, ECN := 0, ArrivalTimeOffset := 0 })
      = toGoM (Rfc8888.mkMetric ref (Rfc8888.lookup ml i)) := by
  rw [mapHas_eq, mapGet_eq, h.same]
  cases Rfc8888.lookup ml i with
  | none => rfl
  | some e => simp [Rfc8888.mkMetric, toGoM, toGoE, getATO_src_eq_model]

theorem set_mid {α : Type} (pre : List α) (v d : α) (n : Nat) :
    (pre ++ List.replicate (n + 1) d).set pre.length v = (pre ++ [v]) ++ List.replicate n d := by
  induction pre with
  | nil => simp [List.replicate_succ]
  | cons a t ih => simp [List.replicate_succ] at ih ⊢

theorem setG_mid {α : Type} (pre : List α) (v d : α) (n : Nat) (k : Int) (hk : k = pre.length) :
    setG (pre ++ List.replicate (n + 1) d) k v = (pre ++ [v]) ++ List.replicate n d := by
  subst hk
  unfold setG
  rw [if_neg (Int.not_lt.mpr (Int.natCast_nonneg _)), Int.toNat_natCast]
  exact set_mid pre v d n

/-- the Go loop state that stands for the model's loop state `st` at index `i`: the struct `l` with the log `gl`
and the model's cursor, and the model's `gap` / `lastReceived`. -/
def goSt (l : S_rfc8888_streamLog) (gl : List (Int × S_rfc8888_packetReport)) (st : Rfc8888.LoopSt) (i : Int)
    (mbs : List S_rtcp_CCFeedbackMetricBlock) : LoopSt :=
  (st.gap, i, { l with log := gl, nextSequenceNumberToReport := st.next }, st.lastReceived, mbs)

/-- one iteration of the Go loop is the model's `loopStep` (on the mutable variables) and `mkMetric` (on the
metric written to `metricBlocks[i-offset]`), provided `i-offset`, `i+1`, `lastReceived+1` fit an int64. -/
theorem gBody_step (ref off i : Int) (l : S_rfc8888_streamLog) (gl : List (Int × S_rfc8888_packetReport))
    (mbs : List S_rtcp_CCFeedbackMetricBlock) (st : Rfc8888.LoopSt) (hl : LogRel gl st.log)
    (hio : -9223372036854775808 ≤ i - off ∧ i - off < 9223372036854775808)
    (hi1 : -9223372036854775808 ≤ i + 1 ∧ i + 1 < 9223372036854775808)
    (hl1 : -9223372036854775808 ≤ st.lastReceived + 1 ∧ st.lastReceived + 1 < 9223372036854775808) :
    ∃ gl', gBody ref off (goSt l gl st i mbs) =
        goSt l gl' (Rfc8888.loopStep st i (Rfc8888.lookup st.log i).isSome) (i + 1)
          (setG mbs (i - off) (toGoM (Rfc8888.mkMetric ref (Rfc8888.lookup st.log i)))) ∧
      LogRel gl' (Rfc8888.loopStep st i (Rfc8888.lookup st.log i).isSome).log := by
  unfold goSt gBody
  simp only [s64_id _ hio, s64_id _ hi1, s64_id _ hl1, metric_eq hl]
  rw [hl.has]
  obtain ⟨slog, snext, slr, sgap⟩ := st
  unfold Rfc8888.loopStep
  simp only at hl ⊢
  cases sgap
  · -- the Go test `ok && i == next` read as the model's `received ∧ i = next`
    simp only [Bool.false_eq_true, if_false, Bool.and_eq_true, decide_eq_true_eq]
    by_cases c : (Rfc8888.lookup slog i).isSome = true ∧ i = snext
    · obtain ⟨c1, rfl⟩ := c
      have c3 : ¬ i > i + 1 := by omega
      simp only [c1, and_self, if_true, s64_id _ hi1, c3, if_false]
      exact ⟨mapDel gl i, rfl, hl.del i⟩
    · simp only [if_neg c]
      by_cases c3 : i > slr + 1
      · simp only [c3, if_true]
        exact ⟨gl, rfl, hl⟩
      · simp only [c3, if_false]
        exact ⟨gl, rfl, hl⟩
  · simp only [if_true]
    exact ⟨gl, rfl, hl⟩

theorem loopStep_lr (st : Rfc8888.LoopSt) (i : Int) (r : Bool) :
    (Rfc8888.loopStep st i r).lastReceived = st.lastReceived ∨ (Rfc8888.loopStep st i r).lastReceived = i := by
  unfold Rfc8888.loopStep
  by_cases h1 : st.gap = true
  · simp [h1]
  · by_cases h2 : r = true ∧ i = st.next
    · simp only [h1, h2, and_self, if_true, Bool.false_eq_true, if_false]
      split <;> simp
    · simp only [h1, h2, if_false, Bool.false_eq_true]
      split <;> simp

/-- The loop invariant that connects the Go loop to the model's recursive `Rfc8888.loop`.  `n` iterations before the
end (`i = last + 1 - n`), with `pre` the metric blocks already written (`len pre = i - offset`) followed by the `n`
still-zero blocks of `make`, and the mutable variables standing for the model's `LoopSt` (`goSt`): the Go loop
terminates (`n + 1` units of fuel suffice), leaves `i = last + 1`, has filled exactly the remaining `n` blocks with
the model's metrics, and its final variables stand for the model's.  Int64 side conditions: `-2^62 ≤ offset`,
`last < 2^62`, `|lastReceived| ≤ 2^62`. -/
theorem emit_loop (ref off : Int) (l : S_rfc8888_streamLog) (hoff : -4611686018427387904 ≤ off)
    (hlast : l.lastSequenceNumberReceived < 4611686018427387904) :
    ∀ (n : Nat) (i : Int) (gl : List (Int × S_rfc8888_packetReport)) (pre : List S_rtcp_CCFeedbackMetricBlock)
      (st : Rfc8888.LoopSt),
      LogRel gl st.log → l.lastSequenceNumberReceived - i + 1 = (n : Int) → i - off = (pre.length : Int) →
      (-4611686018427387904 ≤ st.lastReceived ∧ st.lastReceived ≤ 4611686018427387904) →
      ∀ fuel, n + 1 ≤ fuel →
      ∃ gl', loop fuel gCond (gBody ref off) (goSt l gl st i (pre ++ List.replicate n default)) =
          some (goSt l gl' (Rfc8888.loop ref n i st).1 (l.lastSequenceNumberReceived + 1)
            (pre ++ (Rfc8888.loop ref n i st).2.map toGoM)) ∧
        LogRel gl' (Rfc8888.loop ref n i st).1.log := by
  intro n
  induction n with
  | zero =>
    intro i gl pre st hl hi hpre hlr fuel hf
    obtain rfl : i = l.lastSequenceNumberReceived + 1 := by omega
    have hc : gCond (goSt l gl st (l.lastSequenceNumberReceived + 1) pre) = false :=
      decide_eq_false (Int.not_le.mpr (Int.lt_succ _))
    refine ⟨gl, ?_, hl⟩
    simp only [List.replicate_zero, List.append_nil, Rfc8888.loop, List.map_nil, loop_stop hc hf]
  | succ n ih =>
    intro i gl pre st hl hi hpre hlr fuel hf
    have hc : gCond (goSt l gl st i (pre ++ List.replicate (n + 1) default)) = true :=
      decide_eq_true (show i ≤ l.lastSequenceNumberReceived by omega)
    obtain ⟨gl1, hb, hl1⟩ := gBody_step ref off i l gl (pre ++ List.replicate (n + 1) default) st hl
      (by omega) (by omega) (by omega)
    simp only [loop_step hc hf, hb, Rfc8888.loop]
    rw [setG_mid pre _ default n (i - off) hpre]
    generalize hst' : Rfc8888.loopStep st i (Rfc8888.lookup st.log i).isSome = st' at hl1 ⊢
    have hlr' : -4611686018427387904 ≤ st'.lastReceived ∧ st'.lastReceived ≤ 4611686018427387904 := by
      rw [← hst']
      rcases loopStep_lr st i (Rfc8888.lookup st.log i).isSome with e | e <;> rw [e]
      · exact hlr
      · omega
    obtain ⟨gl', hloop, hl'⟩ := ih (i + 1) gl1 (pre ++ [toGoM (Rfc8888.mkMetric ref (Rfc8888.lookup st.log i))]) st'
      hl1 (by omega) (by simp only [List.length_append, List.length_singleton]; omega) hlr' (fuel - 1) (Nat.le_sub_one_of_lt hf)
    refine ⟨gl', ?_, hl'⟩
    rw [hloop]
    simp only [List.map_cons, List.append_assoc, List.singleton_append]

theorem u16_cast (x : Int) : ((Rfc8888.u16 x : Nat) : Int) = u16 x := by
  unfold Rfc8888.u16 u16
  exact Int.toNat_of_nonneg (Int.emod_nonneg _ (by decide))

theorem mapLen_eq_zero {α : Type} (gl : List (Int × α)) : mapLen gl = 0 ↔ gl = [] := by
  unfold mapLen
  cases gl with
  | nil => simp
  | cons p t => simp only [List.length_cons, reduceCtorEq, iff_false]; omega

/-- the allocate / loop / build part of `metricsAfter` on a state whose report pointer is at most one past the
highest received number: it is the model's emit loop started at the report pointer, and only `log` and the report
pointer change. -/
theorem finish_spec {l : S_rfc8888_streamLog} {ml : Rfc8888.StreamLog} (h : Rel l ml) (ref : Int)
    (hlo : -4611686018427387904 ≤ l.nextSequenceNumberToReport)
    (hnl : l.nextSequenceNumberToReport ≤ l.lastSequenceNumberReceived + 1)
    (hhi : l.lastSequenceNumberReceived < 4611686018427387904)
    (N : Int) (hN : N = l.lastSequenceNumberReceived - l.nextSequenceNumberToReport + 1)
    (fuel : Nat) (hf : N.toNat + 1 ≤ fuel) :
    ∃ g', finish fuel ref l N =
        some (toGoB ⟨ml.ssrc, Rfc8888.u16 ml.next,
                (Rfc8888.loop ref (ml.last - ml.next + 1).toNat ml.next ⟨ml.log, ml.next, ml.next, false⟩).2⟩, g') ∧
      Rel g' { ml with
        log := (Rfc8888.loop ref (ml.last - ml.next + 1).toNat ml.next ⟨ml.log, ml.next, ml.next, false⟩).1.log,
        next := (Rfc8888.loop ref (ml.last - ml.next + 1).toNat ml.next ⟨ml.log, ml.next, ml.next, false⟩).1.next } ∧
      g' = { l with log := g'.log, nextSequenceNumberToReport := g'.nextSequenceNumberToReport } := by
  rw [← h.next, ← h.last, ← hN]
  obtain ⟨gl', hloop, hl'⟩ := emit_loop ref l.nextSequenceNumberToReport l hlo hhi N.toNat
    l.nextSequenceNumberToReport l.log [] ⟨ml.log, l.nextSequenceNumberToReport, l.nextSequenceNumberToReport, false⟩
    h.log (by omega) (by simp) (by simp only []; omega) fuel hf
  generalize Rfc8888.loop ref N.toNat l.nextSequenceNumberToReport
    ⟨ml.log, l.nextSequenceNumberToReport, l.nextSequenceNumberToReport, false⟩ = r at hloop hl' ⊢
  -- the loop starts on `l` itself: `goSt l l.log _ l.next` is `l` by eta
  have hloop' : loop fuel gCond (gBody ref l.nextSequenceNumberToReport)
      (false, l.nextSequenceNumberToReport, l, l.nextSequenceNumberToReport, List.replicate N.toNat default) = _ := hloop
  refine ⟨{ l with log := gl', nextSequenceNumberToReport := r.1.next }, ?_, ⟨h.ssrc, h.seq, h.init, rfl, rfl, hl'⟩, rfl⟩
  unfold finish mkSliceG
  rw [hloop']
  simp only [goSt, List.nil_append, toGoB, u16_cast, h.ssrc]

/-- the truncation step on related states, when it is taken: no int64 operation overflows, the result represents
the model's `truncate` and meets the conditions of `finish_spec` with `maxBlocks` reports. -/
theorem gTrunc_rel {g : S_rfc8888_streamLog} {m : Rfc8888.StreamLog} (h : Rel g m) (maxBlocks : Int)
    (hmb : 0 ≤ maxBlocks ∧ maxBlocks < 4611686018427387904)
    (hlo : -4611686018427387904 < g.nextSequenceNumberToReport)
    (hhi : g.lastSequenceNumberReceived < 4611686018427387904)
    (ht : g.lastSequenceNumberReceived - g.nextSequenceNumberToReport + 1 > maxBlocks) :
    Rel (gTrunc g maxBlocks) (Rfc8888.truncate m maxBlocks) ∧
      -4611686018427387904 ≤ (gTrunc g maxBlocks).nextSequenceNumberToReport ∧
      (gTrunc g maxBlocks).nextSequenceNumberToReport ≤ g.lastSequenceNumberReceived + 1 ∧
      maxBlocks = g.lastSequenceNumberReceived - (gTrunc g maxBlocks).nextSequenceNumberToReport + 1 := by
  have e3 : s64 (g.lastSequenceNumberReceived - maxBlocks) = g.lastSequenceNumberReceived - maxBlocks :=
    s64_id _ (by omega)
  have e4 : s64 (g.lastSequenceNumberReceived - maxBlocks + 1) = g.lastSequenceNumberReceived - maxBlocks + 1 :=
    s64_id _ (by omega)
  unfold gTrunc Rfc8888.truncate
  rw [if_pos (by rw [← h.next, ← h.last]; exact ht), e3, e4, ← h.last]
  refine ⟨⟨h.ssrc, h.seq, h.init, rfl, rfl, h.log.dropBelow _⟩, ?_⟩
  simp only []
  omega

/-- ★ (b) `streamLog.metricsAfter(reference, maxReportBlocks)` as written in the source is the model's
`metricsAfter`: for every related pair, every reference time, every `maxReportBlocks` in `[0, 2^62)` (the caller
`Recorder.BuildReport` passes `int64(p - p%2)` with `p = max((maxSize-12-8k)/2, 0)/k`, `k ≥ 1` streams, which is in
that range for every `int` maxSize), the loop terminates — `lastSequenceNumberReceived − nextSequenceNumberToReport
+ 2` units of fuel suffice, the loop makes at most `last − next + 1` iterations — and the function returns the
model's report block field by field (MediaSSRC, BeginSequence, and every metric block: Received, ECN,
ArrivalTimeOffset — `toGoB` is the field-wise embedding) and a receiver that is related to the model's next state
and differs from the old one only in `log` and `nextSequenceNumberToReport`.  The int64 hypotheses
(`-2^62 < next ≤ last + 1`, `last < 2^62`) are part of the invariant `Inv` (established by `newStreamLog`, preserved
by `add` and `metricsAfter`); there is no bound on the distance `last − next` other than these. -/
theorem metricsAfter_src_eq_model {g : S_rfc8888_streamLog} {m : Rfc8888.StreamLog} (h : Rel g m)
    (ref maxBlocks : Int) (hmb : 0 ≤ maxBlocks ∧ maxBlocks < 4611686018427387904)
    (hlo : -4611686018427387904 < g.nextSequenceNumberToReport)
    (hnl : g.nextSequenceNumberToReport ≤ g.lastSequenceNumberReceived + 1)
    (hhi : g.lastSequenceNumberReceived < 4611686018427387904)
    (fuel : Nat) (hf : (g.lastSequenceNumberReceived - g.nextSequenceNumberToReport + 1).toNat + 1 ≤ fuel) :
    ∃ g', rfc8888_streamLog_metricsAfter fuel g ref maxBlocks
          = some (toGoB (Rfc8888.metricsAfter m ref maxBlocks).2, g') ∧
      Rel g' (Rfc8888.metricsAfter m ref maxBlocks).1 ∧
      g' = { g with log := g'.log, nextSequenceNumberToReport := g'.nextSequenceNumberToReport } := by
  rw [metricsAfter_unfold]
  by_cases he : g.log = []
  · rw [if_dec_pos ((mapLen_eq_zero _).mpr he),
      Rfc8888.metricsAfter_empty m ref maxBlocks (h.log.empty_iff.mp he)]
    refine ⟨g, ?_, h, rfl⟩
    simp only [toGoB, u16_cast, h.ssrc, h.next, List.map_nil]
  · rw [if_dec_neg (mt (mapLen_eq_zero _).mp he),
      Rfc8888.metricsAfter_nonempty m ref maxBlocks (fun e => he (h.log.empty_iff.mpr e)),
      s64_id (g.lastSequenceNumberReceived - g.nextSequenceNumberToReport) (by omega),
      s64_id (g.lastSequenceNumberReceived - g.nextSequenceNumberToReport + 1) (by omega)]
    simp only []
    by_cases ht : g.lastSequenceNumberReceived - g.nextSequenceNumberToReport + 1 > maxBlocks
    · rw [if_dec_pos ht]
      obtain ⟨hrel, b1, b2, b3⟩ := gTrunc_rel h maxBlocks hmb hlo hhi ht
      exact finish_spec hrel ref b1 b2 hhi maxBlocks b3 fuel (by omega)
    · rw [if_dec_neg ht]
      have hrel : Rel g (Rfc8888.truncate m maxBlocks) := by
        unfold Rfc8888.truncate
        rw [if_neg (by rw [← h.next, ← h.last]; exact ht)]
        exact h
      exact finish_spec hrel ref (Int.le_of_lt hlo) hnl hhi _ rfl fuel hf

/-- `2^62` minus the room for `n` further `add` calls (each moves the unwrapper by less than 2^16). -/
def L (n : Nat) : Int := 4611686018427387904 - 65536 * (n : Int)

/-- The invariant of the Go struct under which no int64 operation of `add`/`metricsAfter` overflows during the
next `n` calls of `add` (and any number of `metricsAfter` calls), `make` gets a non-negative length and every
`metricBlocks[i-offset]` is in range:
the unwrapper is within `±L n` (this is `Room` of Props/C20Src.lean), the report pointer is in `(-L n, last + 1]`,
the highest received number is below `L n`, the log is empty before the first packet, and every key of the log lies
between the two pointers. -/
structure Inv (g : S_rfc8888_streamLog) (n : Nat) : Prop where
  room : -(L n) ≤ g.sequence.lastUnwrapped ∧ g.sequence.lastUnwrapped ≤ L n
  fresh : g.sequence.init = false → g.sequence.lastUnwrapped = 0
  nextLo : -(L n) < g.nextSequenceNumberToReport
  nextHi : g.nextSequenceNumberToReport ≤ g.lastSequenceNumberReceived + 1
  lastHi : g.lastSequenceNumberReceived < L n
  initEmpty : g.init = false → g.log = []
  keys : ∀ k, (glookup g.log k).isSome = true →
    g.nextSequenceNumberToReport ≤ k ∧ k ≤ g.lastSequenceNumberReceived

theorem L_succ (n : Nat) : L (n + 1) = L n - 65536 := by unfold L; omega

theorem L_le (n : Nat) : L n ≤ 4611686018427387904 := by unfold L; omega

theorem Inv.mono {g : S_rfc8888_streamLog} {n : Nat} (h : Inv g (n + 1)) : Inv g n := by
  have hL : L (n + 1) ≤ L n := by rw [L_succ]; omega
  exact ⟨⟨Int.le_trans (Int.neg_le_neg hL) h.room.1, Int.le_trans h.room.2 hL⟩, h.fresh,
    Int.lt_of_le_of_lt (Int.neg_le_neg hL) h.nextLo, h.nextHi, Int.lt_of_lt_of_le h.lastHi hL, h.initEmpty, h.keys⟩

/-- the int64 hypotheses of `metricsAfter_src_eq_model` and `add_src_eq_model`. -/
theorem Inv.bounds {g : S_rfc8888_streamLog} {n : Nat} (h : Inv g n) :
    -4611686018427387904 < g.nextSequenceNumberToReport ∧
      g.nextSequenceNumberToReport ≤ g.lastSequenceNumberReceived + 1 ∧
      g.lastSequenceNumberReceived < 4611686018427387904 ∧
      -4611686018427387904 ≤ g.sequence.lastUnwrapped ∧ g.sequence.lastUnwrapped ≤ 4611686018427387904 := by
  have hL := L_le n
  exact ⟨Int.lt_of_le_of_lt (Int.neg_le_neg hL) h.nextLo, h.nextHi, Int.lt_of_lt_of_le h.lastHi hL,
    Int.le_trans (Int.neg_le_neg hL) h.room.1, Int.le_trans h.room.2 hL⟩

/-- with the invariant, a non-empty log has `next ≤ last`: the length `last - next + 1` that `metricsAfter` passes
to `make` (or `maxReportBlocks ≥ 0` after truncation) is not negative. -/
theorem Inv.nonempty {g : S_rfc8888_streamLog} {n : Nat} (h : Inv g n) (hne : g.log ≠ []) :
    g.nextSequenceNumberToReport ≤ g.lastSequenceNumberReceived := by
  cases hl : g.log with
  | nil => exact absurd hl hne
  | cons p t =>
    have := h.keys p.1 (by rw [hl]; simp [glookup])
    omega

/-- ★ `newStreamLog` establishes the invariant, with room for up to `2^46 - 1` calls of `add`. -/
theorem newStreamLog_inv (ssrc : Int) (n : Nat) (hn : n < 70368744177664) : Inv (rfc8888_newStreamLog ssrc) n := by
  have hL : 0 < L n := by unfold L; omega
  exact ⟨⟨Int.neg_nonpos_of_nonneg (Int.le_of_lt hL), Int.le_of_lt hL⟩, fun _ => rfl, Int.neg_neg_of_pos hL,
    (by decide : (0 : Int) ≤ 0 + 1), hL, fun _ => rfl, fun k hk => by simp [rfc8888_newStreamLog, glookup] at hk⟩

example : Inv (rfc8888_newStreamLog 4660) 1000000 := newStreamLog_inv 4660 1000000 (by omega)

/-- the translated `Unwrap`: the new state is initialised and holds the result, which is the input on a fresh
unwrapper and within 65535 of the previous result otherwise. -/
theorem unwrap_facts (u : S_sequencenumber_Unwrapper) (i : Nat) (hi : i < 65536)
    (hb : -4611686018427387904 ≤ u.lastUnwrapped ∧ u.lastUnwrapped ≤ 4611686018427387904) :
    (sequencenumber_Unwrapper_Unwrap u i).2.init = true ∧
    (sequencenumber_Unwrapper_Unwrap u i).2.lastUnwrapped = (sequencenumber_Unwrapper_Unwrap u i).1 ∧
    (u.init = false → (sequencenumber_Unwrapper_Unwrap u i).1 = (i : Int)) ∧
    (u.init = true → u.lastUnwrapped - 65535 ≤ (sequencenumber_Unwrapper_Unwrap u i).1 ∧
      (sequencenumber_Unwrapper_Unwrap u i).1 ≤ u.lastUnwrapped + 65535) := by
  obtain ⟨ini, last⟩ := u
  cases ini
  · rw [Unwrap_fresh]
    exact ⟨rfl, rfl, fun _ => rfl, nofun⟩
  · rw [Unwrap_init last i hi hb]
    exact ⟨rfl, rfl, nofun, fun _ => Unwrapper.step_near last i⟩

/-- ★ `add` preserves the invariant and uses up one unit of room: `Inv g (n+1) → Inv (add g …) n`, for every
time, every uint16 sequence number and every ECN value. -/
theorem add_inv {g : S_rfc8888_streamLog} {n : Nat} (h : Inv g (n + 1)) (ts : Int) (sn : Nat) (hsn : sn < 65536)
    (ecn : Int) : Inv (rfc8888_streamLog_add g ts (sn : Int) ecn) n := by
  obtain ⟨f1, f2, f3, f4⟩ := unwrap_facts g.sequence sn hsn (by have := h.bounds; omega)
  obtain ⟨h1, -, h3, h4, h5, h6, h7⟩ := h
  rw [L_succ] at h1 h3 h5
  have hu : -(L n) < (sequencenumber_Unwrapper_Unwrap g.sequence (sn : Int)).1 ∧
      (sequencenumber_Unwrapper_Unwrap g.sequence (sn : Int)).1 < L n := by
    cases hi : g.sequence.init
    · have := f3 hi; omega
    · have := f4 hi; omega
  rw [add_eq]
  simp only [decide_eq_true_eq]
  generalize sequencenumber_Unwrapper_Unwrap g.sequence (sn : Int) = c at f1 f2 hu
  have hfresh : c.2.init = false → c.2.lastUnwrapped = 0 := fun e => by rw [f1] at e; cases e
  have hroom : -(L n) ≤ c.2.lastUnwrapped ∧ c.2.lastUnwrapped ≤ L n := by rw [f2]; omega
  have h3' : -(L n) < g.nextSequenceNumberToReport := by omega
  have h5' : g.lastSequenceNumberReceived < L n := by omega
  have hlast : g.lastSequenceNumberReceived ≤
        (if g.lastSequenceNumberReceived < c.1 then c.1 else g.lastSequenceNumberReceived) ∧
      c.1 ≤ (if g.lastSequenceNumberReceived < c.1 then c.1 else g.lastSequenceNumberReceived) ∧
      (if g.lastSequenceNumberReceived < c.1 then c.1 else g.lastSequenceNumberReceived) < L n := by
    split
    · rename_i hlt; exact ⟨Int.le_of_lt hlt, Int.le_refl _, hu.2⟩
    · rename_i hge; exact ⟨Int.le_refl _, Int.not_lt.mp hge, h5'⟩
  generalize (if g.lastSequenceNumberReceived < c.1 then c.1 else g.lastSequenceNumberReceived) = last at hlast
  cases hi : g.init
  · -- the first packet: the log was empty, and `c.1` becomes the cursor and the only key
    simp only [Bool.false_eq_true, if_false, Int.lt_irrefl, h6 hi]
    refine ⟨hroom, hfresh, hu.1, Int.le_trans hlast.2.1 (Int.le_add_of_nonneg_right (by decide)), hlast.2.2, nofun,
      fun k hk => ?_⟩
    rcases isSome_setIfAbsent (gl := []) hk with e | e
    · subst e; exact ⟨Int.le_refl _, hlast.2.1⟩
    · cases e
  · simp only [if_true]
    split
    · exact ⟨hroom, hfresh, h3', h4, h5', nofun, h7⟩
    · rename_i hge
      refine ⟨hroom, hfresh, h3', Int.le_trans h4 (Int.add_le_add_right hlast.1 1), hlast.2.2, nofun, fun k hk => ?_⟩
      rcases isSome_setIfAbsent hk with e | e
      · subst e; exact ⟨Int.not_lt.mp hge, hlast.2.1⟩
      · have := h7 k e
        exact ⟨this.1, Int.le_trans this.2 hlast.1⟩

/-- `metricsAfter_chain` below, and the unwrapper is left alone (Props/C08Src threads it through a run). -/
theorem metricsAfter_step {g : S_rfc8888_streamLog} {m : Rfc8888.StreamLog} (h : Rel g m) {n : Nat} (hinv : Inv g n)
    (ref maxBlocks : Int) (hmb : 0 ≤ maxBlocks ∧ maxBlocks < 4611686018427387904)
    (fuel : Nat) (hf : (g.lastSequenceNumberReceived - g.nextSequenceNumberToReport + 1).toNat + 1 ≤ fuel) :
    ∃ g', rfc8888_streamLog_metricsAfter fuel g ref maxBlocks
          = some (toGoB (Rfc8888.metricsAfter m ref maxBlocks).2, g') ∧
      Rel g' (Rfc8888.metricsAfter m ref maxBlocks).1 ∧ Inv g' n ∧
      g'.sequence = g.sequence := by
  have hb := hinv.bounds
  obtain ⟨g', h1, h2, h3⟩ := metricsAfter_src_eq_model h ref maxBlocks hmb hb.1 hb.2.1 hb.2.2.1 fuel hf
  refine ⟨g', h1, h2, ?_, by rw [h3]⟩
  have hk : ∀ k, Rfc8888.lookup m.log k ≠ none → m.next ≤ k ∧ k ≤ m.last := by
    intro k hk
    rw [← h.next, ← h.last]
    exact hinv.keys k (by rw [h.log.isSome_iff]; exact Option.isSome_iff_ne_none.mpr hk)
  obtain ⟨hk', hord⟩ := Rfc8888.metricsAfter_keys m ref maxBlocks hmb.1 hk
    (by rw [← h.next, ← h.last]; exact hinv.nextHi)
  -- the new cursor is the model's, which lies between the old cursor and `last + 1`
  have hnext : g.nextSequenceNumberToReport ≤ g'.nextSequenceNumberToReport := by
    rw [h2.next, h.next]; exact Rfc8888.metricsAfter_next_ge m ref maxBlocks
  rw [h3]
  refine ⟨hinv.room, hinv.fresh, Int.lt_of_lt_of_le hinv.nextLo hnext, ?_, hinv.lastHi, fun c => ?_, fun k hk'' => ?_⟩
  · show g'.nextSequenceNumberToReport ≤ g.lastSequenceNumberReceived + 1
    rw [h2.next, h.last]; exact hord
  · have : m.log = [] := h.log.empty_iff.mp (hinv.initEmpty c)
    refine h2.log.empty_iff.mpr ?_
    rw [Rfc8888.metricsAfter_empty m ref maxBlocks this]
    exact this
  · show g'.nextSequenceNumberToReport ≤ k ∧ k ≤ g.lastSequenceNumberReceived
    rw [h2.next, h.last]
    exact hk' k (Option.isSome_iff_ne_none.mp (by rw [← h2.log.isSome_iff]; exact hk''))

/-- ★ `metricsAfter` preserves the relation AND the invariant (with the same room `n`): together with
`newStreamLog_src_eq_model`/`newStreamLog_inv` and `add_src_eq_model`/`add_inv` this lets the step theorems chain
over every sequence of `add` and `metricsAfter` calls (with fewer than 2^46 `add`s).  Same statement as
`metricsAfter_src_eq_model`, with the int64 hypotheses replaced by `Inv g n` and `Inv g' n` added to the
conclusion. -/
theorem metricsAfter_chain {g : S_rfc8888_streamLog} {m : Rfc8888.StreamLog} (h : Rel g m) {n : Nat} (hinv : Inv g n)
    (ref maxBlocks : Int) (hmb : 0 ≤ maxBlocks ∧ maxBlocks < 4611686018427387904)
    (fuel : Nat) (hf : (g.lastSequenceNumberReceived - g.nextSequenceNumberToReport + 1).toNat + 1 ≤ fuel) :
    ∃ g', rfc8888_streamLog_metricsAfter fuel g ref maxBlocks
          = some (toGoB (Rfc8888.metricsAfter m ref maxBlocks).2, g') ∧
      Rel g' (Rfc8888.metricsAfter m ref maxBlocks).1 ∧ Inv g' n := by
  obtain ⟨g', h1, h2, h3, _⟩ := metricsAfter_step h hinv ref maxBlocks hmb fuel hf
  exact ⟨g', h1, h2, h3⟩

/-- ★ the fields of the returned block, spelled out: MediaSSRC and BeginSequence are the model's, there are as many
metric blocks as in the model's block, and the `j`-th metric block has the model's Received, ECN and
ArrivalTimeOffset. -/
theorem toGoB_fields (b : Rfc8888.Block) :
    (toGoB b).MediaSSRC = (b.ssrc : Int) ∧ (toGoB b).BeginSequence = (b.begin : Int) ∧
    (toGoB b).MetricBlocks.length = b.metrics.length ∧
    ∀ (j : Nat) (hj : j < b.metrics.length),
      ((toGoB b).MetricBlocks.getD j default).Received = (b.metrics[j]).received ∧
      ((toGoB b).MetricBlocks.getD j default).ECN = ((b.metrics[j]).ecn : Int) ∧
      ((toGoB b).MetricBlocks.getD j default).ArrivalTimeOffset = ((b.metrics[j]).ato : Int) := by
  refine ⟨rfl, rfl, by simp [toGoB], fun j hj => ?_⟩
  have : (toGoB b).MetricBlocks.getD j default = toGoM (b.metrics[j]) := by
    simp [toGoB, List.getD, hj]
  rw [this]
  exact ⟨rfl, rfl, rfl⟩

inductive Op where
  | add (ts : Int) (sn : Nat) (ecn : Nat)
  | report (ref : Int) (maxBlocks : Int)

/-- the arguments are in the range of the Go types / of the caller. -/
def Op.ok : Op → Prop
  | .add _ sn _ => sn < 65536
  | .report _ mb => 0 ≤ mb ∧ mb < 4611686018427387904

/-- run the generated functions; each `metricsAfter` gets `last - next + 2` units of fuel. -/
def goRun : S_rfc8888_streamLog → List Op → Option (S_rfc8888_streamLog × List S_rtcp_CCFeedbackReportBlock)
  | g, [] => some (g, [])
  | g, .add ts sn ecn :: ops => goRun (rfc8888_streamLog_add g ts (sn : Int) (ecn : Int)) ops
  | g, .report ref mb :: ops =>
    match rfc8888_streamLog_metricsAfter
        ((g.lastSequenceNumberReceived - g.nextSequenceNumberToReport + 1).toNat + 1) g ref mb with
    | none => none
    | some (b, g') =>
      match goRun g' ops with
      | none => none
      | some (g'', bs) => some (g'', b :: bs)

def modelRun : Rfc8888.StreamLog → List Op → Rfc8888.StreamLog × List Rfc8888.Block
  | m, [] => (m, [])
  | m, .add ts sn ecn :: ops => modelRun (Rfc8888.add m ts sn ecn) ops
  | m, .report ref mb :: ops =>
    let r := Rfc8888.metricsAfter m ref mb
    let rs := modelRun r.1 ops
    (rs.1, r.2 :: rs.2)

theorem run_rel : ∀ (ops : List Op) (g : S_rfc8888_streamLog) (m : Rfc8888.StreamLog),
    (∀ o ∈ ops, o.ok) → Rel g m → Inv g ops.length →
    ∃ g', goRun g ops = some (g', (modelRun m ops).2.map toGoB) ∧ Rel g' (modelRun m ops).1 ∧ Inv g' 0 := by
  intro ops
  induction ops with
  | nil => intro g m _ h hi; exact ⟨g, rfl, h, hi⟩
  | cons o ops ih =>
    intro g m hok h hi
    have hok' : ∀ o ∈ ops, o.ok := fun o ho => hok o (by simp [ho])
    cases o with
    | add ts sn ecn =>
      have hsn : sn < 65536 := hok (.add ts sn ecn) (by simp)
      have hb := hi.bounds
      simp only [goRun, modelRun]
      exact ih _ _ hok' (add_src_eq_model h ts sn hsn ecn ⟨hb.2.2.2.1, hb.2.2.2.2⟩) (add_inv hi ts sn hsn ecn)
    | report ref mb =>
      have hmb : 0 ≤ mb ∧ mb < 4611686018427387904 := hok (.report ref mb) (by simp)
      obtain ⟨g1, e1, r1, i1⟩ := metricsAfter_chain h hi.mono ref mb hmb _ (Nat.le_refl _)
      obtain ⟨g2, e2, r2, i2⟩ := ih g1 _ hok' r1 i1
      simp only [goRun, modelRun, e1, e2, List.map_cons]
      exact ⟨g2, rfl, r2, i2⟩

/-- ★ end to end: starting from `newStreamLog(ssrc)`, every sequence of fewer than 2^46 calls of `add` (any time, any
uint16 sequence number, any ECN) and `metricsAfter` (any reference time, any `maxReportBlocks` in `[0, 2^62)`) on
the generated code terminates and returns exactly the report blocks of the model, and the final states are
related. -/
theorem run_src_eq_model (ssrc : Nat) (ops : List Op) (hok : ∀ o ∈ ops, o.ok) (hlen : ops.length < 70368744177664) :
    ∃ g', goRun (rfc8888_newStreamLog (ssrc : Int)) ops
        = some (g', (modelRun (Rfc8888.StreamLog.new ssrc) ops).2.map toGoB) ∧
      Rel g' (modelRun (Rfc8888.StreamLog.new ssrc) ops).1 := by
  obtain ⟨g', h1, h2, _⟩ := run_rel ops _ _ hok (newStreamLog_src_eq_model ssrc) (newStreamLog_inv _ _ hlen)
  exact ⟨g', h1, h2⟩

/-- a Go state with a gap: packets 10 and 12 received, 11 missing, report pointer at 10. -/
def gEx : S_rfc8888_streamLog :=
  { ssrc := 7, sequence := { init := true, lastUnwrapped := 12 }, init := true,
    nextSequenceNumberToReport := 10, lastSequenceNumberReceived := 12,
    log := [(12, { arrivalTime := 2000000, ecn := 0 }), (10, { arrivalTime := 1000000, ecn := 1 })] }

/-- the model state it represents (the entries are stored in another order). -/
def mEx : Rfc8888.StreamLog :=
  { ssrc := 7, seq := some 12, init := true, next := 10, last := 12,
    log := [(10, ⟨1000000, 1⟩), (12, ⟨2000000, 0⟩)] }

theorem relEx : Rel gEx mEx := by
  refine ⟨rfl, rfl, rfl, rfl, rfl, by decide, fun k => ?_⟩
  simp only [gEx, mEx, glookup, Rfc8888.lookup]
  by_cases h12 : (12 : Int) = k
  · subst h12; rfl
  · by_cases h10 : (10 : Int) = k
    · subst h10; rfl
    · simp [h12, h10]

theorem invEx : Inv gEx 1000 := by
  refine ⟨(by unfold L; decide), (fun c => by cases c), (by unfold L; decide), (by decide), (by unfold L; decide),
    (fun c => by cases c), fun k hk => ?_⟩
  simp only [gEx, glookup] at hk ⊢
  by_cases h12 : (12 : Int) = k
  · omega
  · by_cases h10 : (10 : Int) = k
    · omega
    · simp [h12, h10] at hk

example : Rel (rfc8888_streamLog_add gEx 3000000 11 2) (Rfc8888.add mEx 3000000 11 2) :=
  add_src_eq_model relEx 3000000 11 (by omega) 2 (by decide)

example : Inv (rfc8888_streamLog_add gEx 3000000 11 2) 999 := add_inv invEx 3000000 11 (by omega) 2

example : ∃ g', rfc8888_streamLog_metricsAfter 4 gEx 5000000 2
      = some (toGoB (Rfc8888.metricsAfter mEx 5000000 2).2, g') ∧
    Rel g' (Rfc8888.metricsAfter mEx 5000000 2).1 ∧
    g' = { gEx with log := g'.log, nextSequenceNumberToReport := g'.nextSequenceNumberToReport } :=
  metricsAfter_src_eq_model relEx 5000000 2 (by omega) (by decide) (by decide) (by decide) 4 (by decide)

example : ∃ g', rfc8888_streamLog_metricsAfter 4 gEx 5000000 100
      = some (toGoB (Rfc8888.metricsAfter mEx 5000000 100).2, g') ∧
    Rel g' (Rfc8888.metricsAfter mEx 5000000 100).1 ∧ Inv g' 1000 :=
  metricsAfter_chain relEx invEx 5000000 100 (by omega) 4 (by decide)

example : ∃ g', goRun (rfc8888_newStreamLog (7 : Nat))
      [.add 1000000 10 1, .add 2000000 12 0, .report 5000000 2, .add 3000000 11 2, .report 6000000 100]
      = some (g', (modelRun (Rfc8888.StreamLog.new 7)
          [.add 1000000 10 1, .add 2000000 12 0, .report 5000000 2, .add 3000000 11 2, .report 6000000 100]).2.map
            toGoB) ∧
      Rel g' (modelRun (Rfc8888.StreamLog.new 7)
          [.add 1000000 10 1, .add 2000000 12 0, .report 5000000 2, .add 3000000 11 2, .report 6000000 100]).1 :=
  run_src_eq_model 7 _ (by intro o ho; simp at ho; rcases ho with rfl | rfl | rfl | rfl | rfl <;> simp [Op.ok])
    (by decide)

end Interceptor.Facts.FnStreamLog
