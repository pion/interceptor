/-
ToTime / ToNTP32 / ToTime32 as written in the source (generated translation) equal the models of
Model/Ntp.lean, for every 64-bit (resp. 32-bit) argument.
-/
import Interceptor.Facts.FnNtp
import Interceptor.Base.GoBits
import Interceptor.Proofs.GoWrap
import Interceptor.Props.C20Ntp
import Interceptor.Proofs.NtpRoundTrip
namespace Interceptor.Facts.FnNtp
open Interceptor.Gen.Fn Interceptor.GoSem Interceptor.Ntp

open Interceptor.F64 in
/-- the nanosecond part of `ToTime` is between 0 and 10^9: `Ntp.nanos_bounds` at `fp / (2^32−1) ≤ 1`. -/
theorem nanos_range (fp : Nat) (hfp : fp < 4294967296) :
    0 ≤ F64.toInt64 (F64.mul (F64.div (F64.ofInt (fp : Int)) 4294967295) 1000000000) ∧
    F64.toInt64 (F64.mul (F64.div (F64.ofInt (fp : Int)) 4294967295) 1000000000) ≤ 1000000000 := by
  obtain ⟨w, hw, h1, _, h0⟩ := nanos_bounds fp hfp
  have hfq : (fp : ℚ) ≤ 4294967295 := by exact_mod_cast Nat.le_of_lt_succ hfp
  have hg1 : (fp : ℚ) / 4294967295 ≤ 1 := (div_le_one (by norm_num)).mpr hfq
  rw [hw]
  exact ⟨h0, Int.lt_add_one_iff.mp (by exact_mod_cast (by linarith only [h1, hg1] : (w : ℚ) < 1000000000 + 1))⟩

/-- `x & (2^64 − 2^k)` on a uint64 keeps the bits from `k` upwards. -/
theorem band_high (x k : Nat) (hx : x < 2 ^ 64) (hk : k ≤ 64) :
    band (x : Int) ((2 ^ 64 - 2 ^ k : Nat) : Int) = ((x / 2 ^ k * 2 ^ k : Nat) : Int) := by
  rw [band_ofNat, and_mask x 64 k hk, Nat.mod_eq_of_lt hx]

/-- ★ `ToTime` as written in the source equals the model, for every uint64. -/
theorem toTime_src_eq_model (t : Nat) (ht : t < 18446744073709551616) :
    ntp_ToTime (t : Int) = Ntp.toTime t := by
  have e1 : band (t : Int) 18446744069414584320 = ((t / 4294967296 * 4294967296 : Nat) : Int) :=
    band_high t 32 ht (by decide)
  have e2 : band (t : Int) 4294967295 = ((t % 4294967296 : Nat) : Int) := by
    rw [show (4294967295 : Int) = ((2 ^ 32 - 1 : Nat) : Int) from rfl, band_ofNat,
      Nat.and_two_pow_sub_one_eq_mod]
  have hs : t / 4294967296 < 4294967296 := Nat.div_lt_of_lt_mul ht
  have hf : t % 4294967296 < 4294967296 := Nat.mod_lt _ (by decide)
  obtain ⟨n1, n2⟩ := nanos_range (t % 4294967296) hf
  unfold ntp_ToTime Ntp.toTime timeAdd
  rw [e1, e2]
  clear e1 e2 ht
  generalize t / 4294967296 = S at hs ⊢
  generalize t % 4294967296 = f at hf n1 n2 ⊢
  have e3 : shr ((S * 4294967296 : Nat) : Int) 32 = (S : Int) := by unfold shr; simp
  rw [u64_id ((S * 4294967296 : Nat) : Int) (by omega), u64_id (f : Int) (by omega), e3]
  dsimp only
  generalize F64.toInt64 (F64.mul (F64.div (F64.ofInt (f : Int)) 4294967295) 1000000000) = w at n1 n2
  have hS : (0 : Int) ≤ (S : Int) ∧ (S : Int) < 4294967296 := ⟨Int.natCast_nonneg _, by exact_mod_cast hs⟩
  generalize (S : Int) = S' at hS
  clear e3 hs hf
  rw [s64_id S' (by omega), s64_id (S' * 1000000000) (by omega), s64_id (w * 1) (by omega),
    s64_id (S' * 1000000000 + w * 1) (by omega), s64_id (0 * 1000000000 + 0) (by omega)]
  omega

/-- ★ `ToNTP32` as written in the source equals the model. -/
theorem toNTP32_src_eq_model (ns : Int) : ntp_ToNTP32 ns = (Ntp.toNTP32 ns : Int) := by
  unfold ntp_ToNTP32 Ntp.toNTP32
  rw [toNTP_src_eq_model]
  unfold shr u32; simp

/-- ★ `ToTime32` as written in the source equals the model, for every uint32 and every reference. -/
theorem toTime32_src_eq_model (t : Nat) (ht : t < 4294967296) (ref : Int) :
    ntp_ToTime32 (t : Int) ref = Ntp.toTime32 t ref := by
  have hN := toNTP_lt ref
  unfold ntp_ToTime32 Ntp.toTime32
  rw [toNTP_src_eq_model]
  generalize Ntp.toNTP ref = N at hN
  have e1 : band (N : Int) 18446462598732840960 = ((N / 281474976710656 * 281474976710656 : Nat) : Int) :=
    band_high N 48 hN (by decide)
  have e2 : shl (t : Int) 16 = ((t * 65536 : Nat) : Int) := by unfold shl; simp
  have e3 : band ((t * 65536 : Nat) : Int) 281474976645120 = ((t * 65536 % 281474976710656 : Nat) : Int) := by
    rw [show (281474976645120 : Int) = ((2 ^ 48 - 2 ^ 16 : Nat) : Int) from rfl, band_ofNat,
      and_mask _ 48 16 (by decide)]
    -- `t << 16` is below 2^48, so the mask only clears the (zero) low 16 bits
    have hm : t * 65536 % 281474976710656 = t * 65536 := Nat.mod_eq_of_lt (by omega)
    rw [show (2 : Nat) ^ 48 = 281474976710656 from rfl, show (2 : Nat) ^ 16 = 65536 from rfl, hm,
      Nat.mul_div_cancel _ (by decide)]
  dsimp only
  rw [e1, e2, u64_id ((t * 65536 : Nat) : Int) (by omega), e3]
  -- two disjoint fields: `a` below 2^48, `h` the 16 bits above
  have ha : t * 65536 % 281474976710656 < 281474976710656 := Nat.mod_lt _ (by decide)
  have hh : N / 281474976710656 < 65536 := Nat.div_lt_of_lt_mul hN
  generalize t * 65536 % 281474976710656 = a at ha ⊢
  generalize N / 281474976710656 = h at hh ⊢
  clear e1 e2 e3 hN ht
  have e4 : a ||| h * 281474976710656 = a + h * 281474976710656 := by
    rw [Nat.or_comm, Nat.add_comm]; exact or_field h a 48 ha
  rw [u64_id (a : Int) (by omega), u64_id ((h * 281474976710656 : Nat) : Int) (by omega), bor_ofNat, e4,
    u64_id _ (by omega)]
  exact toTime_src_eq_model _ (by omega)

end Interceptor.Facts.FnNtp
