/-
Generated translations (Gen/Fn_flexfec_util.lean, regenerated from /repo on every run) of
`MediaPacketIterator.Reset` / `HasNext` (pkg/flexfec/util/media_packet_iterator.go): `Reset` rewinds to index 0
and keeps packets and coverage; `HasNext` is `nextIndex < len(coveredIndices)`, hence true after `Reset` exactly
when the coverage is non-empty — the condition under which `EncodeFec` emits a repair packet for that row (C14).
-/
import Interceptor.Gen.Fn_flexfec_util
namespace Interceptor.Facts.FnFecIter
open Interceptor.Gen.Fn Interceptor.GoSem Interceptor

/-- ★ `Reset` rewinds and keeps everything else; the value it returns is the rewound iterator. -/
theorem reset_src (m : S_flexfec_util_MediaPacketIterator) :
    flexfec_util_MediaPacketIterator_Reset m = ({ m with nextIndex := 0 }, { m with nextIndex := 0 }) := rfl

/-- ★ `HasNext` is false exactly from the end of the coverage on. -/
theorem hasNext_iff (m : S_flexfec_util_MediaPacketIterator) :
    flexfec_util_MediaPacketIterator_HasNext m = true ↔ m.nextIndex < (m.coveredIndices.length : Int) := by
  simp only [flexfec_util_MediaPacketIterator_HasNext, len]
  exact decide_eq_true_iff

/-- ★ `HasNext` after `Reset` holds exactly when the row covers at least one packet. -/
theorem hasNext_after_reset (m : S_flexfec_util_MediaPacketIterator) :
    flexfec_util_MediaPacketIterator_HasNext (flexfec_util_MediaPacketIterator_Reset m).2 = true ↔
      m.coveredIndices ≠ [] := by
  rw [hasNext_iff, reset_src]
  exact Int.natCast_pos.trans List.length_pos_iff

/-- ★ the constructor as written in the source yields an iterator that is already rewound: `Reset` is the
identity on it. -/
theorem new_reset (ps : List S_rtp_Packet) (cov : List Int) :
    (flexfec_util_MediaPacketIterator_Reset (flexfec_util_NewMediaPacketIterator ps cov)).2 =
      flexfec_util_NewMediaPacketIterator ps cov := rfl

/-- ★ a fresh iterator has a next packet exactly when the row covers at least one. -/
theorem new_hasNext (ps : List S_rtp_Packet) (cov : List Int) :
    flexfec_util_MediaPacketIterator_HasNext (flexfec_util_NewMediaPacketIterator ps cov) = true ↔ cov ≠ [] := by
  rw [← new_reset, hasNext_after_reset]; rfl

end Interceptor.Facts.FnFecIter
