/-
More generated translations of pkg/gcc (arrival_group.go, arrival_group_accumulator.go; Gen/Fn_gcc.lean,
regenerated from /repo on every run): `newArrivalGroup`, `arrivalGroup.add`, `interDepartureTimePkt`.

The arrival-group stage is one of the stages Model/Gcc.lean treats as an oracle ("arrival-group / Kalman /
threshold / overuse stages collapse into some usage"): there is no model function.  The functions are
stated against the closest expressions:
* the group that `newArrivalGroup(a); add(b₁); …; add(bₙ)` builds is `groupOf a [b₁,…,bₙ]`: the packets in
  order, the departure time of the FIRST packet, the arrival time of the LAST one (`built_src_eq_model`);
* `interDepartureTimePkt` is the difference of instants `GoTime.sub ack.Departure (some group.departure)`
  of Model/GoTime.lean (as the three sibling functions in Facts/FnGcc.lean), under the exact condition the Go
  code needs (`Sub` does not saturate) and the invariant `NonEmpty` (the group has a packet — established
  by `newArrivalGroup`, preserved by `add`); on the zero value `arrivalGroup{}` it is 0.
-/
import Interceptor.Facts.FnGcc
namespace Interceptor.Facts.FnGcc2
open Interceptor.Gen.Fn Interceptor.GoSem Interceptor.Gcc
open Interceptor.Facts.FnGcc (fits timeSub_exact)

abbrev Ack := S_cc_Acknowledgment

/-- last element of a non-empty sequence given as head and tail. -/
def lastOf (a : Ack) : List Ack → Ack
  | [] => a
  | b :: bs => lastOf b bs

theorem lastOf_append (a : Ack) (bs : List Ack) (b : Ack) : lastOf a (bs ++ [b]) = b := by
  induction bs generalizing a with
  | nil => rfl
  | cons c cs ih => exact ih c

/-- the arrival group made of the packets `a :: bs` (in order of acknowledgment): the departure time is the
first packet's, the arrival time the last packet's. -/
def groupOf (a : Ack) (bs : List Ack) : S_gcc_arrivalGroup :=
  { packets := a :: bs, departure := a.Departure, arrival := (lastOf a bs).Arrival }

/-- ★ `newArrivalGroup` as written in the source builds the one-packet group, for every acknowledgment. -/
theorem newArrivalGroup_src_eq_model (a : Ack) : gcc_newArrivalGroup a = groupOf a [] := rfl

/-- ★ `arrivalGroup.add` as written in the source appends the packet and takes over its arrival time; the
departure time (and nothing else) is kept — for every group and acknowledgment. -/
theorem add_src_eq_model (g : S_gcc_arrivalGroup) (a : Ack) :
    gcc_arrivalGroup_add g a = { packets := g.packets ++ [a], departure := g.departure, arrival := a.Arrival } := rfl

/-- ★ `add` on the group of `a :: bs` gives the group of `a :: bs ++ [b]`. -/
theorem add_groupOf (a : Ack) (bs : List Ack) (b : Ack) :
    gcc_arrivalGroup_add (groupOf a bs) b = groupOf a (bs ++ [b]) := by
  unfold gcc_arrivalGroup_add groupOf
  simp only [lastOf_append, List.cons_append]

/-- ★ chaining: `newArrivalGroup(a)` followed by `add(b)` for each `b` of `bs` is `groupOf a bs`. -/
theorem built_src_eq_model (a : Ack) (bs : List Ack) :
    bs.foldl gcc_arrivalGroup_add (gcc_newArrivalGroup a) = groupOf a bs := by
  suffices h : ∀ (cs ds : List Ack), ds.foldl gcc_arrivalGroup_add (groupOf a cs) = groupOf a (cs ++ ds) from
    h [] bs
  intro cs ds
  induction ds generalizing cs with
  | nil => rw [List.foldl_nil, List.append_nil]
  | cons d ds ih => rw [List.foldl_cons, add_groupOf, ih, List.append_assoc, List.singleton_append]

/-- invariant: the group holds at least one packet. -/
def NonEmpty (g : S_gcc_arrivalGroup) : Prop := g.packets ≠ []

/-- ★ `newArrivalGroup` establishes the invariant. -/
theorem nonEmpty_new (a : Ack) : NonEmpty (gcc_newArrivalGroup a) := by
  unfold NonEmpty gcc_newArrivalGroup; simp

/-- ★ `add` preserves (indeed establishes) the invariant. -/
theorem nonEmpty_add (g : S_gcc_arrivalGroup) (a : Ack) : NonEmpty (gcc_arrivalGroup_add g a) := by
  unfold NonEmpty gcc_arrivalGroup_add; simp

theorem lenG_eq_zero {α : Type} (l : List α) : (lenG l = 0) ↔ l = [] := by
  unfold lenG
  cases l with
  | nil => simp
  | cons a as => simp; omega

/-- ★ `interDepartureTimePkt` as written in the source, on a group that holds a packet, is the difference of
the two departure instants (closest model expression: `GoTime.sub`), whenever that difference fits an
int64 — the only thing the Go code needs. -/
theorem interDepartureTimePkt_src_eq_model (g : S_gcc_arrivalGroup) (ack : Ack) (hne : NonEmpty g)
    (h : fits (ack.Departure - g.departure)) :
    gcc_interDepartureTimePkt g ack = GoTime.sub ack.Departure (some g.departure) := by
  unfold gcc_interDepartureTimePkt
  have : ¬ (lenG g.packets = 0) := fun e => hne ((lenG_eq_zero _).mp e)
  simp only [this, decide_false, Bool.false_eq_true, if_false]
  exact timeSub_exact _ _ h

/-- ★ on a group without packets (the zero value `arrivalGroup{}`) `interDepartureTimePkt` is 0, whatever
the times. -/
theorem interDepartureTimePkt_empty (g : S_gcc_arrivalGroup) (ack : Ack) (he : g.packets = []) :
    gcc_interDepartureTimePkt g ack = 0 := by
  unfold gcc_interDepartureTimePkt
  have : lenG g.packets = 0 := (lenG_eq_zero _).mpr he
  simp only [this, decide_true, if_true]

/-- ★ on clock readings (`FnGcc.instant`: between the Unix epoch and 2^62 ns) the `fits` hypothesis holds:
for a group built by `newArrivalGroup`/`add` the result is exactly `ack.Departure − first.Departure`. -/
theorem interDepartureTimePkt_instants (a : Ack) (bs : List Ack) (ack : Ack)
    (h1 : FnGcc.instant a.Departure) (h2 : FnGcc.instant ack.Departure) :
    gcc_interDepartureTimePkt (bs.foldl gcc_arrivalGroup_add (gcc_newArrivalGroup a)) ack
      = ack.Departure - a.Departure := by
  rw [built_src_eq_model]
  unfold FnGcc.instant at h1 h2
  rw [interDepartureTimePkt_src_eq_model (groupOf a bs) ack (by unfold NonEmpty groupOf; simp)
    (by unfold fits groupOf; dsimp only; omega)]
  rfl

/-! satisfiability of the hypotheses on concrete non-trivial values -/

example : gcc_arrivalGroup_add (gcc_newArrivalGroup { SequenceNumber := 1, Departure := 10, Arrival := 20 })
      { SequenceNumber := 2, Departure := 12, Arrival := 25 }
    = groupOf { SequenceNumber := 1, Departure := 10, Arrival := 20 } [{ SequenceNumber := 2, Departure := 12, Arrival := 25 }] :=
  built_src_eq_model _ [_]

example : NonEmpty (gcc_newArrivalGroup { SequenceNumber := 1 }) := nonEmpty_new _

example : gcc_interDepartureTimePkt
      (gcc_newArrivalGroup { Departure := 946684800000000000, Arrival := 946684800020000000 })
      { Departure := 946684800003000000, Arrival := 946684800024000000 } = 3000000 := by
  have := interDepartureTimePkt_instants { Departure := 946684800000000000, Arrival := 946684800020000000 } []
    { Departure := 946684800003000000, Arrival := 946684800024000000 }
    (by unfold FnGcc.instant; decide) (by unfold FnGcc.instant; decide)
  simpa using this

example : gcc_interDepartureTimePkt {} { Departure := 946684800003000000 } = 0 :=
  interDepartureTimePkt_empty _ _ rfl

end Interceptor.Facts.FnGcc2
