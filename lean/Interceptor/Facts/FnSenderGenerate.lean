/-
`senderStream.generateReport` as written in pkg/report/sender_stream.go (generated translation
Gen/Fn_report.lean, regenerated from /repo on every run; it calls the translated `ntp.ToNTP`) computes exactly
the hand-written model `SenderReport.generateReport` (Model/SenderReport.lean) that the C07 theorems are
about: SSRC, the NTP timestamp, `RTPTime = lastRTPTimeRTP + uint32(now.Sub(lastRTPTimeTime).Seconds()*clockRate)`
(binary64, truncation, mod 2^32), the packet and octet counts.

The relation is `FnSenderReport.Rel`.  The only hypothesis beyond it is about `Time.Sub`: Go's
saturates at ±2^63 ns while the model subtracts exactly, so the true difference `now − lastRTPTimeTime` must
fit an int64 (when the stored time is the zero `time.Time`, the model's `none`, Go saturates at the maximal
duration, which is what the model says, for every int64 `now`).  `generateReport_src_eq_model` states exactly
that; `generateReport_src_eq_model_instant` derives it from the invariant `TimeOk` (the stored time is an
`instant`, −2^62 ≤ t < 2^62 Unix ns), which the constructor establishes and `processRTP` preserves for every
instant `now`; `generateReport_after_run` chains it behind arbitrary packet sequences.
-/
import Interceptor.Proofs.SenderReport
import Interceptor.Facts.FnSenderReport
import Interceptor.Facts.FnNtp
namespace Interceptor.Facts.FnSenderGenerate
open Interceptor.Gen.Fn Interceptor.GoSem Interceptor.SenderReport
open Interceptor.Facts.FnSenderReport

/-- a model sender report as the Go struct (no reception reports, no profile extensions). -/
def goSR (sr : SR) : S_rtcp_SenderReport :=
  { SSRC := sr.ssrc, NTPTime := sr.ntp, RTPTime := sr.rtp, PacketCount := sr.packetCount,
    OctetCount := sr.octetCount }

/-- ★ `senderStream.generateReport` as written in the source equals the model's `generateReport`, field by
field, for every related pair of states and every int64 `now` such that `now − lastRTPTimeTime` fits a
`time.Duration` (no condition when the stored time is the zero time). -/
theorem generateReport_src_eq_model (g : S_report_senderStream) (m : Stream) (r : Rel g m) (now : Int)
    (hn : -9223372036854775808 ≤ now)
    (hd : ∀ u, m.lastTime = some u → -9223372036854775808 ≤ now - u ∧ now - u ≤ 9223372036854775807) :
    report_senderStream_generateReport g now = goSR (SenderReport.generateReport m now) := by
  have hsub := timeSub_rel now g.lastRTPTimeTime m.lastTime r.lastTime hn hd
  have hrtp : u32 (g.lastRTPTimeRTP + u32 (F64.toInt64 (F64.mul (durSeconds (timeSub now g.lastRTPTimeTime)) g.clockRate)))
      = (((m.lastTs + elapsedTicks m.rate (GoTime.sub now m.lastTime)) % M32 : Nat) : Int) := by
    rw [hsub, r.rate, r.lastTs, ← FnNtp.toUint32_cast]
    have : F64.toUint32 (F64.mul (durSeconds (GoTime.sub now m.lastTime)) (F64.ofInt (m.rate : Int)))
        = elapsedTicks m.rate (GoTime.sub now m.lastTime) := rfl
    rw [this]
    unfold u32 M32; omega
  unfold report_senderStream_generateReport SenderReport.generateReport goSR
  simp only [hrtp, r.ssrc, r.packetCount, r.octetCount, FnNtp.toNTP_src_eq_model]

/-- an instant whose differences with any other such instant fit a `time.Duration`. -/
def instant (t : Int) : Prop := -4611686018427387904 ≤ t ∧ t < 4611686018427387904

/-- invariant: the stored time of the reference packet, when there is one, is an instant. -/
def TimeOk (m : Stream) : Prop := ∀ u, m.lastTime = some u → instant u

/-- ★ the same with the hypothesis as an invariant: for every instant `now` and every related pair whose
stored time is an instant (or the zero time). -/
theorem generateReport_src_eq_model_instant (g : S_report_senderStream) (m : Stream) (r : Rel g m)
    (tok : TimeOk m) (now : Int) (hn : instant now) :
    report_senderStream_generateReport g now = goSR (SenderReport.generateReport m now) := by
  unfold instant at hn
  refine generateReport_src_eq_model g m r now (by omega) (fun u hu => ?_)
  have := tok u hu
  unfold instant at this
  omega

theorem generateReport_fields (g : S_report_senderStream) (m : Stream) (r : Rel g m) (tok : TimeOk m)
    (now : Int) (hn : instant now) :
    (report_senderStream_generateReport g now).SSRC = ((SenderReport.generateReport m now).ssrc : Int) ∧
    (report_senderStream_generateReport g now).NTPTime = ((SenderReport.generateReport m now).ntp : Int) ∧
    (report_senderStream_generateReport g now).RTPTime = ((SenderReport.generateReport m now).rtp : Int) ∧
    (report_senderStream_generateReport g now).PacketCount = ((SenderReport.generateReport m now).packetCount : Int) ∧
    (report_senderStream_generateReport g now).OctetCount = ((SenderReport.generateReport m now).octetCount : Int) ∧
    (report_senderStream_generateReport g now).Reports = [] := by
  rw [generateReport_src_eq_model_instant g m r tok now hn]
  exact ⟨rfl, rfl, rfl, rfl, rfl, rfl⟩

theorem timeOk_new (ssrc rate : Nat) (useLatest : Bool) : TimeOk (SenderReport.new ssrc rate useLatest) := by
  intro u hu; simp [SenderReport.new] at hu

/-- ★ `processRTP` preserves the invariant for every packet processed at an instant. -/
theorem timeOk_processRTP (m : Stream) (tok : TimeOk m) (p : Pkt) (hn : instant p.now) :
    TimeOk (SenderReport.processRTP m p) := by
  obtain ⟨ts, t, sn, e, ht⟩ := SenderReport.processRTP_frame m p
  rw [e]
  intro u hu
  rcases ht with rfl | rfl
  · exact tok u hu
  · rw [← Option.some.inj hu]; exact hn

/-- ★ the invariant holds after any packet sequence processed at instants. -/
theorem timeOk_run (ps : List Pkt) (hp : ∀ p ∈ ps, instant p.now) :
    ∀ m : Stream, TimeOk m → TimeOk (SenderReport.run m ps) := by
  induction ps with
  | nil => intro m t; exact t
  | cons p ps ih =>
    intro m t
    have := ih (fun q hq => hp q (by simp [hq])) _ (timeOk_processRTP m t p (hp p (by simp)))
    simpa [SenderReport.run] using this

/-- ★ chaining: after any sequence of `processRTP` calls (headers in range, processed at instants) from
related states, `generateReport` at any instant returns the model's report. -/
theorem generateReport_after_run (cs : List Call) (hh : ∀ c ∈ cs, HeaderOk c.2.1) (ht : ∀ c ∈ cs, instant c.1)
    (g : S_report_senderStream) (m : Stream) (r : Rel g m) (tok : TimeOk m) (now : Int) (hn : instant now) :
    report_senderStream_generateReport (goRun g cs) now
      = goSR (SenderReport.generateReport (SenderReport.run m (cs.map fun c => pktOf c.1 c.2.1 c.2.2)) now) := by
  refine generateReport_src_eq_model_instant _ _ (run_src_eq_model cs hh g m r) (timeOk_run _ ?_ m tok) now hn
  intro p hp
  simp only [List.mem_map] at hp
  obtain ⟨c, hc, rfl⟩ := hp
  exact ht c hc

/-! satisfiability of the hypotheses on concrete non-trivial states -/

example : Rel (goNew 7 90000 false) (SenderReport.new 7 90000 false) ∧ TimeOk (SenderReport.new 7 90000 false) :=
  ⟨rel_new 7 90000 false, timeOk_new 7 90000 false⟩

/-- a started stream and a report half a second after the reference packet. -/
example :
    let g : S_report_senderStream :=
      { ssrc := 7, clockRate := F64.ofInt 90000, useLatestPacket := false, lastRTPTimeRTP := 4294967000,
        lastRTPTimeTime := 946684800000000000, lastRTPSN := 65535, packetCount := 3, octetCount := 3600 }
    let m : Stream :=
      { ssrc := 7, rate := 90000, useLatest := false, lastTs := 4294967000, lastTime := some 946684800000000000,
        lastSN := 65535, packetCount := 3, octetCount := 3600 }
    Rel g m ∧ TimeOk m ∧ instant 946684800500000000 :=
  ⟨⟨rfl, rfl, rfl, rfl, rfl, rfl, rfl, rfl⟩,
   fun u hu => by simp only [Option.some.injEq] at hu; rw [← hu]; unfold instant; omega,
   by unfold instant; omega⟩

/-- the hypotheses of the general theorem on the freshly constructed stream (zero stored time). -/
example : ∀ u, (SenderReport.new 7 90000 false).lastTime = some u →
    -9223372036854775808 ≤ 946684800500000000 - u ∧ 946684800500000000 - u ≤ 9223372036854775807 := by
  intro u hu; simp [SenderReport.new] at hu

end Interceptor.Facts.FnSenderGenerate
