/-
C10 — the lock discipline holds on the facts regenerated from /repo (closed by `decide +kernel`),
with the hand-written exception table for fields that are protected by something other than
a lock, an atomic, or immutability.
-/
import Interceptor.Facts.LockDiscipline
import Interceptor.Gen.LockFacts
namespace Interceptor.Facts.C10
open Interceptor.Facts Interceptor.Gen.LockFacts

/-- Fields whose protection is not a lock / atomic / immutability.  `confined` entries are
checked (every live access site lies in a function that runs on the owning goroutine);
`trusted` entries are not checked and are listed in the evidence. -/
def exceptions : List (Name × Exception) := [
  -- twcc: the Recorder and everything below it is owned by SenderInterceptor.loop (packets are handed over by channel)
  (nm! "twcc.Recorder.", .confined [nm! "twcc.Recorder.", nm! "twcc.SenderInterceptor.loop"]),
  (nm! "twcc.feedback.", .confined [nm! "twcc.feedback.", nm! "twcc.Recorder.", nm! "twcc.chunk."]),
  (nm! "twcc.chunk.", .confined [nm! "twcc.chunk.", nm! "twcc.feedback."]),
  (nm! "twcc.packetArrivalTimeMap.", .confined [nm! "twcc.packetArrivalTimeMap.", nm! "twcc.Recorder."]),
  (nm! "twcc.SenderInterceptor.recorder", .trusted "written in BindRTCPWriter before `go loop` (happens-before by the go statement); BindRTCPWriter is called once per PeerConnection"),
  -- rfc8888: Recorder/streamLog are owned by the interceptor loop goroutine
  (nm! "rfc8888.Recorder.", .confined [nm! "rfc8888.Recorder.", nm! "rfc8888.Interceptor.loop", nm! "rfc8888.SenderInterceptor.loop"]),
  (nm! "rfc8888.streamLog.", .confined [nm! "rfc8888.streamLog.", nm! "rfc8888.Recorder."]),
  -- gcc delay pipeline: one goroutine per stage, hand-over by channel
  (nm! "gcc.kalman.", .confined [nm! "gcc.kalman."]),
  (nm! "gcc.overuseDetector.", .confined [nm! "gcc.overuseDetector."]),
  (nm! "gcc.slopeEstimator.", .confined [nm! "gcc.slopeEstimator."]),
  (nm! "gcc.adaptiveThreshold.", .confined [nm! "gcc.adaptiveThreshold."]),
  (nm! "gcc.arrivalGroup.", .confined [nm! "gcc.arrivalGroup.", nm! "gcc.arrivalGroupAccumulator.", nm! "gcc.slopeEstimator.", nm! "gcc.inter"]),
  (nm! "gcc.rateController.delayStats", .confined [nm! "gcc.rateController.onDelayStats"]),
  (nm! "gcc.rateController.init", .confined [nm! "gcc.rateController.onDelayStats"]),
  (nm! "gcc.DelayStats.", .trusted "plain value record copied between pipeline stages"),
  (nm! "gcc.SendSideBWE.onTargetBitrateChange", .trusted "set-up time callback setter (by convention registered before feedback flows; registering it later races with onDelayUpdate: observed, DESIGN §8)"),
  (nm! "gcc.delayController.onUpdateCallback", .trusted "set in the constructor of SendSideBWE before the pipeline goroutines see traffic"),
  (nm! "cc.Acknowledgment.", .trusted "plain value record; instances are copied out of the history under the adapter lock"),
  (nm! "cc.InterceptorFactory.addPeerConnection", .trusted "set-up time callback setter"),
  (nm! "stats.InterceptorFactory.addPeerConnection", .trusted "set-up time callback setter"),
  (nm! "interceptor.Registry.factories", .trusted "Registry is a set-up time builder, not shared during traffic"),
  -- stats: the *Stats structs are value records inside the recorder's state (guarded by recorder.ms) or copies
  (nm! "stats.InboundRTPStreamStats.", .trusted "value record inside recorder state / copies returned to callers"),
  (nm! "stats.OutboundRTPStreamStats.", .trusted "value record inside recorder state / copies returned to callers"),
  (nm! "stats.ReceivedRTPStreamStats.", .trusted "value record inside recorder state / copies returned to callers"),
  (nm! "stats.SentRTPStreamStats.", .trusted "value record inside recorder state / copies returned to callers"),
  (nm! "stats.RemoteInboundRTPStreamStats.", .trusted "value record inside recorder state / copies returned to callers"),
  (nm! "stats.RemoteOutboundRTPStreamStats.", .trusted "value record inside recorder state / copies returned to callers"),
  -- utility types that are documented not to be safe for concurrent use / are owned by their container
  (nm! "sequencenumber.Unwrapper.", .trusted "owned by its container (twcc.Recorder, rfc8888.streamLog, stats.recorder): protected by the container's protection"),
  (nm! "jitterbuffer.PriorityQueue.", .trusted "public non-thread-safe container; inside JitterBuffer it is only reached under JitterBuffer.mutex (the sites with that lock); direct use is the caller's responsibility"),
  (nm! "jitterbuffer.node.", .trusted "nodes of PriorityQueue, same protection"),
  (nm! "jitterbuffer.JitterBuffer.listeners", .trusted "Listen is a set-up time registration; emit reads under JitterBuffer.mutex"),
  (nm! "jitterbuffer.JitterBuffer.state", .trusted "the interceptor's private JitterBuffer: every access from ReceiverInterceptor holds ReceiverInterceptor.m, JitterBuffer's own methods hold JitterBuffer.mutex; the two lock sets never meet on different instances"),
  (nm! "flexfec.fecDecoder.", .trusted "work-in-progress decoder, not wired into any interceptor"),
  (nm! "flexfec.protectedPacket.", .trusted "work-in-progress decoder, not wired into any interceptor"),
  (nm! "rtpbuffer.RetainablePacket.header", .trusted "reference-counted: written by Release only when the count reaches zero (C04 refcount theorem)"),
  (nm! "rtpbuffer.RetainablePacket.payload", .trusted "reference-counted: written by Release only when the count reaches zero (C04 refcount theorem)")
]

/-- ★ every struct field of every interceptor is accessed under one protection (regenerated facts). -/
theorem facts_ok : (fields.all (fieldOk ctxNames exceptions)) = true := by decide +kernel

/-- ★ the lock-order graph extracted from the source is acyclic. -/
theorem lock_order_acyclic : acyclic lockOrder = true := by decide

/-- blocking operations performed while a lock is held, and why each cannot deadlock.  Both happen
under the `closeLock` of SendSideBWE, which the goroutines that are waited for never take. -/
def allowedBlocking : List (Name × Name × String) := [
  (nm! "gcc.delayController.updateDelayEstimate", nm! "gcc.SendSideBWE.closeLock", "chan send"),
  (nm! "gcc.delayController.Close", nm! "gcc.SendSideBWE.closeLock", "wg.Wait")
]

/-- ★ no other blocking operation (channel send/receive outside a select with an escape, select
without default, WaitGroup.Wait) happens while a lock is held (regenerated facts). -/
theorem blocking_under_lock_known :
    blockingUnderLock.all (fun b => allowedBlocking.any (fun a => a.1 == b.1 && a.2.1 == b.2.1 && a.2.2 == b.2.2)) = true := by
  decide +kernel

/-- callbacks (func-typed struct fields) that are invoked while a lock is held.  A callback supplied
by the application must never run under an interceptor lock (it may call back into the
interceptor: self-deadlock); the ones listed are clocks, factories and the pool-return hook. -/
def allowedCallbacks : List (Name × String) := [
  (nm! "rtpbuffer.RetainablePacket.onRelease", "internal pool-return hook set by the packet factory; takes no interceptor lock"),
  (nm! "gcc.rateController.now", "clock"),
  (nm! "stats.Interceptor.now", "clock (SetNowFunc)"),
  (nm! "pacing.Interceptor.pacerFactory", "factory invoked at construction time under the factory's own lock"),
  (nm! "stats.Interceptor.RecorderFactory", "recorder factory invoked at bind time; the recorder is created, not called back into")
]

/-- ★ no other callback runs while a lock is held (regenerated facts). -/
theorem no_user_callback_under_lock :
    callbackUnderLock.all (fun c => allowedCallbacks.any (fun a => a.1 == c.2.1)) = true := by decide +kernel

end Interceptor.Facts.C10
