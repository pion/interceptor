/-
Generated translation (Gen/Fn_gcc.lean, regenerated from /repo on every run) of
`lossBasedBandwidthEstimator.getEstimate` (pkg/gcc/loss_based_bwe.go) against `Gcc.lossEstimate` of
Model/Gcc.lean — the function whose result `onDelayUpdate` combines with the delay target, and whose reset
branch (`bitrate ≤ 0`) is where F-20 (target below the configured minimum) came from.  The model fixes the
loss controller's own bounds to the constants the constructor passes (`lossMin`, `lossMax`); the theorem
is for every estimator whose `minBitrate`/`maxBitrate` fields hold those constants, every stored bitrate and
every wanted rate.  Consequences: the new bitrate never exceeds the wanted rate (used by Props/C16Src), and
it is positive whenever the wanted rate is.
-/
import Interceptor.Gen.Fn_gcc
import Interceptor.Model.Gcc
import Interceptor.Facts.FnGcc
namespace Interceptor.Facts.FnGccLoss
open Interceptor.Gen.Fn Interceptor.GoSem Interceptor

/-! ## gcc: lossBasedBandwidthEstimator.getEstimate -/

/-- the estimator's own bounds are the constants `newLossBasedBWE` is given (100 kbit/s, 100 Mbit/s). -/
def LossCfg (e : S_gcc_lossBasedBandwidthEstimator) : Prop :=
  e.minBitrate = Gcc.lossMin ∧ e.maxBitrate = Gcc.lossMax

/-- ★ `getEstimate` as written in the source stores and reports the model's `lossEstimate`, for every
stored bitrate and every wanted rate; the average loss is passed through and no other field changes. -/
theorem getEstimate_src_eq_model (e : S_gcc_lossBasedBandwidthEstimator) (h : LossCfg e) (wanted : Int) :
    let r := gcc_lossBasedBandwidthEstimator_getEstimate e wanted
    r.2 = { e with bitrate := Gcc.lossEstimate e.bitrate wanted } ∧
    r.1 = { TargetBitrate := Gcc.lossEstimate e.bitrate wanted, AverageLoss := e.averageLoss } := by
  obtain ⟨hmin, hmax⟩ := h
  simp only [gcc_lossBasedBandwidthEstimator_getEstimate, Gcc.lossEstimate,
    FnGcc.clampInt_src_eq_model, hmin, hmax]
  by_cases hb : e.bitrate ≤ 0 <;> simp [hb]

/-- the configuration is preserved, so the step theorem chains over any sequence of calls. -/
theorem getEstimate_cfg (e : S_gcc_lossBasedBandwidthEstimator) (h : LossCfg e) (wanted : Int) :
    LossCfg (gcc_lossBasedBandwidthEstimator_getEstimate e wanted).2 := by
  rw [(getEstimate_src_eq_model e h wanted).1]; exact h

/-- ★ the loss target never exceeds the wanted (delay-based) rate — whatever the bounds stored in the struct. -/
theorem getEstimate_le_wanted (e : S_gcc_lossBasedBandwidthEstimator) (wanted : Int) :
    (gcc_lossBasedBandwidthEstimator_getEstimate e wanted).1.TargetBitrate ≤ wanted ∧
    (gcc_lossBasedBandwidthEstimator_getEstimate e wanted).2.bitrate ≤ wanted := by
  -- in both branches the result and the stored bitrate are `min wanted _`
  unfold gcc_lossBasedBandwidthEstimator_getEstimate
  split <;> exact ⟨Int.min_le_left _ _, Int.min_le_left _ _⟩

/-- ★ with a positive wanted rate the stored bitrate is positive afterwards, so the reset branch is taken at
most on the first call. -/
theorem getEstimate_pos (e : S_gcc_lossBasedBandwidthEstimator) (h : LossCfg e) (wanted : Int)
    (hw : 0 < wanted) : 0 < (gcc_lossBasedBandwidthEstimator_getEstimate e wanted).2.bitrate := by
  rw [(getEstimate_src_eq_model e h wanted).1]
  -- a minimum of two positive rates: the reset value is at least `lossMin`, the kept one was positive
  refine Int.lt_min.mpr ⟨hw, ?_⟩
  split
  · exact Int.lt_of_lt_of_le (by decide) (Int.le_max_left Gcc.lossMin _)
  · omega

/-- the hypotheses are satisfiable and the reset branch is reachable: the zero-bitrate estimator. -/
example : LossCfg { minBitrate := 100000, maxBitrate := 100000000, bitrate := 0 } ∧
    (gcc_lossBasedBandwidthEstimator_getEstimate
      { minBitrate := 100000, maxBitrate := 100000000, bitrate := 0 } 50000).1.TargetBitrate = 50000 :=
  ⟨⟨rfl, rfl⟩, by decide⟩

/-! ## the scalar accessors around the estimator -/

/-- ★ `SendSideBWE.GetTargetBitrate` as written in the source returns the field the model calls `latest`. -/
theorem getTargetBitrate_src_eq_model (g : S_gcc_SendSideBWE) (m : Gcc.St) (r : g.latestBitrate = m.latest) :
    gcc_SendSideBWE_GetTargetBitrate g = m.latest := r

/-- ★ `LeakyBucketPacer.SetTargetBitrate` as written in the source stores `int(f * float64(rate))` (binary64
product, truncated) and touches no other field; `getTargetBitrate` reads it back.  That the product is
`3 * rate / 2` for `f = 1.5` (Model/Pacing.lean `leakyTarget`) is NOT proved here (no rounding lemmas for
Base/F64): it is tied by the bwepacer correspondence run. -/
theorem setTargetBitrate_frame (p : S_gcc_LeakyBucketPacer) (rate : Int) :
    gcc_LeakyBucketPacer_SetTargetBitrate p rate =
      { p with targetBitrate := F64.toInt64 (F64.mul p.f (F64.ofInt rate)) } := rfl

theorem getTargetBitrate_set (p : S_gcc_LeakyBucketPacer) (rate : Int) :
    gcc_LeakyBucketPacer_getTargetBitrate (gcc_LeakyBucketPacer_SetTargetBitrate p rate) =
      F64.toInt64 (F64.mul p.f (F64.ofInt rate)) := by
  -- a bare `rfl` unfolds the setter inside the getter; after the frame equation it is a projection of a record update
  rw [setTargetBitrate_frame]; rfl

/-! ## constructors of the stages in front of the estimator -/

/-- ★ `newRateCalculator` stores the window it is given (the `window` parameter of Model/RateCalc.lean's `step`). -/
theorem newRateCalculator_src (w : Int) : (gcc_newRateCalculator w).window = w := rfl

/-- ★ `newArrivalGroupAccumulator`: burst thresholds of 5 ms for departure and arrival, 0 for the delay variation. -/
theorem newArrivalGroupAccumulator_src :
    gcc_newArrivalGroupAccumulator.interDepartureThreshold = 5000000 ∧
    gcc_newArrivalGroupAccumulator.interArrivalThreshold = 5000000 ∧
    gcc_newArrivalGroupAccumulator.interGroupDelayVariationTreshold = 0 := ⟨rfl, rfl, rfl⟩

end Interceptor.Facts.FnGccLoss
