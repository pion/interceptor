/-
Generated translations of pkg/flexfec (util/bitarray.go, flexfec_coverage.go, flexfec_decoder_03.go;
Gen/Fn_flexfec.lean, Gen/Fn_flexfec_util.lean, regenerated from /repo on every run) against the hand-written
model Model/FlexFec.lean that the C14 theorems are about.

* `BitArray.SetBit/GetBit/Reset`, `extractMask1/2/3_03` have direct counterparts (`BitArray.setBit`,
  `BitArray.getBit`, `BitArray.empty`, `mask1`, `mask2`, `mask3`) and are proved equal to them for every
  related pair of bit arrays and every uint32 index (including indices ≥ 128, where the uint32 shift count
  `63 - hiBitIndex` wraps and the shifted bit falls off the word).
* `extractMask3` (the RFC 8627 variant without the K-bit shift) has no model function: it is stated against
  the sub-expression of `mask3` it computes.
* `seqDiff`, `abs`, `isNewerSeq` belong to the decoder, which Model/FlexFec.lean does not cover: they are
  stated against the closest model expressions — `sub16` of Base/Seq16.lean, `Int.natAbs`, and
  `Unwrapper.isNewer` of Model/Unwrapper.lean (the same function with the arguments swapped).
-/
import Interceptor.Gen.Fn_flexfec
import Interceptor.Proofs.FlexFecMask
import Interceptor.Model.Unwrapper
import Interceptor.Proofs.GoWrap
namespace Interceptor.Facts.FnFlexFec
open Interceptor.Gen.Fn Interceptor.GoSem Interceptor.FlexFec

/-- abstraction relation: the Go struct represents the model bit array. -/
def baRel (g : S_flexfec_util_BitArray) (m : BitArray) : Prop := g.Lo = (m.lo : Int) ∧ g.Hi = (m.hi : Int)

/-- invariant: both words are in the uint64 range. -/
def wf (m : BitArray) : Prop := m.lo < 2 ^ 64 ∧ m.hi < 2 ^ 64

/-- `uint64(1) << k` for a shift count of 64 or more: the bit falls off. -/
theorem shl_one_large (k : Int) (h : 64 ≤ k) : u64 (shl 1 k) = 0 := by
  unfold u64 shl
  rw [Int.one_mul]
  apply Int.emod_eq_zero_of_dvd
  have e1 : (18446744073709551616 : Int) = ((2 ^ 64 : Nat) : Int) := by decide
  have e2 : (2 : Int) ^ k.toNat = ((2 ^ k.toNat : Nat) : Int) := by push_cast; rfl
  rw [e1, e2]
  exact Int.natCast_dvd_natCast.mpr (Nat.pow_dvd_pow 2 (by omega))

/-- the probe word as the source computes it, for every index `0 ≤ j < 2^32`: for `j ≥ 64` the uint32 shift
count `63 - j` wraps and the bit falls off the word. -/
theorem probe_src (j : Int) (h0 : 0 ≤ j) (h : j < 4294967296) :
    u64 (shl 1 (u32 (63 - j))) = (probe j.toNat : Nat) := by
  unfold probe
  split
  · have e : u32 (63 - j) = ((63 - j.toNat : Nat) : Int) := by unfold u32; omega
    rw [e, u64_shl_one _ (by omega), Nat.one_shiftLeft]
  · rw [shl_one_large _ (by unfold u32; omega)]; rfl

theorem u64_bor (w x : Nat) (hw : w < 2 ^ 64) (hx : x < 2 ^ 64) :
    u64 (bor (w : Int) (x : Int)) = ((w ||| x : Nat) : Int) := by
  rw [bor_ofNat, u64_small _ (Nat.or_lt_two_pow hw hx)]

theorem u64_band (w x : Nat) (hw : w < 2 ^ 64) :
    u64 (band (w : Int) (x : Int)) = ((w &&& x : Nat) : Int) := by
  rw [band_ofNat, u64_small _ (Nat.lt_of_le_of_lt Nat.and_le_left hw)]

/-- `uint32(bitIndex - 64)` for an index in the high half. -/
theorem hiIndex_src (i : Nat) (h : ¬ i < 64) (hi : i < 4294967296) : u32 ((i : Int) - 64) = ((i - 64 : Nat) : Int) := by
  unfold u32; omega

/-- ★ the invariant is established by the zero value / `Reset`. -/
theorem wf_empty : wf BitArray.empty := ⟨by decide, by decide⟩

/-- ★ the invariant is preserved by `SetBit`, for every index. -/
theorem wf_setBit (m : BitArray) (h : wf m) (i : Nat) : wf (m.setBit i) := setBit_bounds m i h

/-- ★ `BitArray.Reset` as written in the source yields the model's empty bit array (whatever the receiver). -/
theorem reset_src_eq_model (g : S_flexfec_util_BitArray) :
    baRel (flexfec_util_BitArray_Reset g) BitArray.empty := ⟨rfl, rfl⟩

/-- ★ `BitArray.SetBit` as written in the source equals the model's, for every uint32 index. -/
theorem setBit_src_eq_model (g : S_flexfec_util_BitArray) (m : BitArray) (r : baRel g m) (hw : wf m)
    (i : Nat) (hi : i < 4294967296) :
    baRel (flexfec_util_BitArray_SetBit g (i : Int)) (m.setBit i) := by
  obtain ⟨rl, rh⟩ := r
  unfold flexfec_util_BitArray_SetBit
  by_cases h1 : i < 64
  · rw [setBit_lo m i h1, if_pos (by rw [decide_eq_true_eq]; omega)]
    refine ⟨?_, rh⟩
    show u64 (bor g.Lo (u64 (shl 1 (u32 (63 - (i : Int)))))) = _
    rw [probe_src _ (by omega) (by omega), rl, u64_bor _ _ hw.1 (probe_lt _), Int.toNat_natCast]
  · rw [setBit_hi m i h1, if_neg (by rw [decide_eq_true_eq]; omega)]
    refine ⟨rl, ?_⟩
    show u64 (bor g.Hi (u64 (shl 1 (u32 (63 - u32 ((i : Int) - 64)))))) = _
    rw [hiIndex_src i h1 hi, probe_src _ (by omega) (by omega), rh, u64_bor _ _ hw.2 (probe_lt _), Int.toNat_natCast]

/-- the `0`/`1` result of `GetBit` from the masked word. -/
theorem getBit_result (n : Nat) :
    (if decide (((n : Nat) : Int) > 0) then (1 : Int) else 0) = ((if n > 0 then 1 else 0 : Nat) : Int) := by
  by_cases h : n > 0
  · rw [if_pos h, if_pos (by simpa using h)]; rfl
  · rw [if_neg h, if_neg (by simpa using h)]; rfl

/-- ★ `BitArray.GetBit` as written in the source equals the model's, for every uint32 index. -/
theorem getBit_src_eq_model (g : S_flexfec_util_BitArray) (m : BitArray) (r : baRel g m) (hw : wf m)
    (i : Nat) (hi : i < 4294967296) :
    flexfec_util_BitArray_GetBit g (i : Int) = (m.getBit i : Nat) := by
  obtain ⟨rl, rh⟩ := r
  unfold flexfec_util_BitArray_GetBit
  by_cases h1 : i < 64
  · rw [getBit_lo m i h1, if_pos (by rw [decide_eq_true_eq]; omega)]
    show (if decide (u64 (band g.Lo (u64 (shl 1 (u32 (63 - (i : Int)))))) > 0) then (1 : Int) else 0) = _
    rw [probe_src _ (by omega) (by omega), rl, u64_band _ _ hw.1, Int.toNat_natCast, getBit_result]
  · rw [getBit_hi m i h1, if_neg (by rw [decide_eq_true_eq]; omega)]
    show (if decide (u64 (band g.Hi (u64 (shl 1 (u32 (63 - u32 ((i : Int) - 64)))))) > 0) then (1 : Int) else 0) = _
    rw [hiIndex_src i h1 hi, probe_src _ (by omega) (by omega), rh, u64_band _ _ hw.2, Int.toNat_natCast,
      getBit_result]

theorem shr_natCast (n k : Nat) : shr (n : Int) (k : Int) = ((n >>> k : Nat) : Int) := by
  unfold shr
  rw [Nat.shiftRight_eq_div_pow, Int.toNat_natCast]
  push_cast; rfl

theorem shl_natCast_u64 (n k : Nat) : u64 (shl (n : Int) (k : Int)) = (((n <<< k) % two64 : Nat) : Int) := by
  unfold shl u64 two64
  rw [Nat.shiftLeft_eq, Int.toNat_natCast, Int.natCast_emod, Int.natCast_mul, Int.natCast_pow]
  rfl

/-- ★ `extractMask1` as written in the source equals the model's `mask1`. -/
theorem extractMask1_src_eq_model (g : S_flexfec_util_BitArray) (m : BitArray) (r : baRel g m) :
    flexfec_extractMask1 g = (mask1 m : Nat) := by
  unfold flexfec_extractMask1 mask1
  rw [r.1]
  have : shr (m.lo : Int) 49 = ((m.lo >>> 49 : Nat) : Int) := shr_natCast m.lo 49
  dsimp only
  rw [this]
  unfold u16
  generalize m.lo >>> 49 = a
  omega

/-- ★ `extractMask2` as written in the source equals the model's `mask2`. -/
theorem extractMask2_src_eq_model (g : S_flexfec_util_BitArray) (m : BitArray) (r : baRel g m) :
    flexfec_extractMask2 g = (mask2 m : Nat) := by
  unfold flexfec_extractMask2 mask2
  rw [r.1]
  have h1 : u64 (shl (m.lo : Int) 15) = (((m.lo <<< 15) % two64 : Nat) : Int) := shl_natCast_u64 m.lo 15
  have h2 : shr (((m.lo <<< 15) % two64 : Nat) : Int) 33 = ((((m.lo <<< 15) % two64) >>> 33 : Nat) : Int) :=
    shr_natCast ((m.lo <<< 15) % two64) 33
  dsimp only
  rw [h1, h2]
  unfold u32
  generalize (m.lo <<< 15 % two64) >>> 33 = a
  omega

/-- the expression `(mask.Lo << 46) | (mask.Hi >> 18)` of `extractMask3`/`extractMask3_03`. -/
def mask3raw (b : BitArray) : Nat := ((b.lo <<< 46) % two64) ||| (b.hi >>> 18)

theorem mask3_eq_raw (b : BitArray) : mask3 b = mask3raw b >>> 1 := rfl

theorem mask3_core (g : S_flexfec_util_BitArray) (m : BitArray) (r : baRel g m) (hw : wf m) :
    u64 (bor (u64 (shl g.Lo 46)) (shr g.Hi 18)) = (mask3raw m : Nat) := by
  rw [r.1, r.2]
  have h1 : u64 (shl (m.lo : Int) 46) = (((m.lo <<< 46) % two64 : Nat) : Int) := shl_natCast_u64 m.lo 46
  have h2 : shr (m.hi : Int) 18 = ((m.hi >>> 18 : Nat) : Int) := shr_natCast m.hi 18
  rw [h1, h2, bor_ofNat]
  exact u64_small _ (mask3_word_lt m hw.2)

/-- ★ `extractMask3` (RFC 8627 layout) as written in the source equals the model expression
`(lo << 46) mod 2^64 ||| (hi >> 18)` (no model function of its own: it is `mask3` before the K-bit shift). -/
theorem extractMask3_src_eq_model (g : S_flexfec_util_BitArray) (m : BitArray) (r : baRel g m) (hw : wf m) :
    flexfec_extractMask3 g = (mask3raw m : Nat) := by
  unfold flexfec_extractMask3
  exact mask3_core g m r hw

/-- ★ `extractMask3_03` as written in the source equals the model's `mask3`. -/
theorem extractMask3_03_src_eq_model (g : S_flexfec_util_BitArray) (m : BitArray) (r : baRel g m) (hw : wf m) :
    flexfec_extractMask3_03 g = (mask3 m : Nat) := by
  unfold flexfec_extractMask3_03
  simp only [mask3_core g m r hw, mask3_eq_raw]
  exact shr_natCast (mask3raw m) 1

/-- ★ `seqDiff` as written in the source is the smaller of the two uint16 differences (`sub16` of
Base/Seq16.lean), for all uint16 arguments. -/
theorem seqDiff_src_eq_model (a b : Nat) (ha : a < 65536) (hb : b < 65536) :
    flexfec_seqDiff (a : Int) (b : Int) = (min (sub16 a b) (sub16 b a) : Nat) := by
  unfold flexfec_seqDiff
  rw [u16_sub, u16_sub]
  omega

/-- ★ `seqDiff` is the circular distance: at most 32768, symmetric, zero only on equal arguments. -/
theorem seqDiff_props (a b : Nat) (ha : a < 65536) (hb : b < 65536) :
    flexfec_seqDiff (a : Int) (b : Int) ≤ 32768 ∧
    flexfec_seqDiff (a : Int) (b : Int) = flexfec_seqDiff (b : Int) (a : Int) ∧
    (flexfec_seqDiff (a : Int) (b : Int) = 0 ↔ a = b) := by
  unfold flexfec_seqDiff u16
  omega

/-- ★ `abs` as written in the source is the absolute value for every int except the most negative one,
where `-x` overflows and the result is `x` itself (−2^63). -/
theorem abs_src_eq_model (x : Int) (h : -9223372036854775808 ≤ x ∧ x ≤ 9223372036854775807) :
    flexfec_abs x = if x = -9223372036854775808 then -9223372036854775808 else (x.natAbs : Int) := by
  unfold flexfec_abs
  by_cases h0 : 0 ≤ x
  · have : (x.natAbs : Int) = x := Int.natAbs_of_nonneg h0
    have hne : x ≠ -9223372036854775808 := by omega
    simp [h0, hne, this]
  · have : (x.natAbs : Int) = -x := Int.ofNat_natAbs_of_nonpos (by omega)
    have hge : ¬ (x ≥ 0) := h0
    simp only [hge, decide_false, Bool.false_eq_true, if_false, this]
    unfold s64
    split <;> omega

/-- ★ `isNewerSeq(prev, value)` as written in the source is the model's `Unwrapper.isNewer value prev`
(the decoder has no model of its own; Model/Unwrapper.lean has the same predicate). -/
theorem isNewerSeq_src_eq_model (p v : Nat) (hp : p < 65536) (hv : v < 65536) :
    flexfec_isNewerSeq (p : Int) (v : Int) = Unwrapper.isNewer v p := by
  have hd : sub16 v p = (v + 65536 - p) % 65536 := by rw [sub16, Nat.mod_eq_of_lt hp]
  unfold flexfec_isNewerSeq Unwrapper.isNewer
  rw [u16_sub, hd]
  generalize (v + 65536 - p) % 65536 = d
  have e1 : ((d : Int) = 32768) ↔ d = 32768 := by omega
  have e2 : ((d : Int) < 32768) ↔ d < 32768 := by omega
  have e3 : ((v : Int) > p) ↔ v > p := by omega
  have e4 : ((v : Int) ≠ p) ↔ v ≠ p := by omega
  simp only [e1, e2, e3, e4, decide_eq_true_eq]

/-! satisfiability of the hypotheses on concrete non-trivial values -/

example : baRel { Lo := 9223372036854775808, Hi := 5 } ⟨9223372036854775808, 5⟩ ∧ wf ⟨9223372036854775808, 5⟩ :=
  ⟨⟨rfl, rfl⟩, ⟨by decide, by decide⟩⟩
example : flexfec_util_BitArray_GetBit { Lo := 9223372036854775808, Hi := 5 } 0 = 1 := by
  have := getBit_src_eq_model { Lo := 9223372036854775808, Hi := 5 } ⟨9223372036854775808, 5⟩ ⟨rfl, rfl⟩
    ⟨by decide, by decide⟩ 0 (by omega)
  rw [show ((0 : Nat) : Int) = 0 from rfl] at this
  rw [this]; decide
example : baRel (flexfec_util_BitArray_SetBit { Lo := 1, Hi := 0 } 4294967295) ((⟨1, 0⟩ : BitArray).setBit 4294967295) :=
  setBit_src_eq_model { Lo := 1, Hi := 0 } ⟨1, 0⟩ ⟨rfl, rfl⟩ ⟨by decide, by decide⟩ 4294967295 (by omega)
example : flexfec_seqDiff 65535 1 = 2 := by
  have := seqDiff_src_eq_model 65535 1 (by omega) (by omega)
  simpa [sub16] using this
example : flexfec_abs (-5) = 5 := by
  have := abs_src_eq_model (-5) (by omega); simpa using this
example : flexfec_isNewerSeq 65535 3 = Unwrapper.isNewer 3 65535 :=
  isNewerSeq_src_eq_model 65535 3 (by omega) (by omega)

end Interceptor.Facts.FnFlexFec
