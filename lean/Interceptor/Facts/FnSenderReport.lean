/-
`senderStream.processRTP` as written in pkg/report/sender_stream.go (generated translation
Gen/Fn_report.lean, regenerated from /repo on every run) computes exactly the hand-written model
`SenderReport.processRTP` (Model/SenderReport.lean) that the C07 theorems are about — for every pair of
related states, every header whose fields are in the range of their Go types, every payload.

No invariant is needed: the relation `Rel` is a field-by-field equality (the model's `Nat` fields are
the Go unsigned fields, the model's `Option Int` time is the Go `time.Time`, `none` standing for the
zero `time.Time`), it is established by the constructor (`rel_new`) and preserved by `processRTP`
(the step theorem itself), so the step theorem chains over arbitrary packet sequences (`run_src_eq_model`).
-/
import Interceptor.Gen.Fn_report
import Interceptor.Model.SenderReport
import Interceptor.Proofs.GoWrap
namespace Interceptor.Facts.FnSenderReport
open Interceptor.Gen.Fn Interceptor.GoSem Interceptor.SenderReport

/-- UnixNano of Go's zero `time.Time` (January 1, year 1, 00:00 UTC) as an unbounded integer:
−62135596800 s.  (It does not fit an int64; `Time.Sub` against it saturates.) -/
def goZeroTime : Int := -62135596800000000000

/-- a Go `time.Time` (Int nanoseconds) represents the model's `Option Int` (`none` = the zero time). -/
def timeRel (g : Int) (m : Option Int) : Prop :=
  match m with
  | none => g = goZeroTime
  | some u => g = u

theorem timeRel_unique {a b : Int} {m : Option Int} (ha : timeRel a m) (hb : timeRel b m) : a = b := by
  cases m <;> exact ha.trans hb.symm

/-- abstraction relation: the Go struct represents the model state, field by field. -/
structure Rel (g : S_report_senderStream) (m : Stream) : Prop where
  ssrc : g.ssrc = (m.ssrc : Int)
  rate : g.clockRate = F64.ofInt (m.rate : Int)
  useLatest : g.useLatestPacket = m.useLatest
  lastTs : g.lastRTPTimeRTP = (m.lastTs : Int)
  lastTime : timeRel g.lastRTPTimeTime m.lastTime
  lastSN : g.lastRTPSN = (m.lastSN : Int)
  packetCount : g.packetCount = (m.packetCount : Int)
  octetCount : g.octetCount = (m.octetCount : Int)

/-- the header fields `processRTP` reads are in the range of their Go types (uint16, uint32). -/
structure HeaderOk (h : S_rtp_Header) : Prop where
  seq : 0 ≤ h.SequenceNumber ∧ h.SequenceNumber < 65536
  ts : 0 ≤ h.Timestamp ∧ h.Timestamp < 4294967296

/-- the model packet a Go call `processRTP(now, header, payload)` stands for. -/
def pktOf (now : Int) (h : S_rtp_Header) (payload : List Int) : Pkt :=
  { now := now, seq := h.SequenceNumber.toNat, ts := h.Timestamp.toNat, len := payload.length }

theorem pktOf_seq {h : S_rtp_Header} {k : Nat} (hk : h.SequenceNumber = (k : Int)) (now : Int) (payload : List Int) :
    (pktOf now h payload).seq = k := by
  show h.SequenceNumber.toNat = k
  rw [hk, Int.toNat_natCast]

/-- the struct literal of `newSenderStream(ssrc, clockRate, useLatestPacket)` (sender_stream.go:29): every field
not named is the zero value, the zero `time.Time` being `goZeroTime`.  That the generated `report_newSenderStream` is
this literal: Facts/FnSenderNew.lean. -/
def goNew (ssrc rate : Nat) (useLatest : Bool) : S_report_senderStream :=
  { ssrc := ssrc, clockRate := F64.ofInt (rate : Int), useLatestPacket := useLatest,
    lastRTPTimeTime := goZeroTime }

theorem rel_new (ssrc rate : Nat) (useLatest : Bool) :
    Rel (goNew ssrc rate useLatest) (SenderReport.new ssrc rate useLatest) := by
  constructor <;> simp [goNew, SenderReport.new, timeRel]

/-- the header fields as the naturals the model takes. -/
theorem HeaderOk.cast {h : S_rtp_Header} (hh : HeaderOk h) :
    ∃ seq ts : Nat, h.SequenceNumber = (seq : Int) ∧ h.Timestamp = (ts : Int) ∧ seq < 65536 ∧ ts < 4294967296 :=
  ⟨h.SequenceNumber.toNat, h.Timestamp.toNat, by have := hh.seq; have := hh.ts; omega⟩

/-- the test under which `processRTP` takes the packet as the new reference. -/
theorem accepts_eq (g : S_report_senderStream) (m : Stream) (r : Rel g m) (seq : Nat) :
    ((g.useLatestPacket || decide (g.packetCount = 0)) ||
        (decide (u16 ((seq : Int) - g.lastRTPSN) > 0) && decide (u16 ((seq : Int) - g.lastRTPSN) < 32768)))
      = accepts m seq := by
  unfold accepts
  rw [r.useLatest, r.packetCount, r.lastSN, u16_sub]
  have e1 : decide ((m.packetCount : Int) = 0) = (m.packetCount == 0) := by
    generalize m.packetCount = n; cases n <;> rfl
  rw [e1, halfRange_cast, Bool.decide_and]

/-- ★ `senderStream.processRTP` as written in the source equals the model's step: it maps related states
to related states, for every header in the range of the Go types, every instant, every payload. -/
theorem processRTP_src_eq_model (g : S_report_senderStream) (m : Stream) (r : Rel g m)
    (now : Int) (h : S_rtp_Header) (payload : List Int) (hh : HeaderOk h) :
    Rel (report_senderStream_processRTP g now h payload) (SenderReport.processRTP m (pktOf now h payload)) := by
  obtain ⟨seq, ts, hsn, htn, -, -⟩ := hh.cast
  have hpc : u32 (g.packetCount + 1) = (((m.packetCount + 1) % M32 : Nat) : Int) := by
    rw [r.packetCount]; exact u32_add_one _
  have hoc : u32 (g.octetCount + u32 (len payload)) = (((m.octetCount + payload.length) % M32 : Nat) : Int) := by
    rw [r.octetCount]; exact u32_add_u32 _ _
  have hfirst : (decide ((ts : Int) ≠ g.lastRTPTimeRTP) || decide (g.packetCount = 0))
      = decide (ts ≠ m.lastTs ∨ m.packetCount = 0) := by
    rw [r.lastTs, r.packetCount, ← Bool.decide_or]; exact decide_eq_decide.mpr (by omega)
  unfold report_senderStream_processRTP SenderReport.processRTP pktOf
  simp only [hsn, htn, Int.toNat_natCast, accepts_eq g m r seq, hfirst]
  cases accepts m seq
  · -- not accepted: only the counters move
    exact ⟨r.ssrc, r.rate, r.useLatest, r.lastTs, r.lastTime, r.lastSN, hpc, hoc⟩
  · by_cases hc : ts ≠ m.lastTs ∨ m.packetCount = 0
    · rw [if_pos rfl, if_pos rfl, if_pos (decide_eq_true hc), if_pos hc]
      exact ⟨r.ssrc, r.rate, r.useLatest, rfl, rfl, rfl, hpc, hoc⟩
    · rw [if_pos rfl, if_pos rfl, if_neg (by rw [decide_eq_false hc]; decide), if_neg hc]
      exact ⟨r.ssrc, r.rate, r.useLatest, r.lastTs, r.lastTime, rfl, hpc, hoc⟩

/-- a Go call sequence: `(now, header, payload)` per packet. -/
abbrev Call := Int × S_rtp_Header × List Int

def goRun (g : S_report_senderStream) (cs : List Call) : S_report_senderStream :=
  cs.foldl (fun g c => report_senderStream_processRTP g c.1 c.2.1 c.2.2) g

/-- ★ the step theorem chains: any sequence of `processRTP` calls (headers in range) on related states
ends in related states — in particular from the constructor. -/
theorem run_src_eq_model (cs : List Call) (hh : ∀ c ∈ cs, HeaderOk c.2.1) :
    ∀ (g : S_report_senderStream) (m : Stream), Rel g m →
      Rel (goRun g cs) (SenderReport.run m (cs.map fun c => pktOf c.1 c.2.1 c.2.2)) := by
  induction cs with
  | nil => intro g m r; exact r
  | cons c cs ih =>
    intro g m r
    have h1 := processRTP_src_eq_model g m r c.1 c.2.1 c.2.2 (hh c (by simp))
    have := ih (fun c' hc' => hh c' (by simp [hc'])) _ _ h1
    simpa [goRun, SenderReport.run] using this

/-- the zero `time.Time` of the relation behaves like the model's `none` under `Sub`: for every int64
instant `now ≥ −2^63` (any real clock reading), `now.Sub(time.Time{})` saturates at the maximal
duration, which is what `GoTime.sub now none` says. -/
theorem timeSub_zero (now : Int) (h : -9223372036854775808 ≤ now) :
    timeSub now goZeroTime = GoTime.sub now none := by
  unfold timeSub goZeroTime GoTime.sub GoTime.maxDuration
  simp only
  split
  · rfl
  · omega

/-- ★ `now.Sub(lastRTPTimeTime)` on related times: the Go saturating subtraction equals the model's
`GoTime.sub` whenever the true difference fits an int64 (`|now − t| < 2^63`; always the case for two
clock readings) or the stored time is the zero time. -/
theorem timeSub_rel (now g : Int) (m : Option Int) (r : timeRel g m) (hn : -9223372036854775808 ≤ now)
    (hd : ∀ u, m = some u → -9223372036854775808 ≤ now - u ∧ now - u ≤ 9223372036854775807) :
    timeSub now g = GoTime.sub now m := by
  cases m with
  | none => simp only [timeRel] at r; rw [r]; exact timeSub_zero now hn
  | some u =>
    simp only [timeRel] at r
    have := hd u rfl
    unfold timeSub GoTime.sub
    simp only [r]
    split
    · omega
    · split
      · omega
      · rfl

/-! satisfiability of the hypotheses on concrete non-trivial states -/

example : Rel (goNew 7 90000 false) (SenderReport.new 7 90000 false) := rel_new 7 90000 false

example : HeaderOk { SequenceNumber := 65535, Timestamp := 4294967295 } := ⟨by decide, by decide⟩

/-- a started stream (3 packets sent, last sequence number 65535) and a wrapping in-order packet. -/
example :
    let g : S_report_senderStream :=
      { ssrc := 7, clockRate := F64.ofInt 90000, useLatestPacket := false, lastRTPTimeRTP := 3000,
        lastRTPTimeTime := 946684800000000000, lastRTPSN := 65535, packetCount := 3, octetCount := 3600 }
    let m : Stream :=
      { ssrc := 7, rate := 90000, useLatest := false, lastTs := 3000, lastTime := some 946684800000000000,
        lastSN := 65535, packetCount := 3, octetCount := 3600 }
    Rel g m ∧ HeaderOk { SequenceNumber := 0, Timestamp := 6000 } :=
  ⟨⟨rfl, rfl, rfl, rfl, rfl, rfl, rfl, rfl⟩, ⟨by decide, by decide⟩⟩

example : timeRel goZeroTime none ∧ timeRel 5 (some 5) := ⟨rfl, rfl⟩

/-- two packets (the second wraps the sequence number) from the constructor. -/
example : Rel (goRun (goNew 7 90000 false)
      [(946684800000000000, { SequenceNumber := 65535, Timestamp := 3000 }, [1, 2, 3]),
       (946684800020000000, { SequenceNumber := 0, Timestamp := 6000 }, [4, 5])])
    (SenderReport.run (SenderReport.new 7 90000 false)
      [⟨946684800000000000, 65535, 3000, 3⟩, ⟨946684800020000000, 0, 6000, 2⟩]) :=
  run_src_eq_model _ (by
    intro c hc
    simp only [List.mem_cons, List.not_mem_nil, or_false] at hc
    rcases hc with rfl | rfl <;> exact ⟨by decide, by decide⟩) _ _ (rel_new 7 90000 false)

example : timeSub 946684800020000000 946684800000000000 = GoTime.sub 946684800020000000 (some 946684800000000000) :=
  timeSub_rel _ _ _ rfl (by omega) (fun u hu => by cases hu; omega)

end Interceptor.Facts.FnSenderReport
