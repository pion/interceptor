/-
C12 — every container that grows after construction also has a site that shrinks or resets it,
checked on the facts regenerated from /repo (closed by `decide +kernel`), with the hand-written exception
table for containers that are bounded for another reason — or are recorded findings.
-/
import Interceptor.Facts.SizeTypes
import Interceptor.Gen.SizeFacts
namespace Interceptor.Facts.C12
open Interceptor.Facts Interceptor.Gen.SizeFacts

def exceptions : List (Name × SizeException) := [
  -- findings: per-stream state that no Unbind*Stream releases
  (nm! "rfc8888.Recorder.streams", .finding "F-C12a: rfc8888 has no UnbindRemoteStream; a streamLog per SSRC ever seen"),
  (nm! "stats.Interceptor.recorders", .finding "F-C12b: stats has no Unbind*Stream; a recorder (and goroutine) per SSRC ever seen"),
  (nm! "gcc.LeakyBucketPacer.ssrcToWriter", .finding "F-C12c: pacer has no RemoveStream; a writer per SSRC ever added (bounded by streams ever bound)"),
  (nm! "gcc.NoOpPacer.ssrcToWriter", .finding "F-C12c: pacer has no RemoveStream; a writer per SSRC ever added (bounded by streams ever bound)"),
  -- set-up time registration
  (nm! "jitterbuffer.JitterBuffer.listeners", .setupOnly [nm! "jitterbuffer.JitterBuffer.Listen"] "Listen is a set-up time registration"),
  -- objects created fresh per feedback report / per arrival group and dropped afterwards
  (nm! "twcc.feedback.chunks", .freshOwner "a feedback is built per report by newFeedback and dropped after getRTCP"),
  (nm! "gcc.arrivalGroup.packets", .freshOwner "an arrivalGroup is a value started fresh (newArrivalGroup) when the previous group is handed on"),
  -- hand-over channels: unbuffered, the receiving end is a parameter of the consumer goroutine
  (nm! "gcc.delayController.ackPipe", .channel "unbuffered; received by arrivalGroupAccumulator.run via its `in` parameter"),
  (nm! "gcc.delayController.ackRatePipe", .channel "unbuffered; received by rateCalculator.run via its `in` parameter"),
  -- work-in-progress FlexFEC decoder, not wired into any interceptor
  (nm! "flexfec.fecDecoder.", .freshOwner "work-in-progress decoder, not wired into any interceptor; the local is returned to the caller")
]

/-- ★ every container field (and goroutine-loop local) of the anchor packages that grows after
construction has a shrink/reset site, or a justified exception (regenerated facts). -/
theorem facts_ok : (containers.all (containerOk ctxNames exceptions)) = true := by decide +kernel

/-- the exception table is tight: every `finding` entry really is a container that grows and never
shrinks on the current facts (a fix of the finding makes this fail, so the table gets cleaned up). -/
theorem findings_real :
    ((containers.filter fun c => (exceptions.find? (fun e => e.1.isPrefixOf c.name)).any
        (fun e => match e.2 with | .finding _ => true | _ => false)).all
      fun c => c.grows && !c.shrinks) = true := by decide +kernel

end Interceptor.Facts.C12
