/-
C11 — the lifecycle discipline holds on the facts regenerated from /repo (closed by `decide +kernel`).
The parameters of the lifecycle skeleton (Model/Lifecycle.lean) rest on exactly these shapes:
`hasLoop` interceptors start their goroutine under the mutex after `wg.Add` and Close waits;
hand-off sends and immediate-report requests are select cases next to the close channel
(`readHandoff`, `immediateOnBind`: released by Close); Unbind removes what Bind stored.
-/
import Interceptor.Facts.LifecycleTypes
import Interceptor.Gen.LifecycleFacts
namespace Interceptor.Facts.C11
open Interceptor.Facts Interceptor.Gen.LifecycleFacts

def exceptions : List (Name × LcRule × String) := [
  (nm! "pacing.Interceptor", .closeUnlocked, "Close closes `closed` without a mutex: a second Close would panic; a second Close is outside io.Closer's contract and outside C11's quantifier (recorded in DESIGN.md)")
]

/-- ★ every interceptor type follows the lifecycle discipline (regenerated facts). -/
theorem facts_ok : types.all (lcOk exceptions) = true := by decide +kernel

/-- the interceptors that start a goroutine from BindRTCPWriter are exactly those the lifecycle
model gives `hasLoop := true` (plus the NACK responder's per-NACK goroutines and the stats recorders). -/
theorem loop_types :
    (types.filter (fun t => !t.goSites.isEmpty)).map (·.label) =
      ["intervalpli.GeneratorInterceptor", "nack.GeneratorInterceptor", "nack.ResponderInterceptor",
       "report.ReceiverInterceptor", "report.SenderInterceptor", "rfc8888.SenderInterceptor",
       "stats.Interceptor", "twcc.SenderInterceptor"] := by decide +kernel

end Interceptor.Facts.C11
