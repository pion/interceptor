/-
`receiverStream.generateReport` as written in pkg/report/receiver_stream.go (generated translation
Gen/Fn_report.lean, regenerated from /repo on every run) computes exactly the hand-written model
`ReceiverReport.generateReport` (Model/ReceiverReport.lean) that the C06 theorems are about — the whole
function: the loss scan `for i := lastReportSeqnum+1; i != lastSeqnum; i++ { if !getReceived(i) { ret++ } }`
over the packed `[]uint64` history (terminates within 65534 iterations: any fuel ≥ 65535 suffices), the
`totalLost` accumulation (mod 2^32) and the two 24-bit clamps, FractionLost in binary64, the extended
highest sequence number `uint32(cycles)<<16 | uint32(lastSeqnum)`, LSR, DLSR with the `IsZero` test,
the jitter truncation, and the state update (`totalLost`, `lastReportSeqnum`).

The relation is `FnReceiverReport.Rel`.  Hypotheses beyond it, each an invariant established by the
constructor and preserved by every mutator (`inv_new`, `inv_step`):
* `SeqOk`: `lastSeqnum`, `lastReportSeqnum` are in the range of their Go type uint16 (the model's fields are
  `Nat`); needed by the Go code itself: the uint16 loop counter can only reach a uint16 `lastSeqnum`;
* `LsrOk`: the stored `lastSenderReportTime`, when set, is an `instant` (−2^62 ≤ t < 2^62 Unix ns), and so
  is `now`: Go's `Time.Sub` saturates at ±2^63 ns while the model subtracts exactly, and an instant is not
  the zero `time.Time` (the model's `none`).
`run_src_eq_model` chains processRTP / processSenderReport / generateReport over arbitrary call sequences.
-/
import Interceptor.Proofs.ReportBitmap
import Interceptor.Facts.FnReceiverReport
import Interceptor.Base.GoBits
import Interceptor.Facts.FnNtp
namespace Interceptor.Facts.FnReceiverGenerate
open Interceptor.Gen.Fn Interceptor.GoSem Interceptor.ReceiverReport Interceptor.ReportBitmap
open Interceptor.Facts.FnSenderReport (goZeroTime timeRel timeSub_rel HeaderOk)
open Interceptor.Facts.FnReceiverReport (S Rel TimeOk instant)
open Interceptor.Facts.FnNtp (toUint32_cast)

/-! The generated `generateReport`, restated with its pieces named.

The pieces keep the control structure of the generated text (`some` at the leaves, the same `match` on the loop
result), so that `gen_eq` holds by unfolding; what each piece computes is then said by a lemma about that
small piece (`fin_eq`, `mkRep_eq`). -/

/-- the composite literal and the final `lastReportSeqnum = lastSeqnum`, for a given `Delay`. -/
def mkRepWith (st : S) (lost total delay : Int) : S_rtcp_ReceiverReport × S :=
  ({ SSRC := st.receiverSSRC,
     Reports := [{ SSRC := st.ssrc,
                   LastSequenceNumber := u32 (bor (u32 (shl st.seqnumCycles 16)) st.lastSeqnum),
                   LastSenderReport := st.lastSenderReport,
                   FractionLost := u8 (F64.toInt64 (F64.div (F64.ofInt (u32 (lost * 256))) (F64.ofInt total))),
                   TotalLost := st.totalLost,
                   Delay := delay,
                   Jitter := u32 (F64.toInt64 st.jitter) }] },
   { st with lastReportSeqnum := st.lastSeqnum })

/-- the `Delay` closure (`if lastSenderReportTime.IsZero() { return 0 } …`) in front of the literal. -/
def mkRep (st : S) (now lost total : Int) : Option (S_rtcp_ReceiverReport × S) :=
  if decide (st.lastSenderReportTime = zeroTime) then some (mkRepWith st lost total 0)
  else some (mkRepWith st lost total
    (u32 (F64.toInt64 (F64.mul (durSeconds (max (timeSub now st.lastSenderReportTime) (0 : Int))) (65536 : Rat)))))

/-- everything after the loss count: `totalLost += lost`, the two 24-bit clamps, the report. -/
def fin (st : S) (now lostRaw total : Int) : Option (S_rtcp_ReceiverReport × S) :=
  let st1 : S := { st with totalLost := u32 (st.totalLost + lostRaw) }
  if decide (lostRaw > 16777215) then
    if decide (st1.totalLost > 16777215) then mkRep { st1 with totalLost := 16777215 } now 16777215 total
    else mkRep st1 now 16777215 total
  else
    if decide (st1.totalLost > 16777215) then mkRep { st1 with totalLost := 16777215 } now lostRaw total
    else mkRep st1 now lostRaw total

/-- loop condition `i != stream.lastSeqnum`. -/
def ccond (last : Int) : Int × Int → Bool := fun p => decide (p.1 ≠ last)
/-- loop body `if !stream.getReceived(i) { ret++ }; i++`. -/
def cbody (st : S) : Int × Int → Int × Int := fun p =>
  if !(report_receiverStream_getReceived st p.1) then (u16 (p.1 + 1), u32 (p.2 + 1)) else (u16 (p.1 + 1), p.2)

def genRep' (fuel : Nat) (st : S) (now : Int) : Option (S_rtcp_ReceiverReport × S) :=
  if decide (st.lastSeqnum = st.lastReportSeqnum) then
    fin st now 0 (u16 (st.lastSeqnum - st.lastReportSeqnum))
  else
    match loop fuel (ccond st.lastSeqnum) (cbody st) (u16 (st.lastReportSeqnum + 1), 0) with
    | none => none
    | some (_, ret) => fin st now ret (u16 (st.lastSeqnum - st.lastReportSeqnum))

theorem gen_eq (fuel : Nat) (st : S) (now : Int) :
    report_receiverStream_generateReport fuel st now = genRep' fuel st now := by
  unfold report_receiverStream_generateReport genRep'
  rfl

/-- `if x > 0xFFFFFF { x = 0xFFFFFF }`. -/
def clamp24 (x : Int) : Int := if decide (x > 16777215) then 16777215 else x

theorem clamp24_cast (x : Nat) : clamp24 (x : Int) = ((if x > 16777215 then 16777215 else x : Nat) : Int) := by
  unfold clamp24
  by_cases h : x > 16777215
  · rw [if_pos (decide_eq_true (by omega)), if_pos h]; rfl
  · rw [if_neg (by rw [decide_eq_false (by omega)]; decide), if_neg h]

theorem fin_eq (st : S) (now lostRaw total : Int) :
    fin st now lostRaw total =
      mkRep { st with totalLost := clamp24 (u32 (st.totalLost + lostRaw)) } now (clamp24 lostRaw) total := by
  unfold fin clamp24
  dsimp only
  split <;> split <;> rfl

/-- the two sequence numbers are in the range of their Go type (uint16).  (The loop `for i := lastReportSeqnum+1;
i != lastSeqnum; i++` is over a uint16 counter: it reaches `lastSeqnum` because `lastSeqnum` is a uint16.) -/
structure SeqOk (m : Stream) : Prop where
  last : m.last < 65536
  lastReport : m.lastReport < 65536

/-- the stored arrival time of the last sender report, when there is one, is an `instant` (so that
`now.Sub(lastSenderReportTime)` does not saturate and the time is not the zero `time.Time`). -/
def LsrOk (m : Stream) : Prop := ∀ u, m.lsrTime = some u → instant u

theorem countMissing_le (b : Array Bool) : ∀ (n start : Nat), countMissing b start n ≤ n :=
  fun n start => ReceiverReport.countMissing_le b start n

/-- ★ the loss-count loop terminates and computes the model's `countMissing`: started at the uint16 `k` with
`n` steps to go to `last` (`n < 65536`) and a count `ret` that cannot overflow, any fuel above `n` suffices, the
counter ends at `last` and the count is `ret + countMissing b k n`. -/
theorem loop_count (st : S) (b : Array Bool) (hsz : st.size = 128) (hb : bitsRel st.packets b) (last : Nat) :
    ∀ (n k ret : Nat), k < 65536 → n < 65536 → (k + n) % 65536 = last → ret + n < 4294967296 →
      ∀ fuel, n + 1 ≤ fuel →
        loop fuel (ccond last) (cbody st) ((k : Int), (ret : Int))
          = some ((last : Int), ((ret + countMissing b k n : Nat) : Int)) := by
  intro n k ret hk hn he hr fuel hf
  have hbody : ∀ p, cbody st p = (u16 (p.1 + 1), if !(report_receiverStream_getReceived st p.1) then u32 (p.2 + 1) else p.2) := by
    intro p; unfold cbody; split <;> rfl
  rw [loop_congr hbody]
  -- carried on: the count is a uint32 that cannot overflow, and with what is left to scan it makes the final count
  obtain ⟨_, hl, r, rfl, _, e⟩ := FnReceiverReport.loop_u16 last
    (fun i c => if !(report_receiverStream_getReceived st i) then u32 (c + 1) else c)
    (fun k' n' c => ∃ r : Nat, c = (r : Int) ∧ r + n' < 4294967296 ∧ r + countMissing b k' n' = ret + countMissing b k n)
    (by
      rintro k' n' _ hk' ⟨r, rfl, hr', e⟩
      rw [getReceived_src_eq_model st b hsz hb k' ⟨Int.natCast_nonneg _, Int.ofNat_lt.mpr hk'⟩, Int.toNat_natCast]
      rw [countMissing] at e
      cases hg : getBit b k' <;> rw [hg] at e
      · rw [if_neg Bool.false_ne_true, ← Nat.add_assoc] at e
        have h1 : r + 1 < 4294967296 := Nat.lt_of_le_of_lt (Nat.add_le_add_left (Nat.le_add_left 1 n') r) hr'
        exact ⟨r + 1, by rw [Bool.not_false, if_pos rfl, u32_add_one, Nat.mod_eq_of_lt h1],
          by rw [Nat.add_right_comm]; exact hr', e⟩
      · rw [if_pos rfl, Nat.zero_add] at e
        exact ⟨r, rfl, Nat.lt_of_succ_lt hr', e⟩)
    n k ret hk hn he ⟨ret, rfl, hr, rfl⟩ fuel hf
  refine hl.trans ?_
  rw [← e]
  rfl

theorem toUint8_cast (q : Rat) : ((F64.toUint8 q : Nat) : Int) = u8 (F64.toInt64 q) := by
  unfold F64.toUint8 u8; omega

/-- `uint32(cycles)<<16 | uint32(lastSeqnum)` is `cycles·65536 + lastSeqnum` (mod 2^32) for a uint16
`lastSeqnum`. -/
theorem ext_eq (c l : Nat) (hl : l < 65536) :
    u32 (bor (u32 (shl (c : Int) 16)) (l : Int)) = (((c * 65536 + l) % M32 : Nat) : Int) := by
  have h1 : shl (c : Int) 16 = ((c * 65536 : Nat) : Int) := by unfold shl; simp
  have h2 : u32 ((c * 65536 : Nat) : Int) = (((c % 65536) * 2 ^ 16 : Nat) : Int) :=
    (Int.natCast_emod _ _).symm.trans (congrArg Nat.cast (Nat.mul_mod_mul_right 65536 c 65536))
  rw [h1, h2, bor_ofNat, or_field _ _ 16 hl]
  exact (Int.natCast_emod _ _).symm.trans (congrArg Nat.cast (cycles_mod c l))

/-- `uint8(float64(lost*256) / float64(total))`; for `total = 0` (then `lost = 0`) the translated
division `0/0` is `0`, as is the model's explicit case. -/
theorem fraction_eq (lost total : Nat) (h0 : total = 0 → lost = 0) :
    u8 (F64.toInt64 (F64.div (F64.ofInt (u32 ((lost : Int) * 256))) (F64.ofInt (total : Int))))
      = ((fractionLost lost total : Nat) : Int) := by
  unfold fractionLost
  by_cases ht : total = 0
  · have hl := h0 ht
    subst ht; subst hl
    decide +kernel
  · rw [if_neg ht, toUint8_cast, ← u32_mul lost 256]; rfl

/-- the `delay` field of the model's `generateReport`, by name. -/
def mDelay (m : Stream) (now : Int) : Nat :=
  match m.lsrTime with
  | none => 0
  | some t => F64.toUint32 (F64.mul (GoTime.seconds (max (now - t) 0)) 65536)

/-- the `Delay` closure: the `IsZero` test is the model's `none`, and `now.Sub` does not saturate. -/
theorem mkRep_eq (st : S) (m : Stream) (ht : timeRel st.lastSenderReportTime m.lsrTime) (lok : LsrOk m)
    (now : Int) (hn : instant now) (lost total : Int) :
    mkRep st now lost total = some (mkRepWith st lost total ((mDelay m now : Nat) : Int)) := by
  unfold mkRep mDelay
  cases hm : m.lsrTime with
  | none =>
    rw [hm] at ht
    have hz : st.lastSenderReportTime = zeroTime := ht
    rw [if_dec_pos hz]
    rfl
  | some t =>
    rw [hm] at ht
    have e : st.lastSenderReportTime = t := ht
    have hi := lok t hm
    unfold instant at hi hn
    have hs : timeSub now t = now - t :=
      timeSub_rel now t (some t) rfl (by omega) fun u hu => by cases hu; omega
    rw [if_neg (by rw [e, decide_eq_false (by unfold zeroTime; omega)]; decide), e, hs, toUint32_cast]
    rfl

/-- a model reception report as the Go struct. -/
def goRR (rr : RR) : S_rtcp_ReceptionReport :=
  { SSRC := rr.ssrc, FractionLost := rr.fraction, TotalLost := rr.totalLost, LastSequenceNumber := rr.ext,
    Jitter := rr.jitter, LastSenderReport := rr.lsr, Delay := rr.delay }

/-- the report literal and the state update on related states, for given (already clamped) `totalLost` and
`totalLostSinceReport`. -/
theorem mkRep_rel (g : S) (m : Stream) (r : Rel g m) (sok : SeqOk m) (lok : LsrOk m) (now : Int)
    (hn : instant now) (tl lost : Nat) (h0 : expectedInterval m = 0 → lost = 0) :
    ∃ g', mkRep { g with totalLost := (tl : Int) } now (lost : Int) ((expectedInterval m : Nat) : Int)
        = some ({ SSRC := g.receiverSSRC,
                  Reports := [goRR { ssrc := m.ssrc, ext := (m.cycles * 65536 + m.last) % M32,
                                     fraction := fractionLost lost (expectedInterval m), totalLost := tl,
                                     jitter := F64.toUint32 m.jitter, lsr := m.lsr, delay := mDelay m now }] }, g') ∧
      Rel g' { m with totalLost := tl, lastReport := m.last } := by
  refine ⟨{ g with totalLost := (tl : Int), lastReportSeqnum := g.lastSeqnum }, ?_,
    r.ssrc, r.rate, r.size, r.bits, r.started, r.cycles, r.last, r.last, r.lastTs, r.lastTime, r.jitter,
    r.lsr, r.lsrTime, rfl⟩
  rw [mkRep_eq { g with totalLost := (tl : Int) } m r.lsrTime lok now hn]
  unfold mkRepWith goRR
  simp only [fraction_eq lost (expectedInterval m) h0, r.ssrc, r.cycles, r.last, ext_eq m.cycles m.last sok.last,
    r.lsr, r.jitter, toUint32_cast]

/-- everything after the loss count, on related states: the clamps (`fin_eq`), then `mkRep_rel`. -/
theorem fin_rel (g : S) (m : Stream) (r : Rel g m) (sok : SeqOk m) (lok : LsrOk m) (now : Int)
    (hn : instant now) :
    ∃ g', fin g now ((lostInterval m : Nat) : Int) ((expectedInterval m : Nat) : Int)
        = some ({ SSRC := g.receiverSSRC, Reports := [goRR (generateReport m now).1] }, g') ∧
      Rel g' (generateReport m now).2 := by
  have h0 : expectedInterval m = 0 →
      (if lostInterval m > 16777215 then 16777215 else lostInterval m) = 0 := by
    intro h
    unfold lostInterval; rw [if_pos (eq_of_sub16_eq_zero sok.last sok.lastReport h)]; rfl
  rw [fin_eq, r.totalLost, u32_add, clamp24_cast, clamp24_cast]
  exact mkRep_rel g m r sok lok now hn _ _ h0

/-- ★ `receiverStream.generateReport` as written in the source terminates (the loss scan runs at most 65534
iterations: any fuel ≥ 65535 suffices) and equals the model's `generateReport`: for every related pair of
states satisfying the invariants and every instant `now`, it returns the receiver report whose single
reception report is the model's, field by field (`goRR`), and a state related to the model's next state. -/
theorem generateReport_src_eq_model (g : S) (m : Stream) (r : Rel g m) (sok : SeqOk m) (lok : LsrOk m)
    (now : Int) (hn : instant now) :
    ∀ fuel, 65535 ≤ fuel →
      ∃ g', report_receiverStream_generateReport fuel g now
          = some ({ SSRC := g.receiverSSRC, Reports := [goRR (generateReport m now).1] }, g') ∧
        Rel g' (generateReport m now).2 := by
  intro fuel hf
  have hl := sok.last
  have hlr := sok.lastReport
  have htot : u16 (g.lastSeqnum - g.lastReportSeqnum) = ((expectedInterval m : Nat) : Int) := by
    rw [r.last, r.lastReport]; exact u16_sub _ _
  obtain ⟨g', h1, h2⟩ := fin_rel g m r sok lok now hn
  refine ⟨g', ?_, h2⟩
  rw [gen_eq]
  unfold genRep'
  rw [htot]
  by_cases he : m.last = m.lastReport
  · have hlost : lostInterval m = 0 := by unfold lostInterval; rw [if_pos he]
    rw [hlost] at h1
    rw [if_pos (decide_eq_true (by rw [r.last, r.lastReport, he]))]
    exact h1
  · have hlt : expectedInterval m < 65536 := sub16_lt _ _
    have hpos : 0 < expectedInterval m := Nat.pos_of_ne_zero fun h0 => he (eq_of_sub16_eq_zero hl hlr h0)
    have hloop := loop_count g m.bits r.size r.bits m.last (expectedInterval m - 1) _ 0 (add16_lt m.lastReport 1)
      (by omega) (add16_one_reach hl hpos) (by omega) fuel (by omega)
    have hlost : 0 + countMissing m.bits (add16 m.lastReport 1) (expectedInterval m - 1) = lostInterval m := by
      unfold lostInterval; rw [if_neg he, Nat.zero_add]
    rw [hlost, Int.natCast_zero] at hloop
    rw [if_neg (by rw [decide_eq_false (by rw [r.last, r.lastReport]; omega)]; decide), r.lastReport, u16_add_one,
      r.last]
    refine Eq.trans ?_ h1
    rw [hloop]

/-- ★ the fields of the generated reception report, spelled out: SSRC, FractionLost, TotalLost,
LastSequenceNumber, Jitter, LastSenderReport, Delay are the model's. -/
theorem generateReport_fields (g : S) (m : Stream) (r : Rel g m) (sok : SeqOk m) (lok : LsrOk m)
    (now : Int) (hn : instant now) (fuel : Nat) (hf : 65535 ≤ fuel) :
    ∃ rr g', report_receiverStream_generateReport fuel g now
        = some ({ SSRC := g.receiverSSRC, Reports := [rr] }, g') ∧
      Rel g' (generateReport m now).2 ∧
      rr.SSRC = ((generateReport m now).1.ssrc : Int) ∧
      rr.FractionLost = ((generateReport m now).1.fraction : Int) ∧
      rr.TotalLost = ((generateReport m now).1.totalLost : Int) ∧
      rr.LastSequenceNumber = ((generateReport m now).1.ext : Int) ∧
      rr.Jitter = ((generateReport m now).1.jitter : Int) ∧
      rr.LastSenderReport = ((generateReport m now).1.lsr : Int) ∧
      rr.Delay = ((generateReport m now).1.delay : Int) := by
  obtain ⟨g', h, hr⟩ := generateReport_src_eq_model g m r sok lok now hn fuel hf
  exact ⟨_, g', h, hr, rfl, rfl, rfl, rfl, rfl, rfl, rfl⟩

inductive Call where
  | rtp (now : Int) (h : S_rtp_Header)
  | sr (now : Int) (sr : S_rtcp_SenderReport)
  | gen (now : Int)

/-- the arguments are in the ranges of their Go types and every `now` is an `instant`. -/
def Call.ok : Call → Prop
  | .rtp now h => HeaderOk h ∧ instant now
  | .sr now rep => (0 ≤ rep.NTPTime ∧ rep.NTPTime < 18446744073709551616) ∧ instant now
  | .gen now => instant now

/-- one Go call: the new state and the reports produced. -/
def goStep (fuel : Nat) (g : S) : Call → Option (S × List S_rtcp_ReceiverReport)
  | .rtp now h => (report_receiverStream_processRTP fuel g now h).map fun g' => (g', [])
  | .sr now rep => some (report_receiverStream_processSenderReport g now rep, [])
  | .gen now => (report_receiverStream_generateReport fuel g now).map fun p => (p.2, [p.1])

def modelStep (m : Stream) : Call → Stream × List RR
  | .rtp now h => (processRTP m now h.SequenceNumber.toNat h.Timestamp.toNat, [])
  | .sr now rep => (processSR m now rep.NTPTime.toNat, [])
  | .gen now => ((generateReport m now).2, [(generateReport m now).1])

def goRun (fuel : Nat) : S → List Call → Option (S × List S_rtcp_ReceiverReport)
  | g, [] => some (g, [])
  | g, c :: cs => match goStep fuel g c with
    | none => none
    | some (g', out) => match goRun fuel g' cs with
      | none => none
      | some (g'', outs) => some (g'', out ++ outs)

def modelRun : Stream → List Call → Stream × List RR
  | m, [] => (m, [])
  | m, c :: cs => ((modelRun (modelStep m c).1 cs).1, (modelStep m c).2 ++ (modelRun (modelStep m c).1 cs).2)

structure Inv (m : Stream) : Prop where
  time : TimeOk m
  seq : SeqOk m
  lsr : LsrOk m

theorem inv_new (ssrc rate : Nat) : Inv (ReceiverReport.new ssrc rate) :=
  ⟨FnReceiverReport.timeOk_new ssrc rate, ⟨Nat.zero_lt_succ _, Nat.zero_lt_succ _⟩, fun _ hu => nomatch hu⟩

/-- ★ every model step with arguments in range preserves all invariants: `processRTP` by what it can change
(`processRTP_frame`), `processSR` sets `lsrTime` to an instant, `generateReport` copies `last` to `lastReport`. -/
theorem inv_step (m : Stream) (i : Inv m) (c : Call) (hc : c.ok) : Inv (modelStep m c).1 := by
  cases c with
  | rtp now h =>
    obtain ⟨hh, hn⟩ := hc
    have hs : h.SequenceNumber.toNat < 65536 := by have := hh.seq; omega
    obtain ⟨st, b, cy, l, lr, j, e, hl, hlr⟩ :=
      ReceiverReport.processRTP_frame m now h.SequenceNumber.toNat h.Timestamp.toNat
    have hl' : l < 65536 := by
      rcases hl with e | e <;> rw [e]
      · exact hs
      · exact i.seq.last
    have hlr' : lr < 65536 := by
      rcases hlr with e | e <;> rw [e]
      · exact sub16_lt _ _
      · exact i.seq.lastReport
    show Inv (processRTP m now h.SequenceNumber.toNat h.Timestamp.toNat)
    rw [e]
    exact ⟨fun u hu => Option.some.inj hu ▸ hn, ⟨hl', hlr'⟩, i.lsr⟩
  | sr now rep =>
    exact ⟨i.time, ⟨i.seq.last, i.seq.lastReport⟩, fun u hu => Option.some.inj hu ▸ hc.2⟩
  | gen now => exact ⟨i.time, ⟨i.seq.last, i.seq.last⟩, i.lsr⟩

theorem step_src_eq_model (fuel : Nat) (hf : 65535 ≤ fuel) (g : S) (m : Stream) (r : Rel g m) (i : Inv m)
    (c : Call) (hc : c.ok) :
    ∃ g' out, goStep fuel g c = some (g', out) ∧ Rel g' (modelStep m c).1 ∧
      out.map (·.Reports) = (modelStep m c).2.map (fun rr => [goRR rr]) := by
  cases c with
  | rtp now h =>
    obtain ⟨g', hg, r'⟩ := FnReceiverReport.processRTP_src_eq_model g m r i.time now h hc.1 hc.2 fuel (by omega)
    exact ⟨g', [], by rw [goStep, hg]; rfl, r', rfl⟩
  | sr now rep => exact ⟨_, [], rfl, FnReceiverReport.processSenderReport_src_eq_model g m r now rep hc.1, rfl⟩
  | gen now =>
    obtain ⟨g', hg, r'⟩ := generateReport_src_eq_model g m r i.seq i.lsr now hc fuel hf
    exact ⟨g', _, by rw [goStep, hg]; rfl, r', rfl⟩

/-- ★ the step theorems chain: any sequence of `processRTP` / `processSenderReport` / `generateReport` calls
with arguments in range, run with fuel ≥ 65535 per call, terminates, ends in a state related to the model's
(with all invariants), and the reception reports produced along the way are the model's — in particular
from the constructor (`rel_new`, `inv_new`). -/
theorem run_src_eq_model (fuel : Nat) (hf : 65535 ≤ fuel) (cs : List Call) (hok : ∀ c ∈ cs, c.ok) :
    ∀ (g : S) (m : Stream), Rel g m → Inv m →
      ∃ g' outs, goRun fuel g cs = some (g', outs) ∧ Rel g' (modelRun m cs).1 ∧ Inv (modelRun m cs).1 ∧
        outs.map (·.Reports) = (modelRun m cs).2.map (fun rr => [goRR rr]) := by
  induction cs with
  | nil => intro g m r i; exact ⟨g, [], rfl, r, i, rfl⟩
  | cons c cs ih =>
    intro g m r i
    have hc := hok c (by simp)
    obtain ⟨g1, out, hg1, r1, ho1⟩ := step_src_eq_model fuel hf g m r i c hc
    obtain ⟨g', outs, hg', r', i', ho⟩ := ih (fun c' h' => hok c' (by simp [h'])) g1 _ r1 (inv_step m i c hc)
    refine ⟨g', out ++ outs, by simp only [goRun, hg1, hg'], r', i', ?_⟩
    rw [List.map_append, ho1, ho, modelRun, List.map_append]

/-! satisfiability of the hypotheses on concrete non-trivial states -/

example : Rel (FnReceiverReport.goNew 7 90000 12345) (ReceiverReport.new 7 90000) ∧
    Inv (ReceiverReport.new 7 90000) :=
  ⟨FnReceiverReport.rel_new 7 90000 12345, inv_new 7 90000⟩

/-- a started stream (first packet 65534, then 2: wrap-around with three skipped positions) that has seen a
sender report: all hypotheses of `generateReport_src_eq_model` hold with `last ≠ lastReport`, a stored
sender-report time, so the loss-scan loop and the DLSR branch are exercised. -/
example : ∃ g m, Rel g m ∧ SeqOk m ∧ LsrOk m ∧ m.last = 2 ∧ m.lastReport = 65533 ∧
    m.lsrTime = some 946684800500000000 ∧ instant 946684801000000000 := by
  obtain ⟨g', _, _, r', i', _⟩ := run_src_eq_model 65535 (by omega)
    [.rtp 946684800000000000 { SequenceNumber := 65534, Timestamp := 3000 },
     .rtp 946684800020000000 { SequenceNumber := 2, Timestamp := 6000 },
     .sr 946684800500000000 { NTPTime := 16755510599426244608 }]
    (by
      intro c hc
      simp only [List.mem_cons, List.not_mem_nil, or_false] at hc
      rcases hc with rfl | rfl | rfl
      · exact ⟨⟨by decide, by decide⟩, by unfold instant; omega⟩
      · exact ⟨⟨by decide, by decide⟩, by unfold instant; omega⟩
      · exact ⟨⟨by decide, by decide⟩, by unfold instant; omega⟩)
    (FnReceiverReport.goNew 7 90000 12345) (ReceiverReport.new 7 90000) (FnReceiverReport.rel_new _ _ _)
    (inv_new _ _)
  exact ⟨g', _, r', i'.seq, i'.lsr, rfl, rfl, rfl, by unfold instant; omega⟩

/-- the loss-count loop from counter 65534 to 2 on the fresh (all-missing) history: four iterations. -/
example : loop 5 (ccond 2) (cbody (FnReceiverReport.goNew 7 90000 1)) (65534, ((0 : Nat) : Int))
    = some (2, ((0 + countMissing (Array.replicate W false) (65534 : Int).toNat 4 : Nat) : Int)) :=
  by
  have h := loop_count (FnReceiverReport.goNew 7 90000 1) (Array.replicate W false) rfl bitsRel_new 2 4 65534 0
    (by omega) (by omega) (by omega) (by omega) 5 (by omega)
  have e : (65534 : Int).toNat = 65534 := rfl
  rw [e]
  exact h

/-- the extended highest sequence number at its maximum: `0xFFFF<<16 | 0xFFFF = 0xFFFFFFFF`. -/
example : u32 (bor (u32 (shl ((65535 : Nat) : Int) 16)) ((65535 : Nat) : Int)) = ((4294967295 : Nat) : Int) :=
  ext_eq 65535 65535 (by omega)

/-- the whole sequence constructor, two packets (wrap-around gap), a sender report, `generateReport`: the
generated code terminates and produces exactly one report, the model's. -/
example : ∃ g' rep, goRun 65535 (FnReceiverReport.goNew 7 90000 12345)
      [.rtp 946684800000000000 { SequenceNumber := 65534, Timestamp := 3000 },
       .rtp 946684800020000000 { SequenceNumber := 2, Timestamp := 6000 },
       .sr 946684800500000000 { NTPTime := 16755510599426244608 },
       .gen 946684801000000000] = some (g', [rep]) := by
  obtain ⟨g', outs, h, _, _, ho⟩ := run_src_eq_model 65535 (by omega)
    [.rtp 946684800000000000 { SequenceNumber := 65534, Timestamp := 3000 },
     .rtp 946684800020000000 { SequenceNumber := 2, Timestamp := 6000 },
     .sr 946684800500000000 { NTPTime := 16755510599426244608 },
     .gen 946684801000000000]
    (by
      intro c hc
      simp only [List.mem_cons, List.not_mem_nil, or_false] at hc
      rcases hc with rfl | rfl | rfl | rfl
      · exact ⟨⟨by decide, by decide⟩, by unfold instant; omega⟩
      · exact ⟨⟨by decide, by decide⟩, by unfold instant; omega⟩
      · exact ⟨⟨by decide, by decide⟩, by unfold instant; omega⟩
      · unfold Call.ok instant; omega)
    (FnReceiverReport.goNew 7 90000 12345) (ReceiverReport.new 7 90000) (FnReceiverReport.rel_new _ _ _)
    (inv_new _ _)
  have hl : outs.length = 1 := by
    have := congrArg List.length ho
    simpa [modelRun, modelStep] using this
  match outs, hl with
  | [rep], _ => exact ⟨g', rep, h⟩

example : Call.ok (.gen 946684801000000000) := by unfold Call.ok instant; omega

end Interceptor.Facts.FnReceiverGenerate
