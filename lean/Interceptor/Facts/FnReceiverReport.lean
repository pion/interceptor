/-
`receiverStream.processRTP` and `receiverStream.processSenderReport` as written in
pkg/report/receiver_stream.go (generated translation Gen/Fn_report.lean, regenerated from /repo on every
run) compute exactly the hand-written model `ReceiverReport.processRTP` / `processSR`
(Model/ReceiverReport.lean) that the C06 theorems are about — the whole of `processRTP`: the first-packet
branch, the `diff`/wrap-around case analysis, the cycle counter, the loop that clears the skipped
positions of the packed `[]uint64` history (terminates within 32767 iterations: any fuel ≥ 32768 suffices),
and the binary64 jitter update.

The relation `Rel` is field-by-field equality except for `packets` (`ReportBitmap.bitsRel`: position `p` of
the model's `Array Bool` is bit `p % 64` of word `p / 64`) and the two `time.Time` fields
(`FnSenderReport.timeRel`: `none` is the zero `time.Time`).  One hypothesis is needed beyond the ranges of
the Go types: Go's `Time.Sub` saturates at ±2^63 ns while the model subtracts exactly, so the instants must
be such that differences fit — `instant t : −2^62 ≤ t < 2^62` (Unix nanoseconds; years 1823..2116) for
`now` and, as the invariant `TimeOk`, for the stored `lastRTPTimeTime`.  `TimeOk` is established by the
constructor and preserved by both mutators; `Rel` likewise; `run_src_eq_model` chains them over arbitrary
call sequences.
-/
import Interceptor.Proofs.ReportBitmap
import Interceptor.Proofs.ReceiverReport
import Interceptor.Facts.FnSenderReport
namespace Interceptor.Facts.FnReceiverReport
open Interceptor.Gen.Fn Interceptor.GoSem Interceptor.ReceiverReport Interceptor.ReportBitmap
open Interceptor.Facts.FnSenderReport (goZeroTime timeRel timeSub_rel HeaderOk)

abbrev S := S_report_receiverStream

/-- abstraction relation: the Go struct represents the model state (`receiverSSRC`, random, is not in the
model). -/
structure Rel (g : S) (m : Stream) : Prop where
  ssrc : g.ssrc = (m.ssrc : Int)
  rate : g.clockRate = F64.ofInt (m.rate : Int)
  size : g.size = 128
  bits : bitsRel g.packets m.bits
  started : g.started = m.started
  cycles : g.seqnumCycles = (m.cycles : Int)
  last : g.lastSeqnum = (m.last : Int)
  lastReport : g.lastReportSeqnum = (m.lastReport : Int)
  lastTs : g.lastRTPTimeRTP = (m.lastTs : Int)
  lastTime : timeRel g.lastRTPTimeTime m.lastTime
  jitter : g.jitter = m.jitter
  lsr : g.lastSenderReport = (m.lsr : Int)
  lsrTime : timeRel g.lastSenderReportTime m.lsrTime
  totalLost : g.totalLost = (m.totalLost : Int)

/-- an instant whose differences with any other such instant fit a `time.Duration`. -/
def instant (t : Int) : Prop := -4611686018427387904 ≤ t ∧ t < 4611686018427387904

/-- invariant: the stored arrival time of the last packet, when there is one, is such an instant. -/
def TimeOk (m : Stream) : Prop := ∀ u, m.lastTime = some u → instant u

/-- the struct literal of `newReceiverStream(ssrc, clockRate)` (receiver_stream.go:42; a composite literal,
not in extract/fn.list; `r` is the value `rand.Uint32()` returned). -/
def goNew (ssrc rate r : Nat) : S :=
  { ssrc := ssrc, receiverSSRC := r, clockRate := F64.ofInt (rate : Int), size := 128, packets := mkSlice 128,
    lastRTPTimeTime := goZeroTime, lastSenderReportTime := goZeroTime }

theorem rel_new (ssrc rate r : Nat) : Rel (goNew ssrc rate r) (ReceiverReport.new ssrc rate) := by
  refine ⟨rfl, rfl, rfl, bitsRel_new, rfl, rfl, rfl, rfl, rfl, rfl, rfl, rfl, rfl, rfl⟩

theorem timeOk_new (ssrc rate : Nat) : TimeOk (ReceiverReport.new ssrc rate) := by
  intro u hu; simp [ReceiverReport.new] at hu

/-- ★ `processSenderReport` as written in the source equals the model's `processSR`, for every uint64
NTP time and every instant. -/
theorem processSenderReport_src_eq_model (g : S) (m : Stream) (r : Rel g m) (now : Int)
    (sr : S_rtcp_SenderReport) (hn : 0 ≤ sr.NTPTime ∧ sr.NTPTime < 18446744073709551616) :
    Rel (report_receiverStream_processSenderReport g now sr) (processSR m now sr.NTPTime.toNat) := by
  unfold report_receiverStream_processSenderReport processSR
  exact ⟨r.ssrc, r.rate, r.size, r.bits, r.started, r.cycles, r.last, r.lastReport, r.lastTs, r.lastTime,
    r.jitter, u32_shr16 _ hn.1, rfl, r.totalLost⟩

theorem timeOk_processSR (m : Stream) (h : TimeOk m) (now : Int) (ntp : Nat) : TimeOk (processSR m now ntp) := h

/-! The generated `processRTP`, restated with its pieces named. -/

/-- `stream.jitter += (D - stream.jitter) / 16; lastRTPTimeRTP = ts; lastRTPTimeTime = now`. -/
def upd (st : S) (D : Rat) (ts now : Int) : S :=
  { st with jitter := F64.add st.jitter (F64.div (F64.sub D st.jitter) 16), lastRTPTimeRTP := ts,
            lastRTPTimeTime := now }

/-- `now.Sub(lastRTPTimeTime).Seconds()*clockRate - float64(int32(ts - lastRTPTimeRTP))`. -/
def dOf (st : S) (now ts : Int) : Rat :=
  F64.sub (F64.mul (durSeconds (timeSub now st.lastRTPTimeTime)) st.clockRate)
    (F64.ofInt (s32 (u32 (ts - st.lastRTPTimeRTP))))

/-- the jitter computation at the end of the `else` branch. -/
def tail (st : S) (now ts : Int) : Option S :=
  if decide (dOf st now ts < 0) then some (upd st (-(dOf st now ts)) ts now) else some (upd st (dOf st now ts) ts now)

/-- loop condition `i != pktHeader.SequenceNumber`. -/
def lcond (seq : Int) : Int × S → Bool := fun p => decide (p.1 ≠ seq)
/-- loop body `stream.delReceived(i); i++`. -/
def lbody : Int × S → Int × S := fun p => (u16 (p.1 + 1), report_receiverStream_delReceived p.2 p.1)

/-- the loop, `lastSeqnum = seq`, then the jitter computation. -/
def afterLoop (fuel : Nat) (st0 : S) (seq ts now : Int) : Option S :=
  match loop fuel (lcond seq) lbody (u16 (st0.lastSeqnum + 1), st0) with
  | none => none
  | some (_, st) => tail { st with lastSeqnum := seq } now ts

/-- the first-packet branch. -/
def first (st : S) (now seq ts : Int) : S :=
  { report_receiverStream_setReceived { st with started := true } seq with
    lastSeqnum := seq, lastReportSeqnum := u16 (seq - 1), lastRTPTimeRTP := ts, lastRTPTimeTime := now }

def procRTP' (fuel : Nat) (st : S) (now seq ts : Int) : Option S :=
  if !st.started then some (first st now seq ts)
  else
    let st1 := report_receiverStream_setReceived st seq
    if decide (u16 (seq - st1.lastSeqnum) > 0) && decide (u16 (seq - st1.lastSeqnum) < 32768) then
      if decide (seq < st1.lastSeqnum) then
        afterLoop fuel { st1 with seqnumCycles := u16 (st1.seqnumCycles + 1) } seq ts now
      else afterLoop fuel st1 seq ts now
    else tail st1 now ts

/-- the generated `processRTP` IS `procRTP'`: the pieces are written with the control structure (and the
`match` on the loop result, so that Lean shares the matcher) of the generated text, and the two unfold to the
same term. -/
theorem gen_eq (fuel : Nat) (st : S) (now : Int) (h : S_rtp_Header) :
    report_receiverStream_processRTP fuel st now h = procRTP' fuel st now h.SequenceNumber h.Timestamp := by
  unfold report_receiverStream_processRTP procRTP'
  rfl

/-! The model's `processRTP`, restated the same way. -/

/-- the model state after the sequence-number part of the `else` branch. -/
def mid (m : Stream) (seq : Nat) : Stream :=
  if 0 < sub16 seq m.last ∧ sub16 seq m.last < 32768 then
    { m with cycles := if seq < m.last then (m.cycles + 1) % 65536 else m.cycles,
             bits := clearRange (setBit m.bits seq true) (add16 m.last 1) (sub16 seq m.last - 1),
             last := seq }
  else { m with bits := setBit m.bits seq true }

/-- the jitter part. -/
def jit (m1 : Stream) (now : Int) (ts : Nat) : Stream :=
  { m1 with jitter := jitterStep m1.jitter (jitterD m1.rate (GoTime.sub now m1.lastTime) ts m1.lastTs),
            lastTs := ts, lastTime := some now }

theorem model_started (m : Stream) (now : Int) (seq ts : Nat) (hs : m.started = true) :
    processRTP m now seq ts = jit (mid m seq) now ts := by
  unfold processRTP mid jit
  simp only [hs, Bool.not_true, Bool.false_eq_true, if_false]
  split <;> rfl

/-- ★ `processRTP` (model) establishes the invariant `TimeOk` for every instant `now`. -/
theorem timeOk_processRTP (m : Stream) (now : Int) (seq ts : Nat) (hn : instant now) :
    TimeOk (processRTP m now seq ts) := by
  obtain ⟨st, b, c, l, lr, j, e, _⟩ := processRTP_frame m now seq ts
  rw [e]
  intro u hu
  rw [← Option.some.inj hu]; exact hn

theorem sdiff_eq (ts lastTs : Nat) :
    s32 (u32 ((ts : Int) - (lastTs : Int))) = sdiff32 ts lastTs := by
  unfold s32 u32 sdiff32 M32
  simp only
  split <;> omega

theorem tail_eq (st : S) (now ts : Int) :
    tail st now ts = some (upd st (if dOf st now ts < 0 then -dOf st now ts else dOf st now ts) ts now) := by
  unfold tail
  by_cases h : dOf st now ts < 0
  · rw [if_dec_pos h, if_pos h]
  · rw [if_dec_neg h, if_neg h]

/-- the jitter computation on related states (`g1`/`m1` are the states after the sequence-number part). -/
theorem tail_rel (g1 : S) (m1 : Stream) (r : Rel g1 m1) (tok : TimeOk m1) (now : Int) (ts : Nat)
    (hn : instant now) :
    ∃ g', tail g1 now (ts : Int) = some g' ∧ Rel g' (jit m1 now ts) := by
  have hsub : timeSub now g1.lastRTPTimeTime = GoTime.sub now m1.lastTime := by
    refine timeSub_rel now _ _ r.lastTime (by unfold instant at hn; omega) (fun u hu => ?_)
    have := tok u hu
    unfold instant at hn this; omega
  have hd : dOf g1 now (ts : Int)
      = F64.sub (F64.mul (GoTime.seconds (GoTime.sub now m1.lastTime)) (F64.ofInt (m1.rate : Int)))
          (F64.ofInt (sdiff32 ts m1.lastTs)) := by
    unfold dOf
    rw [hsub, r.rate, r.lastTs, sdiff_eq ts m1.lastTs]
    rfl
  refine ⟨_, tail_eq g1 now ts, ?_⟩
  unfold upd jit
  refine ⟨r.ssrc, r.rate, r.size, r.bits, r.started, r.cycles, r.last, r.lastReport, rfl, rfl, ?_, r.lsr,
    r.lsrTime, r.totalLost⟩
  show F64.add g1.jitter (F64.div (F64.sub _ g1.jitter) 16) = jitterStep m1.jitter _
  rw [r.jitter, hd]; rfl

/-- `for i := k; i != last; i++ { acc = f(i, acc) }` over a uint16 counter that is `n < 65536` increments before
`last`: any fuel above `n` suffices, the counter ends at `last`, and a property `P k n acc` of (counter, increments
to go, accumulator) that every iteration carries on holds at the end. -/
theorem loop_u16 {α : Type} (last : Nat) (f : Int → α → α) (P : Nat → Nat → α → Prop)
    (step : ∀ k n acc, k < 65536 → P k (n + 1) acc → P (add16 k 1) n (f (k : Int) acc)) :
    ∀ (n k : Nat) (acc : α), k < 65536 → n < 65536 → (k + n) % 65536 = last → P k n acc →
      ∀ fuel, n + 1 ≤ fuel →
        ∃ acc', loop fuel (fun p => decide (p.1 ≠ (last : Int))) (fun p => (u16 (p.1 + 1), f p.1 p.2)) ((k : Int), acc)
            = some ((last : Int), acc') ∧ P last 0 acc' := by
  intro n
  induction n with
  | zero =>
    intro k acc hk _ he hP fuel hf
    obtain rfl : k = last := (Nat.mod_eq_of_lt hk).symm.trans he
    exact ⟨acc, loop_stop (cond := fun p => decide (p.1 ≠ (k : Int))) (s := ((k : Int), acc))
      (decide_eq_false fun h => h rfl) hf, hP⟩
  | succ n ih =>
    intro k acc hk hn he hP fuel hf
    obtain ⟨hne, he'⟩ := u16_counter hn he
    obtain ⟨acc', hl, hP'⟩ := ih (add16 k 1) (f k acc) (add16_lt k 1) (Nat.lt_of_succ_lt hn) he' (step k n acc hk hP)
      (fuel - 1) (Nat.le_sub_of_add_le hf)
    refine ⟨acc', ?_, hP'⟩
    rw [loop_step (cond := fun p => decide (p.1 ≠ (last : Int))) (s := ((k : Int), acc)) (decide_eq_true fun h => hne (Int.ofNat.inj h)) hf]
    show loop (fuel - 1) _ _ (u16 ((k : Int) + 1), f k acc) = _
    rw [u16_add_one]
    exact hl

/-- ★ the clearing loop terminates and computes the model's `clearRange`: started at the uint16 `k` with `n`
steps to go to `seq` (`n < 65536`), any fuel above `n` suffices, the counter ends at `seq`, only `packets`
changes and it represents `clearRange b k n`. -/
theorem loop_clear (seq : Nat) :
    ∀ (n k : Nat) (st : S) (b : Array Bool), k < 65536 → st.size = 128 → bitsRel st.packets b → n < 65536 →
      (k + n) % 65536 = seq →
      ∀ fuel, n + 1 ≤ fuel →
        ∃ ws, loop fuel (lcond seq) lbody ((k : Int), st) = some ((seq : Int), { st with packets := ws }) ∧
          bitsRel ws (clearRange b k n) := by
  intro n k st b hk hsz hb hn he fuel hf
  -- carried on: only `packets` has changed, and clearing what is left of the range gives the final history
  obtain ⟨_, hl, ws, b', rfl, hb', e⟩ := loop_u16 seq (fun i s => report_receiverStream_delReceived s i)
    (fun k' n' s => ∃ ws b', s = { st with packets := ws } ∧ bitsRel ws b' ∧ clearRange b' k' n' = clearRange b k n)
    (by
      rintro k' n' _ hk' ⟨ws, b', rfl, hb', e⟩
      obtain ⟨ws1, hdel, hb1⟩ := delReceived_src_eq_model { st with packets := ws } b' hsz hb' k' (by omega)
      rw [Int.toNat_natCast] at hb1
      exact ⟨ws1, _, hdel, hb1, e⟩)
    n k st hk hn he ⟨_, b, rfl, hb, rfl⟩ fuel hf
  exact ⟨ws, hl, e ▸ hb'⟩

/-- the jitter tail behind a sequence-number part that left related histories, cycle counts and `lastSeqnum`s.
The new field values are variables on purpose.  Where a record holding a stuck model term
(`clearRange … (sub16 … - 1)`) meets `m` under the same projection, the kernel first compares the two records field
by field (structure eta) and, to see that the fields differ, evaluates the stuck term — `x + 65536` in unary — before
it falls back to unfolding the projection.  So such records are built in lemmas whose statements have variables in
these fields (this one, the `∃` of `ReceiverReport.processRTP_frame`) and are instantiated afterwards; a `generalize`
inside a proof does not survive instantiation. -/
theorem tail_seqPart_rel (g : S) (m : Stream) (r : Rel g m) (tok : TimeOk m) (now : Int) (ts : Nat)
    (hn : instant now) {ws : List Int} {b : Array Bool} (hb : bitsRel ws b)
    {c : Int} {n : Nat} (hc : c = (n : Int)) {l : Int} {k : Nat} (hl : l = (k : Int)) :
    ∃ g', tail { g with packets := ws, seqnumCycles := c, lastSeqnum := l } now (ts : Int) = some g' ∧
      Rel g' (jit { m with bits := b, cycles := n, last := k } now ts) :=
  tail_rel { g with packets := ws, seqnumCycles := c, lastSeqnum := l } { m with bits := b, cycles := n, last := k }
    ⟨r.ssrc, r.rate, r.size, hb, r.started, hc, hl, r.lastReport, r.lastTs, r.lastTime, r.jitter,
    r.lsr, r.lsrTime, r.totalLost⟩ tok now ts hn

/-- the loop plus the jitter tail, from states related up to the history (`ws`/`b1`: after `setReceived`) and
the cycle count (`c`/`n`: incremented or not). -/
theorem afterLoop_rel (g : S) (m : Stream) (r : Rel g m) (tok : TimeOk m) (now : Int) (seq ts : Nat)
    (hs : seq < 65536) (hn : instant now)
    (hd : 0 < sub16 seq m.last ∧ sub16 seq m.last < 32768) (fuel : Nat) (hf : 32768 ≤ fuel)
    {ws : List Int} {b1 : Array Bool} (hb : bitsRel ws b1) {c : Int} {n : Nat} (hc : c = (n : Int)) :
    ∃ g', afterLoop fuel { g with packets := ws, seqnumCycles := c } (seq : Int) (ts : Int) now = some g' ∧
      Rel g' (jit { m with cycles := n, bits := clearRange b1 (add16 m.last 1) (sub16 seq m.last - 1),
                           last := seq } now ts) := by
  obtain ⟨ws', hlp, hb'⟩ := loop_clear seq (sub16 seq m.last - 1) _ { g with packets := ws, seqnumCycles := c } b1
    (add16_lt _ 1) r.size hb (by omega) (add16_one_reach hs hd.1) fuel (by omega)
  obtain ⟨g', hg, hr⟩ := tail_seqPart_rel g m r tok now ts hn hb' hc (rfl : (seq : Int) = seq)
  have hi : u16 (({ g with packets := ws, seqnumCycles := c } : S).lastSeqnum + 1) = ((add16 m.last 1 : Nat) : Int) := by
    rw [← u16_add_one, ← r.last]
  refine ⟨g', ?_, hr⟩
  unfold afterLoop
  rw [hi, hlp]
  exact hg

/-- ★ `receiverStream.processRTP` as written in the source terminates (any fuel ≥ 32768 suffices for the
clearing loop) and equals the model's step: it maps related states to related states, for every header in
the range of the Go types and every instant `now`. -/
theorem processRTP_src_eq_model (g : S) (m : Stream) (r : Rel g m) (tok : TimeOk m) (now : Int)
    (h : S_rtp_Header) (hh : HeaderOk h) (hn : instant now) :
    ∀ fuel, 32768 ≤ fuel →
      ∃ g', report_receiverStream_processRTP fuel g now h = some g' ∧
        Rel g' (processRTP m now h.SequenceNumber.toNat h.Timestamp.toNat) := by
  intro fuel hf
  obtain ⟨seq, ts, hseq, hts, hsq, htq⟩ := hh.cast
  rw [gen_eq, hseq, hts, Int.toNat_natCast, Int.toNat_natCast]
  unfold procRTP'
  rw [r.started]
  cases hst : m.started
  · -- first packet
    obtain ⟨ws, hset, hb⟩ := setReceived_src_eq_model { g with started := true } m.bits r.size r.bits (seq : Int)
      (by omega)
    rw [Int.toNat_natCast] at hb
    refine ⟨_, if_pos rfl, ?_⟩
    rw [processRTP_first m now seq ts hst]
    unfold first
    rw [hset, u16_sub_one]
    exact ⟨r.ssrc, r.rate, r.size, hb, rfl, r.cycles, rfl, rfl, rfl, rfl, r.jitter, r.lsr, r.lsrTime, r.totalLost⟩
  · -- following packets
    obtain ⟨ws, hset, hb⟩ := setReceived_src_eq_model g m.bits r.size r.bits (seq : Int) (by omega)
    rw [Int.toNat_natCast] at hb
    rw [if_neg (by decide), model_started m now seq ts hst]
    unfold mid
    have hdiff : u16 ((seq : Int) - g.lastSeqnum) = ((sub16 seq m.last : Nat) : Int) := by
      rw [r.last]; exact u16_sub _ _
    simp only [hset, hdiff, halfRange_cast]
    by_cases hd : 0 < sub16 seq m.last ∧ sub16 seq m.last < 32768
    · rw [if_dec_pos hd, if_pos hd]
      by_cases hw : seq < m.last
      · rw [if_dec_pos (by rw [r.last]; omega : (seq : Int) < g.lastSeqnum), if_pos hw]
        exact afterLoop_rel g m r tok now seq ts hsq hn hd fuel hf hb
          (show u16 (g.seqnumCycles + 1) = (((m.cycles + 1) % 65536 : Nat) : Int) by rw [r.cycles]; exact u16_add_one _)
      · rw [if_neg (fun h => hw (by have := of_decide_eq_true h; rw [r.last] at this; omega)), if_neg hw]
        exact afterLoop_rel g m r tok now seq ts hsq hn hd fuel hf hb r.cycles
    · rw [if_dec_neg hd, if_neg hd]
      exact tail_seqPart_rel g m r tok now ts hn hb r.cycles r.last

inductive Call where
  | rtp (now : Int) (h : S_rtp_Header)
  | sr (now : Int) (sr : S_rtcp_SenderReport)

/-- the arguments are in the ranges of their Go types, `now` of an RTP packet is an `instant`. -/
def Call.ok : Call → Prop
  | .rtp now h => HeaderOk h ∧ instant now
  | .sr _ rep => 0 ≤ rep.NTPTime ∧ rep.NTPTime < 18446744073709551616

def goStep (fuel : Nat) (g : S) : Call → Option S
  | .rtp now h => report_receiverStream_processRTP fuel g now h
  | .sr now rep => some (report_receiverStream_processSenderReport g now rep)

def modelStep (m : Stream) : Call → Stream
  | .rtp now h => processRTP m now h.SequenceNumber.toNat h.Timestamp.toNat
  | .sr now rep => processSR m now rep.NTPTime.toNat

def goRun (fuel : Nat) : S → List Call → Option S
  | g, [] => some g
  | g, c :: cs => match goStep fuel g c with
    | none => none
    | some g' => goRun fuel g' cs

/-- ★ the step theorems chain: any sequence of `processRTP` / `processSenderReport` calls with arguments in
range, run with fuel 32768 per call, terminates and ends in a state related to the model's — in particular
from the constructor (`rel_new`, `timeOk_new`). -/
theorem run_src_eq_model (fuel : Nat) (hf : 32768 ≤ fuel) (cs : List Call) (hok : ∀ c ∈ cs, c.ok) :
    ∀ (g : S) (m : Stream), Rel g m → TimeOk m →
      ∃ g', goRun fuel g cs = some g' ∧ Rel g' (cs.foldl modelStep m) ∧ TimeOk (cs.foldl modelStep m) := by
  induction cs with
  | nil => intro g m r t; exact ⟨g, rfl, r, t⟩
  | cons c cs ih =>
    intro g m r t
    have hc := hok c (by simp)
    have hrest : ∀ c' ∈ cs, c'.ok := fun c' h' => hok c' (by simp [h'])
    cases c with
    | rtp now h =>
      obtain ⟨hh, hn⟩ := hc
      obtain ⟨g1, hg1, r1⟩ := processRTP_src_eq_model g m r t now h hh hn fuel hf
      obtain ⟨g', hg', r', t'⟩ := ih hrest g1 _ r1 (timeOk_processRTP m now _ _ hn)
      exact ⟨g', by simp only [goRun, goStep, hg1, hg'], r', t'⟩
    | sr now rep =>
      have r1 := processSenderReport_src_eq_model g m r now rep hc
      obtain ⟨g', hg', r', t'⟩ := ih hrest _ _ r1 (timeOk_processSR m t now _)
      exact ⟨g', by simp only [goRun, goStep, hg'], r', t'⟩

/-! satisfiability of the hypotheses on concrete non-trivial states -/

example : Rel (goNew 7 90000 12345) (ReceiverReport.new 7 90000) ∧ TimeOk (ReceiverReport.new 7 90000) :=
  ⟨rel_new 7 90000 12345, timeOk_new 7 90000⟩

example : instant 946684800000000000 := by unfold instant; omega

/-- a related pair of started states at sequence number 65535 exists (one packet from the constructor); the next
example runs the clearing loop from there to sequence number 2. -/
example : ∃ g m, Rel g m ∧ TimeOk m ∧ m.started = true ∧ m.last = 65535 := by
  obtain ⟨g', _, r', t'⟩ := run_src_eq_model 32768 (by omega)
    [.rtp 946684800000000000 { SequenceNumber := 65535, Timestamp := 3000 }]
    (by
      intro c hc
      simp only [List.mem_singleton] at hc
      subst hc
      exact ⟨⟨by decide, by decide⟩, by unfold instant; omega⟩)
    (goNew 7 90000 12345) (ReceiverReport.new 7 90000) (rel_new _ _ _) (timeOk_new _ _)
  exact ⟨g', _, r', t', rfl, rfl⟩

/-- the clearing loop from counter 65535 to sequence number 2 on the fresh history: three iterations. -/
example : ∃ ws, loop 4 (lcond 2) lbody (65535, goNew 7 90000 1) = some (2, { goNew 7 90000 1 with packets := ws }) ∧
    bitsRel ws (clearRange (Array.replicate W false) 65535 3) :=
  loop_clear 2 3 65535 (goNew 7 90000 1) _ (by omega) rfl bitsRel_new (by omega) (by omega) 4 (by omega)

example : Call.ok (.sr 5 { NTPTime := 16755510599426244608 }) := ⟨by decide, by decide⟩

end Interceptor.Facts.FnReceiverReport
