/-
The generated translations of pkg/nack/receive_log.go (Gen/Fn_nack.lean, regenerated from /repo on every
run) compute exactly what the hand-written model Model/ReceiveLog.lean computes, on the abstraction
"packed `[]uint64` bitmap ↔ `Array Bool` with one entry per slot".
-/
import Interceptor.Gen.Fn_nack
import Interceptor.Proofs.ReceiveLog
import Interceptor.Base.GoBitmap
import Interceptor.Proofs.GoWrap
set_option linter.unusedSimpArgs false
namespace Interceptor.Facts.FnNack
open Interceptor Interceptor.Gen.Fn Interceptor.GoSem Interceptor.ReceiveLog

/-- the Go `receiveLog` `g` represents the model state `m`: equal scalar fields (the `uint16` ones in
range), a size accepted by `newReceiveLog`, one model bit per slot, and the packed words hold these bits
(`Packed`: `len(packets)·64 = len(bits)`, every word `< 2^64`, bit `p%64` of word `p/64` = `bits[p]`). -/
structure Rel (g : S_nack_receiveLog) (m : Log) : Prop where
  size : g.size = (m.size : Int)
  valid : validSize m.size = true
  end_ : g.end_ = (m.end_ : Int)
  lc : g.lastConsecutive = (m.lc : Int)
  started : g.started = m.started
  endLt : m.end_ < 65536
  lcLt : m.lc < 65536
  nbits : m.bits.size = m.size
  packed : Packed g.packets m.bits

theorem validSize_bounds (n : Nat) (h : validSize n = true) : 64 ≤ n ∧ n ≤ 32768 ∧ n % 64 = 0 :=
  have ⟨h1, h2, h3, _⟩ := validSize_table n h
  ⟨h1, h2, h3⟩

theorem Rel.pos {g : S_nack_receiveLog} {m : Log} (h : Rel g m) : 0 < m.size := by
  have := validSize_bounds _ h.valid; omega

theorem Rel.words {g : S_nack_receiveLog} {m : Log} (h : Rel g m) : g.packets.length = m.size / 64 := by
  have h1 := h.packed.size
  have h2 := h.nbits
  omega

theorem Rel.word_range {g : S_nack_receiveLog} {m : Log} (h : Rel g m) (i : Nat) (hi : i < m.size / 64) :
    0 ≤ idx g.packets (i : Int) ∧ idx g.packets (i : Int) < 18446744073709551616 :=
  h.packed.word i (by rw [h.words]; exact hi)

theorem Rel.bit {g : S_nack_receiveLog} {m : Log} (h : Rel g m) (pos : Nat) (hp : pos < m.size) :
    (idx g.packets ((pos / 64 : Nat) : Int)).toNat.testBit (pos % 64) = m.bits.getD pos false :=
  h.packed.bit pos (by rw [h.nbits]; exact hp)

/-- no Go index panic: the word index of every slot is inside `packets`. -/
theorem Rel.index_lt {g : S_nack_receiveLog} {m : Log} (h : Rel g m) (q : Nat) :
    (q % m.size) / 64 < g.packets.length := by
  have := Nat.mod_lt q h.pos
  have := validSize_bounds _ h.valid
  rw [h.words]; omega

theorem Rel.of_words {g : S_nack_receiveLog} {m : Log} (hsize : g.size = (m.size : Int))
    (hv : validSize m.size = true) (hend : g.end_ = (m.end_ : Int)) (hlc : g.lastConsecutive = (m.lc : Int))
    (hst : g.started = m.started) (he : m.end_ < 65536) (hl : m.lc < 65536) (hb : m.bits.size = m.size)
    (hlen : g.packets.length = m.size / 64)
    (hw : ∀ i : Nat, i < m.size / 64 → 0 ≤ idx g.packets (i : Int) ∧ idx g.packets (i : Int) < 18446744073709551616)
    (hbit : ∀ pos : Nat, pos < m.size →
      (idx g.packets ((pos / 64 : Nat) : Int)).toNat.testBit (pos % 64) = m.bits.getD pos false) :
    Rel g m := by
  have := validSize_bounds _ hv
  refine ⟨hsize, hv, hend, hlc, hst, he, hl, hb, ?_, ?_, ?_⟩
  · rw [hb, hlen]; omega
  · intro i hi; exact hw i (by rw [← hlen]; exact hi)
  · intro p hp; exact hbit p (by rw [← hb]; exact hp)

theorem Rel.slot {g : S_nack_receiveLog} {m : Log} (h : Rel g m) (q : Nat) :
    (q : Int) % g.size = ((q % m.size : Nat) : Int) := by
  rw [h.size]; exact (Int.natCast_emod q m.size).symm

theorem Rel.slot_lt {g : S_nack_receiveLog} {m : Log} (h : Rel g m) (q : Nat) : q % m.size < m.bits.size := by
  rw [h.nbits]; exact Nat.mod_lt _ h.pos

/-- the state `newReceiveLog(size)` returns for an accepted size (`&receiveLog{packets: make([]uint64,
size/64), size: size}`; the function itself is not translated: it builds an error value with `fmt`). -/
def newGo (size : Nat) : S_nack_receiveLog := { packets := mkSlice ((size : Int) / 64), size := (size : Int) }

/-- ★ constructor: for every size `newReceiveLog` accepts (64, 128, …, 32768) the Go state it builds
(all-zero words) represents the model's `new size` (`Array.replicate size false`). -/
theorem new_rel (size : Nat) (hv : validSize size = true) : Rel (newGo size) (ReceiveLog.new size) := by
  have hb := validSize_bounds size hv
  have hp := Packed.zero (size / 64)
  rw [← natCast_div64, (by omega : 64 * (size / 64) = size)] at hp
  exact ⟨rfl, hv, rfl, rfl, rfl, Nat.zero_lt_succ _, Nat.zero_lt_succ _, Array.size_replicate, hp⟩

example : Rel (newGo 512) (ReceiveLog.new 512) := new_rel 512 (by decide)

theorem Rel.withBits {g : S_nack_receiveLog} {m : Log} (h : Rel g m) {ws : List Int} {bits : Array Bool}
    (hp : Packed ws bits) (hb : bits.size = m.size) : Rel { g with packets := ws } { m with bits := bits } :=
  ⟨h.size, h.valid, h.end_, h.lc, h.started, h.endLt, h.lcLt, hb, hp⟩

/-- ★ `setReceived(seq)` is the model's `setBit · seq true` and preserves the relation (every `seq`). -/
theorem setReceived_src_eq_model {g : S_nack_receiveLog} {m : Log} (h : Rel g m) (q : Nat) :
    Rel (nack_receiveLog_setReceived g (q : Int)) (setBit m q true) := by
  have hp := h.packed.setBit (q % m.size) (h.slot_lt q)
  rw [← h.slot q] at hp
  exact h.withBits hp (by rw [Array.size_setIfInBounds, h.nbits])

/-- ★ `delReceived(seq)` is the model's `setBit · seq false` and preserves the relation (every `seq`). -/
theorem delReceived_src_eq_model {g : S_nack_receiveLog} {m : Log} (h : Rel g m) (q : Nat) :
    Rel (nack_receiveLog_delReceived g (q : Int)) (setBit m q false) := by
  have hp := h.packed.clearBit (q % m.size) (h.slot_lt q)
  rw [← h.slot q] at hp
  exact h.withBits hp (by rw [Array.size_setIfInBounds, h.nbits])

/-- ★ `getReceived(seq)` is the model's `getBit` (every `seq`). -/
theorem getReceived_src_eq_model {g : S_nack_receiveLog} {m : Log} (h : Rel g m) (q : Nat) :
    nack_receiveLog_getReceived g (q : Int) = getBit m q := by
  have hp := h.packed.getBit (q % m.size) (h.slot_lt q)
  rw [← h.slot q] at hp
  exact hp

/-- the scan loop of `fixLastConsecutive`, started `n` steps before `end+1`, stops where the model's
`fixScan` stops; `n+1` units of fuel suffice.  (Here and in the other loops condition and body are variables
with their equations as hypotheses, discharged by `rfl` at the call, whatever form the translator gives them.) -/
theorem fix_loop {g : S_nack_receiveLog} {m : Log} (h : Rel g m) (cond : Int → Bool) (body : Int → Int)
    (hc : ∀ i, cond i = (decide (i ≠ u16 (g.end_ + 1)) && nack_receiveLog_getReceived g i))
    (hb : ∀ i, body i = u16 (i + 1)) :
    ∀ (n i : Nat), i < 65536 → sub16 (add16 m.end_ 1) i = n → ∀ fuel, n < fuel →
      loop fuel cond body (i : Int) = some ((fixScan m i n : Nat) : Int) := by
  have hc' : ∀ i : Nat, cond (i : Int) = (decide (i ≠ add16 m.end_ 1) && getBit m i) := by
    intro i; rw [hc, h.end_, u16_add_one, getReceived_src_eq_model h]; simp only [ne_eq, Int.natCast_inj]
  intro n
  induction n with
  | zero =>
    intro i hi hd fuel hf
    have hi' := (eq_of_sub16_eq_zero (add16_lt _ _) hi hd).symm
    exact loop_stop (by rw [hc', hi']; simp) hf
  | succ n ih =>
    intro i hi hd fuel hf
    obtain ⟨hne, hd'⟩ := sub16_succ hi hd
    have hcond : cond (i : Int) = getBit m i := by rw [hc']; simp [hne]
    simp only [fixScan]
    cases hg : getBit m i
    · exact loop_stop (by rw [hcond, hg]) hf
    · rw [loop_step (by rw [hcond, hg]) hf, hb, u16_add_one]
      exact ih (add16 i 1) (add16_lt _ _) hd' _ (Nat.lt_sub_of_add_lt hf)

/-- ★ `fixLastConsecutive()` terminates (fuel 65536 suffices: the scan makes at most 65535 steps), its
result represents the model's `fixLastConsecutive`, for every related pair. -/
theorem fixLastConsecutive_src_eq_model {g : S_nack_receiveLog} {m : Log} (h : Rel g m) (fuel : Nat)
    (hf : 65536 ≤ fuel) :
    ∃ g', nack_receiveLog_fixLastConsecutive fuel g = some g' ∧ Rel g' (fixLastConsecutive m) := by
  have hl := fix_loop h _ _ (fun _ => rfl) (fun _ => rfl) (sub16 m.end_ m.lc) (add16 m.lc 1) (add16_lt _ _)
    (sub16_add16_one _ _ h.lcLt) fuel (Nat.lt_of_lt_of_le (sub16_lt _ _) hf)
  simp only [nack_receiveLog_fixLastConsecutive]
  rw [h.lc, u16_add_one, hl]
  refine ⟨_, rfl, ?_⟩
  simp only [fixLastConsecutive]
  exact ⟨h.size, h.valid, h.end_, u16_sub _ 1, h.started, h.endLt, sub16_lt _ _, h.nbits, h.packed⟩

/-- the loop `for i := end+1; i != seq; i++ { delReceived(i) }` started `n` steps before `seq` is the model's
`clearFrom … n`; `n+1` units of fuel suffice. -/
theorem clear_loop (seq : Nat) (hs : seq < 65536) (cond : Int × S_nack_receiveLog → Bool)
    (body : Int × S_nack_receiveLog → Int × S_nack_receiveLog)
    (hc : ∀ x, cond x = decide (x.1 ≠ (seq : Int)))
    (hb : ∀ x, body x = (u16 (x.1 + 1), nack_receiveLog_delReceived x.2 x.1)) :
    ∀ (n i : Nat) {g : S_nack_receiveLog} {m : Log}, Rel g m → i < 65536 → sub16 seq i = n → ∀ fuel, n < fuel →
      ∃ g', loop fuel cond body ((i : Int), g) = some ((seq : Int), g') ∧ Rel g' (clearFrom m i n) := by
  intro n
  induction n with
  | zero =>
    intro i g m h hi hd fuel hf
    have hi' := (eq_of_sub16_eq_zero hs hi hd).symm
    subst hi'
    exact ⟨g, loop_stop (by rw [hc]; simp) hf, h⟩
  | succ n ih =>
    intro i g m h hi hd fuel hf
    obtain ⟨hne, hd'⟩ := sub16_succ hi hd
    rw [loop_step (by rw [hc]; exact decide_eq_true (mt Int.natCast_inj.mp hne)) hf, hb, u16_add_one]
    exact ih (add16 i 1) (delReceived_src_eq_model h i) (add16_lt _ _) hd' _ (Nat.lt_sub_of_add_lt hf)

/-- a related Go state is determined by the model state up to `packets`. -/
theorem Rel.exists_mk {g : S_nack_receiveLog} {m : Log} (h : Rel g m) :
    ∃ pk, g = ⟨pk, (m.size : Int), (m.end_ : Int), m.started, (m.lc : Int)⟩ := by
  obtain ⟨pk, sz, en, st, lcg⟩ := g
  exact ⟨pk, by rw [← h.size, ← h.end_, ← h.lc, ← h.started]⟩

theorem Rel.scalars {g : S_nack_receiveLog} {m : Log} (h : Rel g m) (e l : Nat) (st : Bool)
    (he : e < 65536) (hl : l < 65536) :
    Rel { g with end_ := (e : Int), started := st, lastConsecutive := (l : Int) }
      { m with end_ := e, lc := l, started := st } :=
  ⟨h.size, h.valid, rfl, rfl, rfl, he, hl, h.nbits, h.packed⟩

theorem Rel.fields {pk : List Int} {sz : Nat} {mb : Array Bool} {e l : Nat} {st : Bool}
    (h : Rel ⟨pk, (sz : Int), (e : Int), st, (l : Int)⟩ ⟨sz, mb, e, l, st⟩) (e' l' : Nat) (st' : Bool)
    (he : e' < 65536) (hl : l' < 65536) :
    Rel ⟨pk, (sz : Int), (e' : Int), st', (l' : Int)⟩ ⟨sz, mb, e', l', st'⟩ :=
  h.scalars e' l' st' he hl

/-- `add` as one cascade, with the cursor update `fwdCursor` named (`rfl`: stated so that no projection is reduced). -/
theorem add_eq (l : Log) (q : Nat) : ReceiveLog.add l q =
    if !l.started then { (setBit l q true) with end_ := q, started := true, lc := q }
    else if sub16 q l.end_ = 0 then l
    else if sub16 q l.end_ < 32768 then
      setBit (fwdCursor { clearFrom l (add16 l.end_ 1) (sub16 q l.end_ - 1) with end_ := q } q) q true
    else if sub16 l.end_ q ≥ l.size then l
    else if add16 l.lc 1 = q then setBit (fixLastConsecutive { l with lc := q }) q true
    else setBit l q true := rfl

theorem add_cases {P : Log → Prop} (l : Log) (q : Nat)
    (first : l.started = false → P { setBit l q true with end_ := q, started := true, lc := q })
    (dup : l.started = true → sub16 q l.end_ = 0 → P l)
    (forward : l.started = true → sub16 q l.end_ ≠ 0 → sub16 q l.end_ < 32768 →
      ∀ l1, l1 = clearFrom l (add16 l.end_ 1) (sub16 q l.end_ - 1) →
        P (setBit (fwdCursor { l1 with end_ := q } q) q true))
    (old : l.started = true → sub16 q l.end_ ≠ 0 → ¬ sub16 q l.end_ < 32768 → sub16 l.end_ q ≥ l.size → P l)
    (gap : l.started = true → sub16 q l.end_ ≠ 0 → ¬ sub16 q l.end_ < 32768 → ¬ sub16 l.end_ q ≥ l.size →
      add16 l.lc 1 = q → P (setBit (fixLastConsecutive { l with lc := q }) q true))
    (late : l.started = true → sub16 q l.end_ ≠ 0 → ¬ sub16 q l.end_ < 32768 → ¬ sub16 l.end_ q ≥ l.size →
      add16 l.lc 1 ≠ q → P (setBit l q true)) :
    P (ReceiveLog.add l q) := by
  rw [add_eq]
  rcases Bool.eq_false_or_eq_true l.started with hs | hs
  · rw [if_neg (by rw [hs]; decide)]
    by_cases h0 : sub16 q l.end_ = 0
    · rw [if_pos h0]; exact dup hs h0
    · rw [if_neg h0]
      by_cases h1 : sub16 q l.end_ < 32768
      · rw [if_pos h1]; exact forward hs h0 h1 _ rfl
      · rw [if_neg h1]
        by_cases h2 : sub16 l.end_ q ≥ l.size
        · rw [if_pos h2]; exact old hs h0 h1 h2
        · rw [if_neg h2]
          by_cases h3 : add16 l.lc 1 = q
          · rw [if_pos h3]; exact gap hs h0 h1 h2 h3
          · rw [if_neg h3]; exact late hs h0 h1 h2 h3
  · rw [if_pos (by rw [hs]; rfl)]; exact first hs

/-- ★ `add(seq)` terminates (fuel 65536 suffices: the clearing loop makes fewer than 32768 steps, the
scan of `fixLastConsecutive` at most 65535) and its result represents the model's `add`, for every related
pair and every `uint16` sequence number. -/
theorem add_src_eq_model {g : S_nack_receiveLog} {m : Log} (h : Rel g m) (q : Nat) (hq : q < 65536)
    (fuel : Nat) (hf : 65536 ≤ fuel) :
    ∃ g', nack_receiveLog_add fuel g (q : Int) = some g' ∧ Rel g' (ReceiveLog.add m q) := by
  obtain ⟨pk, rfl⟩ := h.exists_mk
  have hel := h.endLt
  -- the tests of the translation (on `Int`, under `decide`) become the model's tests on `Nat`
  simp only [nack_receiveLog_add, u16_sub, u16_add_one, half_eq, decide_eq_true_eq, Int.natCast_eq_zero,
    Int.natCast_inj, ge_iff_le, gt_iff_lt, Int.ofNat_le, Int.ofNat_lt]
  refine add_cases (P := fun r => ∃ g', _ = some g' ∧ Rel g' r) m q ?_ ?_ ?_ ?_ ?_ ?_
  · intro hs
    rw [if_pos (by rw [hs]; rfl)]
    exact ⟨_, rfl, (setReceived_src_eq_model h q).scalars q q true hq hq⟩
  · intro hs h0
    rw [if_neg (by rw [hs]; decide), if_pos h0]
    exact ⟨_, rfl, h⟩
  · intro hs h0 h1 m1 hm1
    rw [if_neg (by rw [hs]; decide), if_neg h0, if_pos h1]
    obtain ⟨g1, e1, r1⟩ := clear_loop q hq _ _ (fun _ => rfl) (fun _ => rfl) (sub16 q m.end_ - 1) (add16 m.end_ 1) h (add16_lt _ _)
      (sub16_succ hel (by omega : sub16 q m.end_ = sub16 q m.end_ - 1 + 1)).2 fuel (by omega)
    rw [e1, ← hm1] at *
    obtain ⟨pk1, rfl⟩ := r1.exists_mk
    simp only [u16_sub, u16_add_one, Int.natCast_inj, Int.ofNat_lt, fwdCursor]
    by_cases c1 : add16 m1.lc 1 = q
    · simp only [if_pos c1]
      exact ⟨_, rfl, setReceived_src_eq_model (r1.scalars q q m1.started hq hq) q⟩
    · simp only [if_neg c1]
      by_cases c2 : m1.size < sub16 q m1.lc
      · simp only [if_pos c2]
        obtain ⟨g2, e2, r2⟩ := fixLastConsecutive_src_eq_model
          (r1.scalars q (sub16 q m1.size) m1.started hq (sub16_lt _ _)) fuel hf
        simp only at e2
        rw [e2]
        exact ⟨_, rfl, setReceived_src_eq_model r2 q⟩
      · simp only [if_neg c2]
        exact ⟨_, rfl, setReceived_src_eq_model (r1.scalars q m1.lc m1.started hq r1.lcLt) q⟩
  · intro hs h0 h1 h2
    rw [if_neg (by rw [hs]; decide), if_neg h0, if_neg h1, if_pos h2]
    exact ⟨_, rfl, h⟩
  · intro hs h0 h1 h2 h3
    rw [if_neg (by rw [hs]; decide), if_neg h0, if_neg h1, if_neg h2, if_pos h3]
    obtain ⟨g1, e1, r1⟩ := fixLastConsecutive_src_eq_model (h.scalars m.end_ q m.started hel hq) fuel hf
    rw [e1]
    exact ⟨_, rfl, setReceived_src_eq_model r1 q⟩
  · intro hs h0 h1 h2 h3
    rw [if_neg (by rw [hs]; decide), if_neg h0, if_neg h1, if_neg h2, if_neg h3]
    exact ⟨_, rfl, setReceived_src_eq_model h q⟩

/-- the model-side `get` (Model/ReceiveLog.lean has none): window test, then `getBit`. -/
def getM (l : Log) (q : Nat) : Bool :=
  if sub16 l.end_ q ≥ 32768 then false
  else if sub16 l.end_ q ≥ l.size then false
  else getBit l q

/-- ★ `get(seq)` is the model-side window test followed by `getBit`, for every related pair and every
`uint16` sequence number. -/
theorem get_src_eq_model {g : S_nack_receiveLog} {m : Log} (h : Rel g m) (q : Nat) :
    nack_receiveLog_get g (q : Int) = getM m q := by
  -- once the tests on `Int` are read on `Nat` the two sides are the same cascade
  simp only [nack_receiveLog_get, getM, h.end_, h.size, u16_sub, getReceived_src_eq_model h, half_eq,
    decide_eq_true_eq, ge_iff_le, Int.ofNat_le]

/-- the model's list of missing numbers among `i, i+1, …` (`n` of them), as a recursion. -/
def scanM (m : Log) (i : Nat) : Nat → List Nat
  | 0 => []
  | n + 1 => if getBit m i then scanM m (add16 i 1) n else i :: scanM m (add16 i 1) n

theorem scanM_eq (m : Log) : ∀ (n i : Nat), i < 65536 →
    ((List.range n).map (fun j => add16 i j)).filter (fun x => !getBit m x) = scanM m i n := by
  intro n
  induction n with
  | zero => intro i _; rfl
  | succ n ih =>
    intro i hi
    rw [List.range_succ_eq_map, List.map_cons, List.map_map, List.filter_cons, add16_zero hi]
    have : ((fun j => add16 i j) ∘ Nat.succ) = (fun j => add16 (add16 i 1) j) := by
      funext j; exact (add16_succ i j).symm
    rw [this, ih (add16 i 1) (add16_lt _ _)]
    simp only [scanM]
    cases getBit m i <;> simp

theorem scanM_length (m : Log) : ∀ (n i : Nat), (scanM m i n).length ≤ n := by
  intro n
  induction n with
  | zero => intro i; simp [scanM]
  | succ n ih =>
    intro i
    simp only [scanM]
    have := ih (add16 i 1)
    split <;> simp <;> omega

/-- the loop `for i := lc+1; i != until+1; i++ {…}` started `n` steps before its stop value keeps the first
`c` entries of the scratch slice and appends the model's missing numbers after them — provided they fit (a Go
write past the end would panic); `n+1` units of fuel suffice.  `c + n < 2^62` keeps the `int` index from wrapping
(`s64_add_one`); the caller has `c = 0`, `n < 65536`. -/
theorem miss_loop {g : S_nack_receiveLog} {m : Log} (h : Rel g m) (stop : Nat) (hs : stop < 65536)
    (cond : Int × Int × List Int → Bool) (body : Int × Int × List Int → Int × Int × List Int)
    (hc : ∀ x, cond x = decide (x.2.1 ≠ (stop : Int)))
    (hb : ∀ x, body x = if !nack_receiveLog_getReceived g x.2.1 then
      (s64 (x.1 + 1), u16 (x.2.1 + 1), set x.2.2 x.1 x.2.1) else (x.1, u16 (x.2.1 + 1), x.2.2)) :
    ∀ (n i c : Nat) (buf : List Int), i < 65536 → sub16 stop i = n →
      c + (scanM m i n).length ≤ buf.length → c + n < 2 ^ 62 → ∀ fuel, n < fuel →
      ∃ c' i' buf', loop fuel cond body ((c : Int), (i : Int), buf) = some (c', i', buf') ∧
        take buf' c' = take buf (c : Int) ++ (scanM m i n).map (fun (x : Nat) => (x : Int)) := by
  intro n
  induction n with
  | zero =>
    intro i c buf hi hd _ _ fuel hf
    have hi' := (eq_of_sub16_eq_zero hs hi hd).symm
    exact ⟨_, _, _, loop_stop (by rw [hc, hi']; simp) hf, by simp [scanM]⟩
  | succ n ih =>
    intro i c buf hi hd hlen hcn fuel hf
    obtain ⟨hne, hd'⟩ := sub16_succ hi hd
    rw [loop_step (by rw [hc]; exact decide_eq_true (mt Int.natCast_inj.mp hne)) hf, hb, u16_add_one,
      getReceived_src_eq_model h]
    simp only [scanM] at hlen ⊢
    cases hg : getBit m i
    · rw [hg] at hlen
      simp only [Bool.not_false, if_true, Bool.false_eq_true, if_false, List.length_cons,
        s64_add_one c (by omega)] at hlen ⊢
      obtain ⟨c', i', buf', el, et⟩ := ih (add16 i 1) (c + 1) (set buf c i) (add16_lt _ _) hd'
        (by rw [len_set]; omega) (by omega) (fuel - 1) (Nat.lt_sub_of_add_lt hf)
      refine ⟨c', i', buf', el, ?_⟩
      rw [et, take_set_succ _ _ _ (by omega)]
      simp
    · rw [hg] at hlen
      simp only [Bool.not_true, Bool.false_eq_true, if_false, if_true] at hlen ⊢
      exact ih (add16 i 1) c buf (add16_lt _ _) hd' hlen (Nat.lt_of_succ_lt hcn) _ (Nat.lt_sub_of_add_lt hf)

/-- ★ `missingSeqNumbers(skipLastN, scratch)` terminates (fuel 65536 suffices) and returns exactly the
model's `missing` list, for every related pair and every `uint16` `skipLastN`.  The only requirement on
the scratch slice is that the missing numbers fit into it: `len(scratch) ≥ |missing|` (in Go the write
`scratch[c] = i` with `c = len(scratch)` panics); its contents are irrelevant. -/
theorem missingSeqNumbers_src_eq_model {g : S_nack_receiveLog} {m : Log} (h : Rel g m) (skip : Nat)
    (buf : List Int) (hbuf : (missing m skip).length ≤ buf.length)
    (fuel : Nat) (hf : 65536 ≤ fuel) :
    nack_receiveLog_missingSeqNumbers fuel g (skip : Int) buf =
      some ((missing m skip).map (fun (x : Nat) => (x : Int))) := by
  have hll := h.lcLt
  simp only [nack_receiveLog_missingSeqNumbers, missing, h.end_, h.lc, u16_sub, u16_add_one, decide_eq_true_eq,
    gt_iff_lt, Int.ofNat_lt] at hbuf ⊢
  by_cases c1 : sub16 m.end_ m.lc < skip
  · simp only [if_pos c1, List.map_nil]
  · simp only [if_neg c1] at hbuf ⊢
    rw [scanM_eq m _ _ (add16_lt _ _)] at hbuf ⊢
    -- the step count becomes a variable (see the note at `sub16`)
    obtain ⟨n, hn, hlt⟩ : ∃ n, sub16 (sub16 m.end_ skip) m.lc = n ∧ n < 65536 := ⟨_, rfl, sub16_lt _ _⟩
    rw [hn] at hbuf ⊢
    obtain ⟨c', i', buf', e, ht⟩ := miss_loop h _ (add16_lt _ _) _ _ (fun _ => rfl) (fun _ => rfl)
      n (add16 m.lc 1) 0 buf (add16_lt _ _) ((sub16_add16_one _ _ hll).trans hn)
      (by omega) (by omega) fuel (by omega)
    rw [Int.natCast_zero] at e ht
    rw [e]
    simp only []
    rw [ht]
    simp [take]

/-! ### the scratch slice of the Go caller

`GeneratorInterceptor.loop` passes `make([]uint16, n.size)`.  That is long enough because the cursor is
never more than `size` behind `end` — an invariant of the model that `new` establishes and every mutator
preserves. -/

/-- window invariant: `lastConsecutive` is at most `size` behind `end`. -/
def Win (m : Log) : Prop := sub16 m.end_ m.lc ≤ m.size

theorem fixScan_range (l : Log) : ∀ (n i : Nat), i < 65536 → ∃ k, k ≤ n ∧ fixScan l i n = add16 i k := by
  intro n
  induction n with
  | zero => intro i hi; exact ⟨0, Nat.le_refl _, (add16_zero hi).symm⟩
  | succ n ih =>
    intro i hi
    simp only [fixScan]
    split
    · obtain ⟨k, hk, e⟩ := ih (add16 i 1) (add16_lt _ _)
      exact ⟨k + 1, Nat.succ_le_succ hk, by rw [e, add16_succ]⟩
    · exact ⟨0, Nat.zero_le _, (add16_zero hi).symm⟩

theorem fixLastConsecutive_eq (l : Log) : fixLastConsecutive l =
    { l with lc := sub16 (fixScan l (add16 l.lc 1) (sub16 l.end_ l.lc)) 1 } := rfl

/-- `fixLastConsecutive` moves the cursor towards `end`, never past it. -/
theorem fix_dist (l : Log) :
    (fixLastConsecutive l).size = l.size ∧ (fixLastConsecutive l).end_ = l.end_ ∧
    sub16 l.end_ (fixLastConsecutive l).lc ≤ sub16 l.end_ l.lc := by
  obtain ⟨k, hk, e⟩ := fixScan_range l (sub16 l.end_ l.lc) (add16 l.lc 1) (add16_lt _ _)
  rw [fixLastConsecutive_eq]
  refine ⟨rfl, rfl, ?_⟩
  simp only []
  rw [e, sub16_add16_succ]
  exact sub16_add16_le _ _ _ hk

/-- ★ the constructor establishes the window invariant. -/
theorem win_new (size : Nat) : Win (ReceiveLog.new size) := by
  show sub16 0 0 ≤ size
  rw [sub16_self 0 (by decide)]; exact Nat.zero_le _

theorem Win.setBit {l : Log} (h : Win l) (q : Nat) (v : Bool) : Win (setBit l q v) := h

theorem win_fix (l : Log) (hw : Win l) : Win (fixLastConsecutive l) := by
  obtain ⟨h1, h2, h3⟩ := fix_dist l
  unfold Win at *
  rw [h1, h2]
  exact Nat.le_trans h3 hw

/-- ★ `fixLastConsecutive` preserves the window invariant (on related pairs). -/
theorem win_fixLastConsecutive {g : S_nack_receiveLog} {m : Log} (h : Rel g m) (hw : Win m) :
    Win (fixLastConsecutive m) := win_fix m hw

/-- re-anchoring establishes the window invariant whatever the cursor was. -/
theorem win_fwdCursor (l : Log) (q : Nat) (hq : q < 65536) (he : l.end_ = q) : Win (fwdCursor l q) := by
  unfold fwdCursor
  split
  · show sub16 l.end_ q ≤ l.size
    rw [he, sub16_self q hq]; exact Nat.zero_le _
  · split
    · refine win_fix _ ?_
      show sub16 l.end_ (sub16 q l.size) ≤ l.size
      rw [he]; exact sub16_sub16_le _ _
    · next h => rw [← he] at h; exact Nat.le_of_not_gt h

theorem Win.add {m : Log} (hw : Win m) (q : Nat) (hq : q < 65536) :
    Win (ReceiveLog.add m q) := by
  refine add_cases (P := Win) m q ?_ ?_ ?_ ?_ ?_ ?_
  · intro _
    show sub16 q q ≤ m.size
    rw [sub16_self q hq]; exact Nat.zero_le _
  · intro _ _; exact hw
  · intro _ _ _ l1 _
    exact (win_fwdCursor { l1 with end_ := q } q hq rfl).setBit q true
  · intro _ _ _ _; exact hw
  · intro _ _ _ h2 _
    exact (win_fix { m with lc := q } (Nat.le_of_lt (Nat.lt_of_not_ge h2))).setBit q true
  · intro _ _ _ _ _; exact hw.setBit q true

/-- ★ `add` preserves the window invariant (on related pairs, every `uint16` sequence number). -/
theorem win_add {g : S_nack_receiveLog} {m : Log} (h : Rel g m) (hw : Win m) (q : Nat) (hq : q < 65536) :
    Win (ReceiveLog.add m q) := hw.add q hq

theorem missing_length_le (m : Log) (skip : Nat) :
    (missing m skip).length ≤ sub16 m.end_ m.lc := by
  unfold missing
  split
  · exact Nat.zero_le _
  · refine Nat.le_trans (List.length_filter_le _ _) ?_
    rw [List.length_map, List.length_range]
    exact sub16_sub16_right_le _ _ _ (Nat.le_of_not_gt ‹_›)

/-- ★ `missingSeqNumbers` with the scratch slice of the Go caller: for related pairs that satisfy the
window invariant any scratch slice of length ≥ `size` is long enough, and the result is the model's. -/
theorem missingSeqNumbers_src_eq_model_of_window {g : S_nack_receiveLog} {m : Log} (h : Rel g m) (hw : Win m)
    (skip : Nat) (buf : List Int) (hbuf : m.size ≤ buf.length) (fuel : Nat) (hf : 65536 ≤ fuel) :
    nack_receiveLog_missingSeqNumbers fuel g (skip : Int) buf =
      some ((missing m skip).map (fun (x : Nat) => (x : Int))) := by
  have := missing_length_le m skip
  unfold Win at hw
  exact missingSeqNumbers_src_eq_model h skip buf (by omega) fuel hf

/-! ### the hypotheses are satisfiable: a concrete related pair

size 64, packets 0 and 2 received (word 0 = 0b101), end = 2, lastConsecutive = 0. -/

def gEx : S_nack_receiveLog := { packets := [5], size := 64, end_ := 2, started := true, lastConsecutive := 0 }
def mEx : Log :=
  { size := 64, bits := (Array.replicate 64 false).set! 0 true |>.set! 2 true, end_ := 2, lc := 0, started := true }

theorem rel_ex : Rel gEx mEx :=
  (setReceived_src_eq_model (setReceived_src_eq_model (new_rel 64 (by decide)) 0) 2).scalars 2 0 true
    (by decide) (by decide)

theorem win_ex : Win mEx := by unfold Win; decide

example : Rel (nack_receiveLog_setReceived gEx (7 : Nat)) (setBit mEx 7 true) := setReceived_src_eq_model rel_ex 7
example : Rel (nack_receiveLog_delReceived gEx (2 : Nat)) (setBit mEx 2 false) := delReceived_src_eq_model rel_ex 2
example : nack_receiveLog_getReceived gEx (66 : Nat) = getBit mEx 66 := getReceived_src_eq_model rel_ex 66
example : ∃ g', nack_receiveLog_fixLastConsecutive 65536 gEx = some g' ∧ Rel g' (fixLastConsecutive mEx) :=
  fixLastConsecutive_src_eq_model rel_ex 65536 (Nat.le_refl _)
example : ∃ g', nack_receiveLog_add 65536 gEx (70 : Nat) = some g' ∧ Rel g' (ReceiveLog.add mEx 70) :=
  add_src_eq_model rel_ex 70 (by decide) 65536 (Nat.le_refl _)
example : nack_receiveLog_get gEx (1 : Nat) = getM mEx 1 := get_src_eq_model rel_ex 1
example : nack_receiveLog_missingSeqNumbers 65536 gEx (0 : Nat) [9, 9, 9] =
    some ((missing mEx 0).map (fun (x : Nat) => (x : Int))) :=
  missingSeqNumbers_src_eq_model rel_ex 0 [9, 9, 9] (by decide) 65536 (Nat.le_refl _)
example : nack_receiveLog_missingSeqNumbers 65536 gEx (1 : Nat) (mkSlice 64) =
    some ((missing mEx 1).map (fun (x : Nat) => (x : Int))) :=
  missingSeqNumbers_src_eq_model_of_window rel_ex win_ex 1 (mkSlice 64) (by decide) 65536 (Nat.le_refl _)
example : Win (fixLastConsecutive mEx) := win_fixLastConsecutive rel_ex win_ex
example : Win (ReceiveLog.add mEx 70) := win_add rel_ex win_ex 70 (by decide)
example : Win (ReceiveLog.new 512) := win_new 512
/-- the step theorems chain over operation sequences, starting from the constructor. -/
example : ∃ g, Rel g (ReceiveLog.add (ReceiveLog.add (ReceiveLog.new 512) 65535) 3) ∧
    Win (ReceiveLog.add (ReceiveLog.add (ReceiveLog.new 512) 65535) 3) := by
  have r0 := new_rel 512 (by decide)
  obtain ⟨g1, _, r1⟩ := add_src_eq_model r0 65535 (by decide) 65536 (Nat.le_refl _)
  obtain ⟨g2, _, r2⟩ := add_src_eq_model r1 3 (by decide) 65536 (Nat.le_refl _)
  exact ⟨g2, r2, win_add r1 (win_add r0 (win_new 512) 65535 (by decide)) 3 (by decide)⟩

end Interceptor.Facts.FnNack
