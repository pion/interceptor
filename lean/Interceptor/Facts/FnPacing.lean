/-
`burst(rate, interval)` as written in pkg/pacing/interceptor.go (generated translation Gen/Fn_pacing.lean,
regenerated from /repo on every run) computes the model's `Pacing.burstOf` (Model/Pacing.lean) — for every
rate `0 ≤ rate < 2^53` (bit/s; `float64(rate)` is exact there) and every interval that is 0 or at least
1 ms (for `0 < interval < 1 ms` the Go code divides by `interval.Milliseconds() = 0` and panics).

The float part: `int(float64(n) / float64(k))` is the integer quotient `n / k` for ALL integers
`0 ≤ n < 2^53`, `1 ≤ k < 2^53` (`toInt64_div_exact`): the exact quotient is at least `1/k` below the next
integer and, being below `2^53/k`, is rounded by less than `1/k`.
-/
import Interceptor.Gen.Fn_pacing
import Interceptor.Model.Pacing
import Interceptor.Proofs.F64Round
namespace Interceptor.Facts.FnPacing
open Interceptor.Gen.Fn Interceptor.GoSem Interceptor.F64

theorem binade (k : Nat) (hk : 1 ≤ k) : ∃ j : Nat, 2 ^ j ≤ k ∧ k < 2 ^ (j + 1) :=
  ⟨k.log2, Nat.log2_self_le (by omega), Nat.lt_log2_self⟩

/-- ★ `int(float64(n) / float64(k))` is the integer quotient, for all integers `0 ≤ n < 2^53`,
`1 ≤ k < 2^53`. -/
theorem toInt64_div_exact (n k : Int) (hn0 : 0 ≤ n) (hn : n < 9007199254740992) (hk1 : 1 ≤ k)
    (hk : k < 9007199254740992) :
    F64.toInt64 (F64.div (F64.ofInt n) (F64.ofInt k)) = n / k := by
  rw [ofInt_exact n hn0 hn, ofInt_exact k (by omega) hk]
  unfold F64.div
  obtain ⟨h1, h2⟩ := rne_div_bracket n k hn0 hn hk1 hk
  have hm1 : n / k ≤ n := Int.ediv_le_self _ hn0
  exact toInt64_of_bracket _ _ (Int.ediv_nonneg hn0 (by omega)) (by omega) h1 h2

/-- division by the float zero in the translation (`F64.div` leaves it to the caller; Go yields ±Inf/NaN,
whose conversion to int is the most negative int64 on amd64): the conversion is below the `max` bound either
way. -/
theorem toInt64_div_zero (x : ℚ) : F64.toInt64 (F64.div x (F64.ofInt 0)) = 0 := by
  have : F64.ofInt 0 = 0 := by unfold F64.ofInt; simp [rne_zero]
  rw [this]
  unfold F64.div
  rw [div_zero, rne_zero]
  have hf : Rat.floor 0 = 0 := by decide
  unfold F64.toInt64 F64.trunc
  simp [hf]

/-- the expression both branches of the source compute, on the effective interval `ms` (in ms). -/
theorem burst_core (rate ms : Int) (hr0 : 0 ≤ rate) (hr1 : rate < 9007199254740992) (hms : 1 ≤ ms) :
    max 12000 (F64.toInt64 (F64.div (F64.ofInt rate) (F64.ofInt (s64 (quo (quo 1000000000 1000000) ms)))))
      = ((max 12000 (rate.toNat / (1000 / ms.toNat)) : Nat) : Int) := by
  have e1 : quo 1000000000 1000000 = 1000 := by decide
  have e2 : quo 1000 ms = 1000 / ms := quo_nonneg _ _ (by decide)
  have hk0 : 0 ≤ 1000 / ms := Int.ediv_nonneg (by decide) (by omega)
  have hk1 : 1000 / ms ≤ 1000 := Int.ediv_le_self _ (by decide)
  have e3 : s64 (1000 / ms) = 1000 / ms := by unfold s64; omega
  have hcast : ((rate.toNat / (1000 / ms.toNat) : Nat) : Int) = rate / (1000 / ms) := by
    rw [Int.natCast_ediv, Int.natCast_ediv, Int.toNat_of_nonneg hr0, Int.toNat_of_nonneg (by omega)]
    rfl
  rw [e1, e2, e3, Nat.cast_max, hcast]
  generalize 1000 / ms = k at hk0 hk1
  by_cases hz : k = 0
  · rw [hz, toInt64_div_zero, Int.ediv_zero]; rfl
  · rw [toInt64_div_exact rate k hr0 hr1 (by omega) (by omega)]; rfl

/-- ★ `burst` as written in the source equals the model's `burstOf` (rate in bit/s below 2^53, interval in
ns, zero or at least one millisecond; the model takes the interval in µs). -/
theorem burst_src_eq_model (rate interval : Int) (hr : 0 ≤ rate ∧ rate < 9007199254740992)
    (hi : interval = 0 ∨ 1000000 ≤ interval) :
    pacing_burst rate interval = (Pacing.burstOf rate.toNat (interval / 1000).toNat : Nat) := by
  obtain ⟨hr0, hr1⟩ := hr
  unfold pacing_burst Pacing.burstOf
  rcases hi with hi | hi
  · subst hi
    have q1 : quo 1000000 1000000 = 1 := by decide
    simp only [decide_true, if_true, q1]
    rw [burst_core rate 1 hr0 hr1 (by decide)]
    rfl
  · have hne : interval ≠ 0 := by omega
    have hq : quo interval 1000000 = interval / 1000000 := quo_nonneg _ _ (by omega)
    simp only [hne, decide_false, Bool.false_eq_true, if_false, hq]
    rw [burst_core rate (interval / 1000000) hr0 hr1 (by omega)]
    have hne2 : (interval / 1000).toNat ≠ 0 := by omega
    have hms : (interval / 1000).toNat / 1000 = (interval / 1000000).toNat := by omega
    simp only [hne2, if_false, hms]

/-! satisfiability of the hypotheses on concrete non-trivial values -/

example : pacing_burst 10000000 5000000 = (Pacing.burstOf 10000000 5000 : Nat) :=
  burst_src_eq_model 10000000 5000000 (by omega) (by omega)
example : (Pacing.burstOf 10000000 5000 : Nat) = 50000 := by decide
example : F64.toInt64 (F64.div (F64.ofInt 9007199254740991) (F64.ofInt 1000)) = 9007199254740 :=
  toInt64_div_exact _ _ (by omega) (by omega) (by omega) (by omega)

end Interceptor.Facts.FnPacing
