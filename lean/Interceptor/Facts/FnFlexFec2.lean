/-
More generated translations of pkg/flexfec (flexfec_coverage.go; Gen/Fn_flexfec.lean, regenerated from /repo
on every run): the methods `ProtectionCoverage.ExtractMask1/2/3/3_03`, which index the array
`packetMasks [110]util.BitArray` and apply `extractMask1/2/3/3_03` (Facts/FnFlexFec.lean), against the model's
`mask1/2/3 (Coverage.row c i)` (Model/FlexFec.lean; `fecPayload` uses exactly these expressions).

Abstraction relation `covRel`: the Go array and the model's `masks` have the same length and are row by row
related by `FnFlexFec.baRel`.  Invariant `covWf`: every row of the model is two uint64 words (needed by the
two mask-3 functions only: `(lo<<46)|(hi>>18)` is then below 2^64).  Both are established by the array of
zero bit arrays `NewCoverage` starts from and preserved by replacing a row with related / well-formed bit
arrays (what `resetCoverage` and the `SetBit` loop of `UpdateCoverage` do — those two functions themselves
are not in extract/fn.list); `covWf` holds for the model's `buildMasks`, `Coverage.update`, `newCoverage`.

The index: the theorems hold for every `fecPacketIndex ≥ 0`.  For an index ≥ 110 the Go code panics (array
index out of range); the translation's `idxG` and the model's `Coverage.row` (`getD … BitArray.empty`) agree
on the default there, the zero bit array.
-/
import Interceptor.Facts.FnFlexFec
namespace Interceptor.Facts.FnFlexFec2
open Interceptor.Gen.Fn Interceptor.GoSem Interceptor.FlexFec
open Interceptor.Facts.FnFlexFec

/-- abstraction relation: the Go coverage table represents the model's, row by row. -/
structure covRel (p : S_flexfec_ProtectionCoverage) (c : Coverage) : Prop where
  len : p.packetMasks.length = c.masks.length
  rows : ∀ i, i < c.masks.length → baRel (p.packetMasks.getD i default) (c.masks.getD i BitArray.empty)

/-- invariant: every row consists of two uint64 words. -/
def covWf (c : Coverage) : Prop := ∀ i, wf (c.masks.getD i BitArray.empty)

/-- the row the Go code reads is related to the model's row, for every non-negative index. -/
theorem row_rel (p : S_flexfec_ProtectionCoverage) (c : Coverage) (r : covRel p c) (i : Int) (hi : 0 ≤ i) :
    baRel (idxG p.packetMasks i) (c.row i.toNat) := by
  unfold idxG Coverage.row
  rw [if_neg (by omega)]
  by_cases h : i.toNat < c.masks.length
  · exact r.rows _ h
  · rw [getD_ge _ _ _ (by rw [r.len]; omega), getD_ge _ _ _ (by omega)]
    exact ⟨rfl, rfl⟩

/-- ★ `ProtectionCoverage.ExtractMask1` as written in the source equals the model's `mask1` of the row. -/
theorem ExtractMask1_src_eq_model (p : S_flexfec_ProtectionCoverage) (c : Coverage) (r : covRel p c)
    (i : Int) (hi : 0 ≤ i) :
    flexfec_ProtectionCoverage_ExtractMask1 p i = (mask1 (c.row i.toNat) : Nat) := by
  unfold flexfec_ProtectionCoverage_ExtractMask1
  exact extractMask1_src_eq_model _ _ (row_rel p c r i hi)

/-- ★ `ProtectionCoverage.ExtractMask2` as written in the source equals the model's `mask2` of the row. -/
theorem ExtractMask2_src_eq_model (p : S_flexfec_ProtectionCoverage) (c : Coverage) (r : covRel p c)
    (i : Int) (hi : 0 ≤ i) :
    flexfec_ProtectionCoverage_ExtractMask2 p i = (mask2 (c.row i.toNat) : Nat) := by
  unfold flexfec_ProtectionCoverage_ExtractMask2
  exact extractMask2_src_eq_model _ _ (row_rel p c r i hi)

/-- ★ `ProtectionCoverage.ExtractMask3` (RFC 8627 layout) as written in the source equals the model
expression `(lo << 46) mod 2^64 ||| (hi >> 18)` of the row (`FnFlexFec.mask3raw`: `mask3` before the K-bit
shift; no model function of its own). -/
theorem ExtractMask3_src_eq_model (p : S_flexfec_ProtectionCoverage) (c : Coverage) (r : covRel p c)
    (w : covWf c) (i : Int) (hi : 0 ≤ i) :
    flexfec_ProtectionCoverage_ExtractMask3 p i = (mask3raw (c.row i.toNat) : Nat) := by
  unfold flexfec_ProtectionCoverage_ExtractMask3
  exact extractMask3_src_eq_model _ _ (row_rel p c r i hi) (w _)

/-- ★ `ProtectionCoverage.ExtractMask3_03` as written in the source equals the model's `mask3` of the row. -/
theorem ExtractMask3_03_src_eq_model (p : S_flexfec_ProtectionCoverage) (c : Coverage) (r : covRel p c)
    (w : covWf c) (i : Int) (hi : 0 ≤ i) :
    flexfec_ProtectionCoverage_ExtractMask3_03 p i = (mask3 (c.row i.toNat) : Nat) := by
  unfold flexfec_ProtectionCoverage_ExtractMask3_03
  exact extractMask3_03_src_eq_model _ _ (row_rel p c r i hi) (w _)

/-- the table `NewCoverage` starts from: 110 zero bit arrays (`var packetMasks [MaxFecPackets]util.BitArray`). -/
def goZeroMasks : List S_flexfec_util_BitArray := List.replicate 110 default

/-- ★ the constructor's table is related to the model's initial table. -/
theorem covRel_zero (nf nm : Nat) (media : List Bytes) (gm : List S_rtp_Packet) :
    covRel { packetMasks := goZeroMasks, numFecPackets := nf, numMediaPackets := nm, mediaPackets := gm }
      ⟨List.replicate maxFecPackets BitArray.empty, nf, nm, media⟩ := by
  refine ⟨by simp [goZeroMasks, maxFecPackets], fun i _ => ?_⟩
  show baRel (goZeroMasks.getD i default) ((List.replicate maxFecPackets BitArray.empty).getD i BitArray.empty)
  unfold goZeroMasks
  rw [getD_replicate, getD_replicate]
  exact ⟨rfl, rfl⟩

/-- ★ the constructor's table satisfies the invariant. -/
theorem covWf_zero (nf nm : Nat) (media : List Bytes) :
    covWf ⟨List.replicate maxFecPackets BitArray.empty, nf, nm, media⟩ := by
  intro i
  show wf ((List.replicate maxFecPackets BitArray.empty).getD i BitArray.empty)
  rw [getD_replicate]; exact wf_empty

theorem getD_set' {α : Type} (l : List α) (k i : Nat) (v d : α) :
    (l.set k v).getD i d = if k = i ∧ k < l.length then v else l.getD i d := by
  rw [List.getD_eq_getElem?_getD, List.getElem?_set, List.getD_eq_getElem?_getD]
  by_cases h : k = i
  · subst h
    by_cases h2 : k < l.length
    · simp [h2]
    · simp [h2]
  · simp [h]

/-- ★ replacing row `k` on both sides by related bit arrays (what `packetMasks[k].Reset()` and
`packetMasks[k].SetBit(j)` do, by `FnFlexFec.reset_src_eq_model` / `setBit_src_eq_model`) preserves the
relation. -/
theorem covRel_setRow (p : S_flexfec_ProtectionCoverage) (c : Coverage) (r : covRel p c) (k : Nat)
    (g : S_flexfec_util_BitArray) (m : BitArray) (h : baRel g m) :
    covRel { p with packetMasks := p.packetMasks.set k g } { c with masks := c.masks.set k m } := by
  refine ⟨by simp [r.len], fun i hi => ?_⟩
  show baRel ((p.packetMasks.set k g).getD i default) ((c.masks.set k m).getD i BitArray.empty)
  have hi' : i < c.masks.length := by simpa using hi
  rw [getD_set', getD_set', r.len]
  by_cases hk : k = i ∧ k < c.masks.length
  · rw [if_pos hk, if_pos hk]; exact h
  · rw [if_neg hk, if_neg hk]; exact r.rows i hi'

/-- ★ replacing a row by a well-formed bit array preserves the invariant. -/
theorem covWf_setRow (c : Coverage) (w : covWf c) (k : Nat) (m : BitArray) (h : wf m) :
    covWf { c with masks := c.masks.set k m } := by
  intro i
  show wf ((c.masks.set k m).getD i BitArray.empty)
  rw [getD_set']
  split
  · exact h
  · exact w i

/-- ★ the model's `buildMasks` (`resetCoverage` + the fill loops of `UpdateCoverage`) satisfies the invariant. -/
theorem covWf_buildMasks (c : Coverage) (n f : Nat) (hm : c.masks = buildMasks n f) : covWf c :=
  fun i => hm ▸ buildMasks_bounds n f i

/-- ★ the model's `UpdateCoverage` preserves the invariant. -/
theorem covWf_update (c : Coverage) (w : covWf c) (media : List Bytes) (f : Nat) :
    covWf (c.update media f) := by
  unfold Coverage.update
  dsimp only
  split
  · exact w
  · split
    · exact w
    · exact covWf_buildMasks _ _ _ rfl

/-- ★ the model's `NewCoverage` establishes the invariant. -/
theorem covWf_new (media : List Bytes) (f : Nat) (c : Coverage) (h : newCoverage media f = some c) : covWf c := by
  unfold newCoverage at h
  dsimp only at h
  split at h
  · cases h
  · simp only [Option.some.injEq] at h
    rw [← h]
    exact covWf_update _ (covWf_zero 0 0 []) media f

/-! satisfiability of the hypotheses on concrete non-trivial values -/

/-- a table whose row 1 protects media packets 1 and 65 (bit 62 of each word). -/
example :
    let p : S_flexfec_ProtectionCoverage :=
      { packetMasks := goZeroMasks.set 1 { Lo := 4611686018427387904, Hi := 4611686018427387904 },
        numFecPackets := 2, numMediaPackets := 66 }
    let c : Coverage :=
      ⟨(List.replicate maxFecPackets BitArray.empty).set 1 ⟨4611686018427387904, 4611686018427387904⟩, 2, 66, []⟩
    covRel p c ∧ covWf c :=
  ⟨covRel_setRow _ _ (covRel_zero 2 66 [] []) 1 _ _ ⟨rfl, rfl⟩,
   covWf_setRow _ (covWf_zero 2 66 []) 1 _ ⟨by decide, by decide⟩⟩

example : flexfec_ProtectionCoverage_ExtractMask1
    { packetMasks := goZeroMasks.set 1 { Lo := 4611686018427387904, Hi := 4611686018427387904 } } 1 = 8192 := by
  have := ExtractMask1_src_eq_model _ _
    (covRel_setRow _ _ (covRel_zero 0 0 [] []) 1 { Lo := 4611686018427387904, Hi := 4611686018427387904 }
      ⟨4611686018427387904, 4611686018427387904⟩ ⟨rfl, rfl⟩) 1 (by omega)
  exact Eq.trans this (by decide)

example : covWf (Coverage.update ⟨List.replicate maxFecPackets BitArray.empty, 0, 0, []⟩ [[1], [2], [3]] 2) :=
  covWf_update _ (covWf_zero 0 0 []) _ _

end Interceptor.Facts.FnFlexFec2
