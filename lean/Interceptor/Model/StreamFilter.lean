/-
The stream filter shared by the NACK generator and the NACK responder (pkg/nack/nack.go,
`streamSupportNack`): a stream is bound exactly when its StreamInfo lists the feedback
`{Type: "nack", Parameter: ""}` SOMEWHERE in `RTCPFeedback` — whatever stands before or after it
(`{nack, pli}`, `{goog-remb}`, `{transport-cc}`, a second `{nack}` …).

Op lines name a feedback list by a decimal code (`fbl=<code>`): one digit per entry, first entry
first; `0` alone is the empty list.  The digits are a fixed alphabet of entries and near-duplicates.
-/
namespace Interceptor.StreamFilter

/-- one `interceptor.RTCPFeedback`: (Type, Parameter). -/
abbrev Feedback := String × String

/-- `streamSupportNack`, branch by branch: the loop returns true at the first entry that is a plain `nack`. -/
def streamSupportNack : List Feedback → Bool
  | [] => false
  | fb :: rest => if fb.1 == "nack" && fb.2 == "" then true else streamSupportNack rest

/-- the alphabet of the op-line code. -/
def entryOfDigit : Nat → Option Feedback
  | 1 => some ("nack", "")
  | 2 => some ("nack", "pli")
  | 3 => some ("goog-remb", "")
  | 4 => some ("transport-cc", "")
  | 5 => some ("ccm", "fir")
  | 6 => some ("nack", "rpsi")
  | 7 => some ("NACK", "")
  | 8 => some ("", "nack")
  | 9 => some ("nack ", "")
  | _ => none

/-- decimal digits of `n`, most significant first. -/
def digits (n : Nat) : List Nat :=
  (Nat.toDigits 10 n).map fun c => c.toNat - '0'.toNat

/-- the feedback list a code stands for; `none` for a code with a digit 0 inside. -/
def feedbackOfCode (code : Nat) : Option (List Feedback) :=
  if code == 0 then some [] else (digits code).mapM entryOfDigit

/-- is a stream whose StreamInfo carries the list `code` bound by generator / responder? -/
def boundByCode (code : Nat) : Option Bool := (feedbackOfCode code).map streamSupportNack

/-- the rule in one line: bound iff a plain `nack` entry is present. -/
theorem streamSupportNack_iff (l : List Feedback) :
    streamSupportNack l = true ↔ ("nack", "") ∈ l := by
  induction l with
  | nil => simp [streamSupportNack]
  | cons fb rest ih =>
    obtain ⟨a, b⟩ := fb
    simp only [streamSupportNack, Bool.and_eq_true, beq_iff_eq, List.mem_cons, Prod.mk.injEq]
    by_cases h : a = "nack" ∧ b = ""
    · simp [h]
    · rw [if_neg h, ih]
      exact ⟨Or.inr, fun h' => h'.resolve_left fun e => h ⟨e.1.symm, e.2.symm⟩⟩

/-- order does not matter. -/
theorem streamSupportNack_perm {l₁ l₂ : List Feedback} (h : l₁.Perm l₂) :
    streamSupportNack l₁ = streamSupportNack l₂ := by
  rw [Bool.eq_iff_iff, streamSupportNack_iff, streamSupportNack_iff]
  exact h.mem_iff

example : boundByCode 3521 = some true := by decide
example : boundByCode 21 = some true := by decide
example : boundByCode 2 = some false := by decide
example : boundByCode 7896 = some false := by decide
example : boundByCode 0 = some false := by decide
example : boundByCode 101 = none := by decide

end Interceptor.StreamFilter
