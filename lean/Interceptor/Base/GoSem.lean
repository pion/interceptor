/-
The fragment of Go's semantics that the function translator (extract/fn.go) targets.
Every integer is a Lean `Int`; the fixed width of the Go type is made explicit by a wrap function
applied after every arithmetic operation.  (`int`/`uint` are 64 bit: GOARCH=amd64/arm64.)
-/
import Interceptor.Base.F64
namespace Interceptor.GoSem

def u8 (x : Int) : Int := x % 256
def u16 (x : Int) : Int := x % 65536
def u32 (x : Int) : Int := x % 4294967296
def u64 (x : Int) : Int := x % 18446744073709551616
def s8 (x : Int) : Int := (x + 128) % 256 - 128
def s16 (x : Int) : Int := (x + 32768) % 65536 - 32768
def s32 (x : Int) : Int := (x + 2147483648) % 4294967296 - 2147483648
def s64 (x : Int) : Int := (x + 9223372036854775808) % 18446744073709551616 - 9223372036854775808

/-- Go's `/` on signed integers truncates toward zero. -/
def quo (a b : Int) : Int := Int.tdiv a b
/-- Go's `%` on signed integers has the sign of the dividend. -/
def rem (a b : Int) : Int := Int.tmod a b

theorem quo_nonneg (a b : Int) (ha : 0 ≤ a) : quo a b = a / b := by
  unfold quo; exact Int.tdiv_eq_ediv_of_nonneg ha

theorem rem_nonneg (a b : Int) (ha : 0 ≤ a) : rem a b = a % b := by
  unfold rem; exact Int.tmod_eq_emod_of_nonneg ha

/-- `a << k` before the wrap of the result type (k ≥ 0; a negative count panics in Go). -/
def shl (a k : Int) : Int := a * 2 ^ k.toNat
/-- `a >> k`: arithmetic shift = floor division. -/
def shr (a k : Int) : Int := a / 2 ^ k.toNat

/-- bitwise operators on two's-complement integers of unbounded width (the wrap of the result type follows).
`negSucc n` is `-(n+1) = ~n`. -/
def band : Int → Int → Int
  | .ofNat m, .ofNat n => Int.ofNat (m &&& n)
  | .ofNat m, .negSucc n => Int.ofNat (m ^^^ (m &&& n))          -- m & ~n
  | .negSucc m, .ofNat n => Int.ofNat (n ^^^ (n &&& m))          -- ~m & n
  | .negSucc m, .negSucc n => .negSucc (m ||| n)                  -- ~m & ~n = ~(m | n)
def bor : Int → Int → Int
  | .ofNat m, .ofNat n => Int.ofNat (m ||| n)
  | .ofNat m, .negSucc n => .negSucc (n ^^^ (n &&& m))           -- m | ~n = ~(n & ~m)
  | .negSucc m, .ofNat n => .negSucc (m ^^^ (m &&& n))
  | .negSucc m, .negSucc n => .negSucc (m &&& n)                  -- ~m | ~n = ~(m & n)
def bxor : Int → Int → Int
  | .ofNat m, .ofNat n => Int.ofNat (m ^^^ n)
  | .ofNat m, .negSucc n => .negSucc (m ^^^ n)
  | .negSucc m, .ofNat n => .negSucc (m ^^^ n)
  | .negSucc m, .negSucc n => Int.ofNat (m ^^^ n)
def bnot (a : Int) : Int := -a - 1
def bandnot (a b : Int) : Int := band a (bnot b)

@[simp] theorem band_ofNat (m n : Nat) : band (m : Int) (n : Int) = ((m &&& n : Nat) : Int) := rfl
@[simp] theorem bor_ofNat (m n : Nat) : bor (m : Int) (n : Int) = ((m ||| n : Nat) : Int) := rfl
@[simp] theorem bxor_ofNat (m n : Nat) : bxor (m : Int) (n : Int) = ((m ^^^ n : Nat) : Int) := rfl

/-- slices of integers -/
def len (l : List Int) : Int := l.length
def idx (l : List Int) (i : Int) : Int := if i < 0 then 0 else l.getD i.toNat 0
def set (l : List Int) (i v : Int) : List Int := if i < 0 then l else l.set i.toNat v
def take (l : List Int) (n : Int) : List Int := l.take n.toNat
def drop (l : List Int) (n : Int) : List Int := l.drop n.toNat
def mkSlice (n : Int) : List Int := List.replicate n.toNat 0

/-- slices of any other supported element type -/
def lenG {α : Type} (l : List α) : Int := l.length
def idxG {α : Type} [Inhabited α] (l : List α) (i : Int) : α := if i < 0 then default else l.getD i.toNat default
def setG {α : Type} (l : List α) (i : Int) (v : α) : List α := if i < 0 then l else l.set i.toNat v
def takeG {α : Type} (l : List α) (n : Int) : List α := l.take n.toNat
def dropG {α : Type} (l : List α) (n : Int) : List α := l.drop n.toNat
def mkSliceG {α : Type} [Inhabited α] (n : Int) : List α := List.replicate n.toNat default

/-- maps with integer keys: association lists (a key occurs at most once; `mapSet` keeps that). A nil map and an
empty map are identified; iteration order is never observed (the translator only accepts the order-independent
`for k := range m { if c { delete(m, k) } }`). -/
def mapLen {α : Type} (m : List (Int × α)) : Int := m.length
def mapHas {α : Type} (m : List (Int × α)) (k : Int) : Bool := m.any (fun e => e.1 == k)
def mapGet {α : Type} [Inhabited α] (m : List (Int × α)) (k : Int) : α :=
  match m.find? (fun e => e.1 == k) with
  | some e => e.2
  | none => default
def mapDel {α : Type} (m : List (Int × α)) (k : Int) : List (Int × α) := m.filter (fun e => e.1 != k)
def mapSet {α : Type} (m : List (Int × α)) (k : Int) (v : α) : List (Int × α) := (k, v) :: mapDel m k
def mapFilter {α : Type} (keep : Int → Bool) (m : List (Int × α)) : List (Int × α) := m.filter (fun e => keep e.1)

/-- the zero `time.Time` (January 1, year 1 UTC) in nanoseconds relative to the Unix epoch; it does not fit an
int64, which is why `t.Sub(zero)` saturates for every real instant. -/
def zeroTime : Int := -62135596800000000000

/-- `for cond { body }` with fuel: `none` when the fuel does not suffice. -/
def loop {σ : Type} : Nat → (σ → Bool) → (σ → σ) → σ → Option σ
  | 0, _, _, _ => none
  | n + 1, cond, body, s => if cond s then loop n cond body (body s) else some s

theorem loop_succ {σ : Type} (n : Nat) (cond : σ → Bool) (body : σ → σ) (s : σ) :
    loop (n + 1) cond body s = if cond s then loop n cond body (body s) else some s := rfl

/-- with fuel left, a false condition ends the loop.  (`n < fuel` only says `0 < fuel`: callers hand over the
bound `steps < fuel` they hold, whatever `steps` is.) -/
theorem loop_stop {σ : Type} {cond : σ → Bool} {body : σ → σ} {s : σ} (h : cond s = false) {n fuel : Nat}
    (hf : n < fuel) : loop fuel cond body s = some s := by
  obtain ⟨f, rfl⟩ : ∃ f, fuel = f + 1 := ⟨fuel - 1, by omega⟩
  rw [loop_succ, h, if_neg Bool.false_ne_true]

/-- with fuel left, a true condition runs the body once. -/
theorem loop_step {σ : Type} {cond : σ → Bool} {body : σ → σ} {s : σ} (h : cond s = true) {n fuel : Nat}
    (hf : n < fuel) : loop fuel cond body s = loop (fuel - 1) cond body (body s) := by
  obtain ⟨f, rfl⟩ : ∃ f, fuel = f + 1 := ⟨fuel - 1, by omega⟩
  rw [loop_succ, h, if_pos rfl, Nat.add_sub_cancel]

/-- more fuel does not change the result of a loop that has terminated. -/
theorem loop_mono {σ : Type} (cond : σ → Bool) (body : σ → σ) {r : σ} :
    ∀ {n : Nat} {s : σ}, loop n cond body s = some r → ∀ {fuel : Nat}, n ≤ fuel → loop fuel cond body s = some r := by
  intro n
  induction n with
  | zero => intro s h; exact nomatch h
  | succ n ih =>
    intro s h fuel hf
    cases fuel with
    | zero => exact absurd hf (Nat.not_succ_le_zero n)
    | succ f =>
      rw [loop_succ] at h ⊢
      by_cases hc : cond s = true
      · rw [if_pos hc] at h ⊢; exact ih h (Nat.le_of_succ_le_succ hf)
      · rw [if_neg hc] at h ⊢; exact h

theorem loop_congr {σ : Type} {body body' : σ → σ} (h : ∀ s, body s = body' s) (fuel : Nat) (cond : σ → Bool)
    (s : σ) : loop fuel cond body s = loop fuel cond body' s := by
  rw [funext h]

/-- time.Time as nanoseconds since the Unix epoch, an unbounded `Int` (real instants fit an int64, `zeroTime` does
not; the monotonic reading is not modelled); `t.Sub(u)` saturates at ±2^63 as in Go. -/
def timeSub (a b : Int) : Int :=
  let d := a - b
  if d > 9223372036854775807 then 9223372036854775807
  else if d < -9223372036854775808 then -9223372036854775808 else d
def timeAdd (a d : Int) : Int := a + d

/-- `Duration.Seconds()`: `float64(d/Second) + float64(d%Second)/1e9`. -/
def durSeconds (d : Int) : Rat :=
  F64.add (F64.ofInt (quo d 1000000000)) (F64.div (F64.ofInt (rem d 1000000000)) 1000000000)

end Interceptor.GoSem
