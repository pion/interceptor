/-
Bit-mask lemmas for the translated Go code: masks of the form 2^n − 2^k select a bit field.
-/
namespace Interceptor.GoSem

theorem mask_eq (n k : Nat) (h : k ≤ n) : 2 ^ n - 2 ^ k = (2 ^ (n - k) - 1) * 2 ^ k := by
  have : 2 ^ n = 2 ^ (n - k) * 2 ^ k := by rw [← Nat.pow_add]; congr 1; omega
  rw [this, Nat.sub_mul, Nat.one_mul]

/-- `x & (2^n − 2^k)` keeps bits k..n−1. -/
theorem and_mask (x n k : Nat) (h : k ≤ n) : x &&& (2 ^ n - 2 ^ k) = (x % 2 ^ n) / 2 ^ k * 2 ^ k := by
  rw [mask_eq n k h]
  apply Nat.eq_of_testBit_eq
  intro j
  simp only [Nat.testBit_and, Nat.testBit_mul_two_pow, Nat.testBit_two_pow_sub_one, Nat.testBit_div_two_pow,
    Nat.testBit_mod_two_pow]
  by_cases h1 : k ≤ j
  · by_cases h2 : j < n
    · have : j - k < n - k := by omega
      simp [h1, h2, this]
    · have : ¬ (j - k < n - k) := by omega
      simp [h1, h2, this]
  · simp [h1]

/-- disjoint fields: `a·2^k | b = a·2^k + b` for `b < 2^k`. -/
theorem or_field (a b k : Nat) (hb : b < 2 ^ k) : a * 2 ^ k ||| b = a * 2 ^ k + b := by
  have := Nat.two_pow_add_eq_or_of_lt (i := k) (b := b) hb a
  rw [Nat.mul_comm] at this
  omega

end Interceptor.GoSem
