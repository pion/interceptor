/-
Seq16: 16-bit sequence-number arithmetic as `Nat` with explicit `% 65536`,
written so that `omega` decides the goals.  `sub16 a b` is Go's `a - b` on uint16.
-/
namespace Interceptor

abbrev M16 : Nat := 65536
abbrev H16 : Nat := 32768

/-- Go `uint16(a - b)` for `a < 65536`; `b` is reduced here, `a` is not (`sub16_of_lt` drops the reduction of `b`).

The kernel reduces `x + 65536` with a variable `x` in unary.  Proofs therefore keep a stuck `sub16 …` behind a
variable of a lemma statement (`(n) (hn : sub16 a b = n)`), and never leave a definitional equality that goes through
a projection of, or a match on, a term containing one: such terms are taken apart by `rw` with stated equations. -/
def sub16 (a b : Nat) : Nat := (a + 65536 - b % 65536) % 65536

/-- Go `uint16(a + b)`. -/
def add16 (a b : Nat) : Nat := (a + b) % 65536

theorem sub16_lt (a b : Nat) : sub16 a b < 65536 := by unfold sub16; omega
theorem add16_lt (a b : Nat) : add16 a b < 65536 := by unfold add16; omega

theorem sub16_self (a : Nat) (h : a < 65536) : sub16 a a = 0 := by unfold sub16; omega

theorem add16_sub16 (a b : Nat) (ha : a < 65536) (hb : b < 65536) :
    add16 b (sub16 a b) = a := by unfold add16 sub16; omega

theorem sub16_of_lt (a : Nat) {b : Nat} (hb : b < 65536) : sub16 a b = (a + 65536 - b) % 65536 := by
  unfold sub16; rw [Nat.mod_eq_of_lt hb]

theorem add16_zero {a : Nat} (h : a < 65536) : add16 a 0 = a := Nat.mod_eq_of_lt h

theorem add16_add16 (a b c : Nat) : add16 (add16 a b) c = add16 a (b + c) := by
  unfold add16; rw [Nat.mod_add_mod, Nat.add_assoc]

theorem add16_succ (i j : Nat) : add16 (add16 i 1) j = add16 i (j + 1) := by
  rw [add16_add16, Nat.add_comm]

theorem add16_mod (a b : Nat) : add16 (a % 65536) b = (a + b) % 65536 := by
  unfold add16; omega

theorem sub16_add16 {a k : Nat} (hk : k < 65536) : sub16 (add16 a k) a = k := by
  unfold add16 sub16; omega

/-- a counter at distance 0 from its stop value has reached it. -/
theorem eq_of_sub16_eq_zero {a b : Nat} (ha : a < 65536) (hb : b < 65536) (h : sub16 a b = 0) :
    a = b := by
  unfold sub16 at h; omega

theorem sub16_trans (a : Nat) {b c : Nat} (hb : b < 65536) (hc : c < 65536) :
    (sub16 a b + sub16 b c) % 65536 = sub16 a c := by
  unfold sub16
  rw [Nat.mod_eq_of_lt hb, Nat.mod_eq_of_lt hc, ← Nat.add_mod,
    show a + 65536 - b + (b + 65536 - c) = a + 65536 - c + 65536 by omega, Nat.add_mod_right]

/-- a counter at distance `n+1` from its stop value has not reached it, and `++` brings it one closer. -/
theorem sub16_succ {a b n : Nat} (hb : b < 65536) (h : sub16 a b = n + 1) :
    b ≠ a ∧ sub16 a (add16 b 1) = n := by
  rw [sub16_of_lt a hb] at h
  rw [sub16_of_lt a (add16_lt _ _)]
  unfold add16; omega

theorem sub16_add16_one (a b : Nat) (hb : b < 65536) : sub16 (add16 a 1) (add16 b 1) = sub16 a b := by
  rw [sub16_of_lt _ hb, sub16_of_lt _ (add16_lt _ _)]
  unfold add16; omega

theorem sub16_add16_succ (a k : Nat) : sub16 (add16 (add16 a 1) k) 1 = add16 a k := by
  unfold sub16 add16; omega

theorem sub16_add16_le (e a k : Nat) (hk : k ≤ sub16 e a) : sub16 e (add16 a k) ≤ sub16 e a := by
  rw [sub16_of_lt _ (add16_lt _ _)]
  unfold sub16 add16 at *; omega

theorem sub16_sub16_le (q s : Nat) : sub16 q (sub16 q s) ≤ s := by
  rw [sub16_of_lt _ (sub16_lt _ _)]; unfold sub16; omega

theorem sub16_sub16_right_le (e k l : Nat) (hk : k ≤ sub16 e l) :
    sub16 (sub16 e k) l ≤ sub16 e l := by
  unfold sub16 at *; omega

/-- from `a`, whose low half is `next`, the 16-bit distance to `seq` leads to `seq`. -/
theorem sub16_reach {seq next a : Nat} (hs : seq < 65536) (hn : next = a % 65536) :
    (a + sub16 seq next) % 65536 = seq := by
  unfold sub16; omega

/-- stepping forward by the 16-bit distance to `seq` lands on `seq`, and enters the next cycle
exactly when `seq` is numerically below the old low half. -/
theorem fwd16 (h seq : Nat) (hs : seq < 65536) :
    (h + sub16 seq (h % 65536)) % 65536 = seq ∧
    (h + sub16 seq (h % 65536)) / 65536 = h / 65536 + if seq < h % 65536 then 1 else 0 := by
  refine ⟨sub16_reach hs rfl, ?_⟩
  unfold sub16
  split <;> omega

/-- the 16-bit distance between the low halves of extended numbers less than a cycle apart is their distance. -/
theorem sub16_mod_mod (a d : Nat) (hd : d < 65536) : sub16 ((a + d) % 65536) (a % 65536) = d := by
  unfold sub16
  rw [Nat.mod_mod]
  exact sub16_add16 hd

/-- the uint16 counter of `for i := a + 1; i != b; i++` reaches `b` after `sub16 b a − 1` increments (`a ≠ b`). -/
theorem add16_one_reach {a b : Nat} (hb : b < 65536) (h : 0 < sub16 b a) :
    (add16 a 1 + (sub16 b a - 1)) % 65536 = b := by
  have e := sub16_reach (a := a) hb rfl
  unfold sub16 at e
  rw [Nat.mod_mod] at e
  rw [add16, Nat.mod_add_mod, show a + 1 + (sub16 b a - 1) = a + sub16 b a by omega]
  exact e

theorem bwd16 (h seq : Nat) (hs : seq < 65536) (hh : 65536 ≤ h) :
    (h - sub16 (h % 65536) seq) % 65536 = seq := by
  unfold sub16
  omega

/-- integers less than `c` apart that agree modulo `c` are equal: why a ring of `c` slots reads back what was
written as long as the live window is shorter than the ring. -/
theorem eq_of_emod_eq_of_near {c x y : Int} (h : x % c = y % c) (h1 : x - y < c) (h2 : y - x < c) : x = y := by
  have hd : c ∣ x - y := Int.dvd_of_emod_eq_zero (Int.emod_eq_emod_iff_emod_sub_eq_zero.mp h)
  have : x - y = 0 := Int.eq_zero_of_dvd_of_natAbs_lt_natAbs hd (by omega)
  omega

end Interceptor
