/-
Packed bitmaps of the translated Go code: a `[]uint64` whose word `p/64`, bit `p%64` holds position `p`
(`w[p/64] |= 1 << (p%64)`, `w[p/64] &^= 1 << (p%64)`, `w[p/64] & (1 << (p%64)) != 0`) against an
`Array Bool` with one entry per position.  Used by Facts/FnNack.lean and Facts/FnReportBitmap.lean.
-/
import Interceptor.Base.GoSem
import Interceptor.Base.GoBits
namespace Interceptor.GoSem

theorem u64_shl_one (k : Nat) (hk : k < 64) : u64 (shl 1 (k : Int)) = ((2 ^ k : Nat) : Int) := by
  have h2 : 2 ^ k < 2 ^ 64 := Nat.pow_lt_pow_right (by decide) hk
  unfold u64 shl
  simp only [Int.toNat_natCast, Int.one_mul]
  have e : (2 : Int) ^ k = ((2 ^ k : Nat) : Int) := by simp
  rw [e]
  generalize 2 ^ k = n at h2
  omega

theorem u64_small (w : Nat) (hw : w < 2 ^ 64) : u64 (w : Int) = (w : Int) := by
  unfold u64; omega

/-- `m &^ n` on non-negative numbers: the translator's `band m (bnot n)`, where `^n = -n-1 = -(n+1)` is
`Int.negSucc n`, reduces to `m ^^^ (m &&& n)`. -/
theorem bandnot_natCast (m n : Nat) : bandnot (m : Int) (n : Int) = ((m ^^^ (m &&& n) : Nat) : Int) := by
  have e : bnot (n : Int) = Int.negSucc n := by unfold bnot; rw [Int.negSucc_eq]; omega
  unfold bandnot; rw [e]; rfl

theorem testBit_andnot (m n j : Nat) : (m ^^^ (m &&& n)).testBit j = (m.testBit j && !n.testBit j) := by
  rw [Nat.testBit_xor, Nat.testBit_and]
  cases m.testBit j <;> cases n.testBit j <;> rfl

theorem andnot_le (m n : Nat) : m ^^^ (m &&& n) ≤ m := by
  apply Nat.le_of_testBit
  intro j
  rw [testBit_andnot]
  cases m.testBit j <;> simp

/-- the word operation `f` writes `v` into bit `k` of every uint64 and keeps its other bits. -/
def PutsBit (f : Int → Int) (k : Nat) (v : Bool) : Prop :=
  ∀ w : Nat, w < 2 ^ 64 → ∃ w' : Nat, f (w : Int) = (w' : Int) ∧ w' < 2 ^ 64 ∧
    ∀ j, w'.testBit j = if j = k then v else w.testBit j

/-- `w | 1<<k`. -/
theorem word_set (k : Nat) (hk : k < 64) : PutsBit (fun x => u64 (bor x (u64 (shl 1 (k : Int))))) k true := by
  intro w hw
  have hlt : (w ||| 2 ^ k) < 2 ^ 64 := Nat.or_lt_two_pow hw (Nat.pow_lt_pow_right (by decide) hk)
  refine ⟨w ||| 2 ^ k, by simp only [u64_shl_one k hk, bor_ofNat, u64_small _ hlt], hlt, fun j => ?_⟩
  rw [Nat.testBit_or, Nat.testBit_two_pow]
  by_cases h : k = j <;> simp [h, eq_comm]

/-- `w &^ 1<<k`. -/
theorem word_clear (k : Nat) (hk : k < 64) : PutsBit (fun x => u64 (bandnot x (u64 (shl 1 (k : Int))))) k false := by
  intro w hw
  have hlt : (w ^^^ (w &&& 2 ^ k)) < 2 ^ 64 := Nat.lt_of_le_of_lt (andnot_le _ _) hw
  refine ⟨_, by simp only [u64_shl_one k hk, bandnot_natCast, u64_small _ hlt], hlt, fun j => ?_⟩
  rw [testBit_andnot, Nat.testBit_two_pow]
  by_cases h : k = j <;> simp [h, eq_comm]

theorem and_two_pow_eq (w k : Nat) : w &&& 2 ^ k = if w.testBit k then 2 ^ k else 0 := by
  apply Nat.eq_of_testBit_eq
  intro j
  rw [Nat.testBit_and, Nat.testBit_two_pow]
  by_cases h : k = j
  · subst h; cases hb : w.testBit k <;> simp
  · cases hb : w.testBit k <;> simp [h]

/-- `w & (1<<k) != 0` is bit `k` of `w`. -/
theorem word_test (w k : Nat) (hk : k < 64) :
    decide (u64 (band (w : Int) (u64 (shl 1 (k : Int)))) ≠ 0) = w.testBit k := by
  have h2 : 2 ^ k < 2 ^ 64 := Nat.pow_lt_pow_right (by decide) hk
  have hle : w &&& 2 ^ k ≤ 2 ^ k := Nat.and_le_right
  rw [u64_shl_one k hk, band_ofNat, u64_small _ (by omega), and_two_pow_eq]
  cases w.testBit k
  · simp
  · have : (2 : Int) ^ k ≠ 0 := Int.ne_of_gt (Int.pow_pos (by decide))
    simpa using this

theorem idx_natCast (ws : List Int) (i : Nat) : idx ws (i : Int) = ws.getD i 0 := by
  have hn : ¬ ((i : Int) < 0) := by omega
  unfold idx; simp [hn]

theorem len_set (ws : List Int) (i v : Int) : (set ws i v).length = ws.length := by
  unfold set; split <;> simp

theorem idx_set_natCast (ws : List Int) (i j : Nat) (v : Int) (hi : i < ws.length) :
    idx (set ws (i : Int) v) (j : Int) = if i = j then v else idx ws (j : Int) := by
  have hn : ¬ ((i : Int) < 0) := by omega
  rw [idx_natCast, idx_natCast]
  unfold set
  simp only [hn, if_false, Int.toNat_natCast, List.getD_eq_getElem?_getD, List.getElem?_set]
  by_cases h : i = j
  · subst h; simp [hi]
  · simp [h]

theorem take_set_succ (l : List Int) (c : Nat) (v : Int) (h : c < l.length) :
    take (set l (c : Int) v) ((c + 1 : Nat) : Int) = take l (c : Int) ++ [v] := by
  have hn : ¬ ((c : Int) < 0) := by omega
  unfold take set
  simp only [hn, if_false, Int.toNat_natCast]
  rw [List.take_add_one, List.take_set_of_le (Nat.le_refl _)]
  simp [h]

/-- the `[]uint64` `ws` represents the bit vector `bits`: 64 positions per word, every word a uint64,
bit `p%64` of word `p/64` is `bits[p]`. -/
structure Packed (ws : List Int) (bits : Array Bool) : Prop where
  size : bits.size = 64 * ws.length
  word : ∀ i : Nat, i < ws.length → 0 ≤ idx ws (i : Int) ∧ idx ws (i : Int) < 18446744073709551616
  bit : ∀ p : Nat, p < bits.size → (idx ws ((p / 64 : Nat) : Int)).toNat.testBit (p % 64) = bits.getD p false

/-- replacing word `p/64` by a uint64 that differs from the old one exactly in bit `p%64` (now `v`). -/
theorem Packed.update {ws : List Int} {bits : Array Bool} (h : Packed ws bits) (p : Nat) (hp : p < bits.size)
    (w' : Nat) (v : Bool) (hw : w' < 2 ^ 64)
    (hbit : ∀ j, w'.testBit j = if j = p % 64 then v else (idx ws ((p / 64 : Nat) : Int)).toNat.testBit j) :
    Packed (set ws ((p / 64 : Nat) : Int) (w' : Int)) (bits.setIfInBounds p v) := by
  have hsz := h.size
  have hi : p / 64 < ws.length := by omega
  refine ⟨?_, ?_, ?_⟩
  · rw [len_set]; simpa using hsz
  · intro i hil
    rw [len_set] at hil
    rw [idx_set_natCast _ _ _ _ hi]
    split
    · omega
    · exact h.word i hil
  · intro q hq
    have hq' : q < bits.size := by simpa using hq
    rw [idx_set_natCast _ _ _ _ hi]
    simp only [Array.getD_eq_getD_getElem?, Array.getElem?_setIfInBounds]
    by_cases hpq : p = q
    · subst hpq
      simp [hbit, hp]
    · have hne : ¬ (p = q) := hpq
      simp only [hne, if_false]
      have := h.bit q hq'
      simp only [Array.getD_eq_getD_getElem?] at this
      rw [← this]
      by_cases hw2 : p / 64 = q / 64
      · have hm : ¬ (q % 64 = p % 64) := by omega
        simp only [hw2, if_true, Int.toNat_natCast]
        rw [hbit, if_neg hm, hw2]
      · simp [hw2]

theorem Packed.word_nat {ws : List Int} {bits : Array Bool} (h : Packed ws bits) (p : Nat) (hp : p < bits.size) :
    ∃ w : Nat, idx ws ((p / 64 : Nat) : Int) = (w : Int) ∧ w < 2 ^ 64 ∧ w.testBit (p % 64) = bits.getD p false := by
  have hw := h.word (p / 64) (by have := h.size; omega)
  exact ⟨_, (Int.toNat_of_nonneg hw.1).symm, (Int.toNat_lt hw.1).mpr hw.2, h.bit p hp⟩

theorem natCast_div64 (p : Nat) : (p : Int) / 64 = ((p / 64 : Nat) : Int) := by omega
theorem natCast_mod64 (p : Nat) : (p : Int) % 64 = ((p % 64 : Nat) : Int) := by omega

/-- `ws[p/64] = f(ws[p/64])` writes `v` at position `p` when `f` writes `v` into bit `p%64`. -/
theorem Packed.modify {ws : List Int} {bits : Array Bool} (h : Packed ws bits) (p : Nat) (hp : p < bits.size)
    {v : Bool} {f : Int → Int} (hf : PutsBit f (p % 64) v) :
    Packed (set ws ((p / 64 : Nat) : Int) (f (idx ws ((p / 64 : Nat) : Int)))) (bits.setIfInBounds p v) := by
  obtain ⟨w, e, hw, _⟩ := h.word_nat p hp
  obtain ⟨w', e', hw', hb⟩ := hf w hw
  rw [e, e']
  exact h.update p hp w' v hw' (by rw [e]; exact hb)

/-- `ws[p/64] |= 1 << (p%64)` sets position `p`. -/
theorem Packed.setBit {ws : List Int} {bits : Array Bool} (h : Packed ws bits) (p : Nat) (hp : p < bits.size) :
    Packed (set ws ((p : Int) / 64) (u64 (bor (idx ws ((p : Int) / 64)) (u64 (shl 1 ((p : Int) % 64))))))
      (bits.setIfInBounds p true) := by
  rw [natCast_div64, natCast_mod64]
  exact h.modify p hp (word_set _ (Nat.mod_lt _ (by decide)))

/-- `ws[p/64] &^= 1 << (p%64)` clears position `p`. -/
theorem Packed.clearBit {ws : List Int} {bits : Array Bool} (h : Packed ws bits) (p : Nat) (hp : p < bits.size) :
    Packed (set ws ((p : Int) / 64) (u64 (bandnot (idx ws ((p : Int) / 64)) (u64 (shl 1 ((p : Int) % 64))))))
      (bits.setIfInBounds p false) := by
  rw [natCast_div64, natCast_mod64]
  exact h.modify p hp (word_clear _ (Nat.mod_lt _ (by decide)))

/-- `ws[p/64] & (1 << (p%64)) != 0` reads position `p`. -/
theorem Packed.getBit {ws : List Int} {bits : Array Bool} (h : Packed ws bits) (p : Nat) (hp : p < bits.size) :
    decide (u64 (band (idx ws ((p : Int) / 64)) (u64 (shl 1 ((p : Int) % 64)))) ≠ 0) = bits.getD p false := by
  rw [natCast_div64, natCast_mod64]
  obtain ⟨w, e, _, hb⟩ := h.word_nat p hp
  rw [e, word_test w (p % 64) (Nat.mod_lt _ (by decide)), hb]

/-- `make([]uint64, n)` represents `64·n` cleared positions. -/
theorem Packed.zero (n : Nat) : Packed (mkSlice (n : Int)) (Array.replicate (64 * n) false) := by
  have hidx : ∀ i : Nat, idx (mkSlice (n : Int)) (i : Int) = 0 := by
    intro i
    rw [idx_natCast]; unfold mkSlice
    simp only [Int.toNat_natCast, List.getD_eq_getElem?_getD, List.getElem?_replicate]
    split <;> rfl
  refine ⟨?_, ?_, ?_⟩
  · simp [mkSlice]
  · intro i _; rw [hidx]; omega
  · intro p hp
    rw [hidx]
    have hp' : p < 64 * n := by simpa using hp
    simp [hp']

end Interceptor.GoSem
