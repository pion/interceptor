/-
C07 — the property theorems restated on the code itself: on the Lean definitions that extract/fn.go
regenerates from pkg/report/sender_stream.go on every run (Gen/Fn_report.lean):
`report_senderStream_processRTP` run over an arbitrary call sequence (`FnSenderReport.goRun`) from the state
`newSenderStream` builds (`FnSenderReport.goNew`), then `report_senderStream_generateReport`.
Each statement follows from the model theorem of Props/C07.lean and the source-equals-model theorems of
Facts/FnSenderReport.lean / Facts/FnSenderGenerate.lean (`processRTP_src_eq_model`, `timeOk_new`,
`generateReport_after_run`).  No ★ statement mentions the hand-written model `SenderReport.Stream` (only the helper `rel_run` does);
the send history a call sequence stands for (`pkts`: arrival instant, sequence number, timestamp, payload
length per call) and the recounts of Spec/SenderReport.lean are the definition of "the true value".

Hypotheses: the header fields are in the range of their Go types (`HeaderOk`: uint16 sequence number, uint32
timestamp); where a time difference is taken, every `now` is an `instant` (−2^62 ≤ Unix ns < 2^62: Go's
`Time.Sub` saturates at ±2^63 while the property subtracts exactly); where the first-packet test
`packetCount == 0` matters, the history is shorter than 2^32 packets (the uint32 counter wraps).
-/
import Interceptor.Facts.FnSenderGenerate
import Interceptor.Props.C07
set_option linter.unusedVariables false
namespace Interceptor.C07Src
open Interceptor Interceptor.Gen.Fn Interceptor.GoSem Interceptor.SenderReport Interceptor.SenderReport.Spec
open Interceptor.Facts.FnSenderReport Interceptor.Facts.FnSenderGenerate

/-- the send history a Go call sequence stands for. -/
def pkts (cs : List Call) : List Pkt := cs.map fun c => pktOf c.1 c.2.1 c.2.2

theorem pkts_length (cs : List Call) : (pkts cs).length = cs.length := by simp [pkts]

theorem pkts_ne (cs : List Call) (h : cs ≠ []) : pkts cs ≠ [] := by
  cases cs with
  | nil => exact absurd rfl h
  | cons c cs => simp [pkts]

theorem pkts_instant (cs : List Call) (ht : ∀ c ∈ cs, instant c.1) : ∀ p ∈ pkts cs, instant p.now := by
  intro p hp
  simp only [pkts, List.mem_map] at hp
  obtain ⟨c, hc, rfl⟩ := hp
  exact ht c hc

/-- the generated state after any call sequence from the constructor is related to the model's. -/
theorem rel_run (ssrc rate : Nat) (l : Bool) (cs : List Call) (hh : ∀ c ∈ cs, HeaderOk c.2.1) :
    Rel (goRun (goNew ssrc rate l) cs) (run (SenderReport.new ssrc rate l) (pkts cs)) :=
  run_src_eq_model cs hh _ _ (rel_new ssrc rate l)

theorem goRun_snoc (g : S_report_senderStream) (cs : List Call) (c : Call) :
    goRun g (cs ++ [c]) = report_senderStream_processRTP (goRun g cs) c.1 c.2.1 c.2.2 := by
  simp [goRun, List.foldl_append]

theorem pkts_snoc (cs : List Call) (c : Call) : pkts (cs ++ [c]) = pkts cs ++ [pktOf c.1 c.2.1 c.2.2] := by
  simp [pkts]

/-- ★ C07 clause "a packet count equal to the number of RTP packets written on that stream and an octet count
equal to the sum of their payload lengths (both modulo 2^32)", on the code: after any sequence of generated
`processRTP` calls from the state `newSenderStream` builds, the report the generated `generateReport` returns
(at any `now`) carries `PacketCount = #calls mod 2^32` and `OctetCount = Σ len(payload) mod 2^32`, and the
stream's SSRC. -/
theorem report_counts_eq_recount_src (ssrc rate : Nat) (l : Bool) (cs : List Call)
    (hh : ∀ c ∈ cs, HeaderOk c.2.1) (now : Int) :
    let rep := report_senderStream_generateReport (goRun (goNew ssrc rate l) cs) now
    rep.PacketCount = ((cs.length % 4294967296 : Nat) : Int) ∧
    rep.OctetCount = (((cs.map fun c => c.2.2.length).sum % 4294967296 : Nat) : Int) ∧
    rep.SSRC = (ssrc : Int) := by
  have r := rel_run ssrc rate l cs hh
  obtain ⟨a, b⟩ := report_counts_eq_recount ssrc rate l (pkts cs) now
  simp only [SenderReport.generateReport, Spec.packetCount, Spec.octetCount] at a b
  have hs : (run (SenderReport.new ssrc rate l) (pkts cs)).ssrc = ssrc := (run_const _ _).1
  refine ⟨?_, ?_, ?_⟩
  · show (goRun (goNew ssrc rate l) cs).packetCount = _
    rw [r.packetCount, a, pkts_length]
  · show (goRun (goNew ssrc rate l) cs).octetCount = _
    rw [r.octetCount, b]
    simp only [pkts, List.map_map]
    rfl
  · show (goRun (goNew ssrc rate l) cs).ssrc = _
    rw [r.ssrc, hs]

/-- ★ C07 clause "an NTP timestamp equal to the report instant", on the code: the `NTPTime` of the report the
generated `generateReport` returns is `ToNTP(now)` — the translated `ntp.ToNTP` (Gen/Fn_ntp.lean), which is
the NTP conversion `Ntp.toNTP` C20 is about — on every state. -/
theorem ntp_field_src (g : S_report_senderStream) (now : Int) :
    (report_senderStream_generateReport g now).NTPTime = ntp_ToNTP now ∧
    ntp_ToNTP now = ((Ntp.toNTP now : Nat) : Int) :=
  ⟨rfl, Facts.FnNtp.toNTP_src_eq_model now⟩

/-- ★ C07 clause "an RTP timestamp equal to the timestamp of the newest packet sent (first packet of its
frame) advanced by the elapsed wall time times the clock rate, modulo 2^32", on the code, first half — which
packet is the reference: after any non-empty sequence (shorter than 2^32) of generated `processRTP` calls from
the state `newSenderStream` builds, the reference candidates of the history (`Spec.accepted`: the first packet;
then every packet with use-latest-packet, else every packet newer in half-range order than the newest
candidate) split as `pre ++ q :: rest` where `rest` all carry `q`'s timestamp and the candidate before `q`
does not, and the generated state holds `lastRTPTimeRTP = q.ts`, `lastRTPTimeTime = q.now` (the FIRST packet of
the newest frame) and `lastRTPSN` = the last candidate's sequence number. -/
theorem first_of_frame_src (ssrc rate : Nat) (l : Bool) (cs : List Call) (hh : ∀ c ∈ cs, HeaderOk c.2.1)
    (hne : cs ≠ []) (hlen : cs.length < 4294967296) :
    let g := goRun (goNew ssrc rate l) cs
    ∃ pre q rest, accepted l (pkts cs) = pre ++ q :: rest ∧ (∀ r ∈ rest, r.ts = q.ts) ∧
      (∀ x, pre.getLast? = some x → x.ts ≠ q.ts) ∧
      g.lastRTPTimeRTP = (q.ts : Int) ∧ g.lastRTPTimeTime = q.now ∧
      g.lastRTPSN = ((lastSeq 0 (accepted l (pkts cs)) : Nat) : Int) := by
  intro g
  have r := rel_run ssrc rate l cs hh
  obtain ⟨pre, q, rest, h1, h2, h3, h4, h5, h6⟩ :=
    first_of_frame ssrc rate l (pkts cs) (pkts_ne cs hne) (by rw [pkts_length]; exact hlen)
  refine ⟨pre, q, rest, h1, h2, h3, ?_, ?_, ?_⟩
  · show (goRun (goNew ssrc rate l) cs).lastRTPTimeRTP = _
    rw [r.lastTs, h4]
  · have := r.lastTime
    rw [h5] at this
    exact this
  · show (goRun (goNew ssrc rate l) cs).lastRTPSN = _
    rw [r.lastSN, h6]

/-- ★ the same clause, second half — the extrapolation: under the hypotheses of `first_of_frame_src` and with
every call and the report at an `instant`, the `RTPTime` of the report the generated `generateReport` returns
is `q.ts` advanced, modulo 2^32, by `uint32(float64(seconds since q.now) · float64(rate))`, each float
operation being the exact rational one rounded to nearest-even binary64, where `q` is the first packet of the
newest frame among the reference candidates. -/
theorem rtptime_src (ssrc rate : Nat) (l : Bool) (cs : List Call) (hh : ∀ c ∈ cs, HeaderOk c.2.1)
    (ht : ∀ c ∈ cs, instant c.1) (hne : cs ≠ []) (hlen : cs.length < 4294967296) (now : Int) (hn : instant now) :
    ∃ pre q rest, accepted l (pkts cs) = pre ++ q :: rest ∧ (∀ r ∈ rest, r.ts = q.ts) ∧
      (∀ x, pre.getLast? = some x → x.ts ≠ q.ts) ∧
      (report_senderStream_generateReport (goRun (goNew ssrc rate l) cs) now).RTPTime =
        (((q.ts + F64.toUint32 (F64.rne (GoTime.seconds (now - q.now) * F64.rne (rate : Int)))) % 4294967296 : Nat) : Int) := by
  obtain ⟨pre, q, rest, h1, h2, h3, h4, h5, _⟩ :=
    first_of_frame ssrc rate l (pkts cs) (pkts_ne cs hne) (by rw [pkts_length]; exact hlen)
  refine ⟨pre, q, rest, h1, h2, h3, ?_⟩
  have e := generateReport_after_run cs hh ht (goNew ssrc rate l) (SenderReport.new ssrc rate l)
    (rel_new ssrc rate l) (timeOk_new ssrc rate l) now hn
  have hf := rtptime_formula (run (SenderReport.new ssrc rate l) (pkts cs)) q.now now h5
  have hrate : (run (SenderReport.new ssrc rate l) (pkts cs)).rate = rate := (run_const _ _).2.1
  rw [h4, hrate] at hf
  have e' : report_senderStream_generateReport (goRun (goNew ssrc rate l) cs) now
      = goSR (SenderReport.generateReport (run (SenderReport.new ssrc rate l) (pkts cs)) now) := e
  rw [e']
  show (((SenderReport.generateReport (run (SenderReport.new ssrc rate l) (pkts cs)) now).rtp : Nat) : Int) = _
  rw [hf]

/-- ★ C07 clause "out-of-order sends never move the timestamp reference backwards unless the use-latest-packet
option is set", on the code: on a stream bound without use-latest-packet, after any non-empty call sequence
(shorter than 2^32), one more generated `processRTP` call either moves `lastRTPSN` forward in half-range order
— or leaves `lastRTPSN`, `lastRTPTimeRTP` and `lastRTPTimeTime` all untouched. -/
theorem reference_monotone_src (ssrc rate : Nat) (cs : List Call) (c : Call)
    (hh : ∀ c ∈ cs, HeaderOk c.2.1) (hc : HeaderOk c.2.1) (hne : cs ≠ []) (hlen : cs.length < 4294967296) :
    let g := goRun (goNew ssrc rate false) cs
    let g' := report_senderStream_processRTP g c.1 c.2.1 c.2.2
    (g'.lastRTPSN = c.2.1.SequenceNumber ∧
        0 < (c.2.1.SequenceNumber - g.lastRTPSN) % 65536 ∧ (c.2.1.SequenceNumber - g.lastRTPSN) % 65536 < 32768) ∨
    (g'.lastRTPSN = g.lastRTPSN ∧ g'.lastRTPTimeRTP = g.lastRTPTimeRTP ∧ g'.lastRTPTimeTime = g.lastRTPTimeTime) := by
  intro g g'
  have r : Rel g _ := rel_run ssrc rate false cs hh
  have r' : Rel g' _ := processRTP_src_eq_model _ _ r c.1 c.2.1 c.2.2 hc
  have hcnt := run_packetCount_ne_zero ssrc rate false (pkts cs) (pkts_ne cs hne) (by rw [pkts_length]; exact hlen)
  obtain ⟨k, -, hk, -, -, -⟩ := hc.cast
  have hp := pktOf_seq hk c.1 c.2.2
  rcases reference_monotone _ (pktOf c.1 c.2.1 c.2.2) (run_useLatest _ _) hcnt with ⟨h1, h2⟩ | ⟨_, h2, h3, h4⟩
  · left
    rw [hp] at h1 h2
    simp only [isNewer16, Bool.and_eq_true, decide_eq_true_eq] at h1
    show g'.lastRTPSN = _ ∧ 0 < u16 _ ∧ u16 _ < 32768
    rw [r'.lastSN, h2, hk, r.lastSN, u16_sub]
    omega
  · right
    exact ⟨by rw [r'.lastSN, h2]; exact r.lastSN.symm, by rw [r'.lastTs, h3]; exact r.lastTs.symm,
      timeRel_unique (h4 ▸ r'.lastTime) r.lastTime⟩

/-- ★ the same clause, use-latest-packet set: the reference sequence number is the last one written. -/
theorem reference_latest_src (ssrc rate : Nat) (cs : List Call) (c : Call)
    (hh : ∀ c ∈ cs, HeaderOk c.2.1) (hc : HeaderOk c.2.1) :
    (goRun (goNew ssrc rate true) (cs ++ [c])).lastRTPSN = c.2.1.SequenceNumber := by
  have r := rel_run ssrc rate true (cs ++ [c]) (by
    intro x hx
    rcases List.mem_append.mp hx with h | h
    · exact hh x h
    · simp only [List.mem_singleton] at h; rw [h]; exact hc)
  obtain ⟨k, -, hk, -, -, -⟩ := hc.cast
  rw [r.lastSN, pkts_snoc, reference_latest_trace, pktOf_seq hk, hk]


/-! ## non-vacuity: the generated code evaluated on a concrete history

a two-packet frame (7, 8: timestamp 3000), a late packet 6 of an older frame, then packet 9 of a new frame whose
timestamp has wrapped. -/

def demo : List Call :=
  [(946684800000000000, { SequenceNumber := 7, Timestamp := 4294966000 }, [1, 2, 3]),
   (946684800010000000, { SequenceNumber := 8, Timestamp := 4294966000 }, [4, 5]),
   (946684800020000000, { SequenceNumber := 6, Timestamp := 4294963000 }, []),
   (946684800030000000, { SequenceNumber := 9, Timestamp := 1704 }, [6, 7, 8, 9])]

theorem demo_ok : (∀ c ∈ demo, HeaderOk c.2.1) ∧ (∀ c ∈ demo, instant c.1) := by
  constructor <;> intro c hc <;> simp only [demo, List.mem_cons, List.not_mem_nil, or_false] at hc <;>
    rcases hc with rfl | rfl | rfl | rfl <;>
    exact ⟨by decide, by decide⟩

/-- non-vacuity of `report_counts_eq_recount_src`: 4 packets, 3 + 2 + 0 + 4 octets. -/
example :
    let rep := report_senderStream_generateReport (goRun (goNew 7 90000 false) demo) 946684801000000000
    rep.PacketCount = 4 ∧ rep.OctetCount = 9 ∧ rep.SSRC = 7 := by decide +kernel

/-- non-vacuity of `ntp_field_src`: 2000-01-01 00:00:01 UTC is 3155673601 s after 1900. -/
example : (report_senderStream_generateReport (goRun (goNew 7 90000 false) demo) 946684801000000000).NTPTime
    = 3155673601 * 4294967296 := by decide +kernel

/-- non-vacuity of `first_of_frame_src`: after the first three calls the reference is packet 7's timestamp
and ITS instant (not packet 8's, the same frame; not the late packet 6's), the sequence number is 8. -/
example :
    let g := goRun (goNew 7 90000 false) (demo.take 3)
    g.lastRTPTimeRTP = 4294966000 ∧ g.lastRTPTimeTime = 946684800000000000 ∧ g.lastRTPSN = 8 ∧
    (accepted false (pkts (demo.take 3))).map (·.seq) = [7, 8] := by decide +kernel

/-- non-vacuity of `rtptime_src`: 0.97 s after packet 9 (timestamp 1704): 1704 + 87300; and across the 2^32
wrap, 0.5 s after packet 7: (4294966000 + 45000) mod 2^32 = 43704. -/
example :
    (report_senderStream_generateReport (goRun (goNew 7 90000 false) demo) 946684801000000000).RTPTime = 89004 ∧
    (report_senderStream_generateReport (goRun (goNew 7 90000 false) (demo.take 3)) 946684800500000000).RTPTime
      = 43704 := by decide +kernel

/-- non-vacuity of `reference_monotone_src`: the late packet 6 leaves the whole reference untouched, packet 9
moves it forward. -/
example :
    let g := goRun (goNew 7 90000 false) (demo.take 2)
    let g6 := report_senderStream_processRTP g 946684800020000000 { SequenceNumber := 6, Timestamp := 4294963000 } []
    let g9 := report_senderStream_processRTP g6 946684800030000000 { SequenceNumber := 9, Timestamp := 1704 } [6]
    (g6.lastRTPSN = g.lastRTPSN ∧ g6.lastRTPTimeRTP = g.lastRTPTimeRTP ∧ g6.lastRTPTimeTime = g.lastRTPTimeTime) ∧
    g9.lastRTPSN = 9 := by decide +kernel

/-- non-vacuity of `reference_latest_src`: with use-latest-packet the late packet 6 becomes the reference. -/
example : (goRun (goNew 7 90000 true) (demo.take 2 ++ [(946684800020000000, { SequenceNumber := 6, Timestamp := 4294963000 }, [])])).lastRTPSN = 6 := by
  decide +kernel

end Interceptor.C07Src
