/-
C09.T4 `generator_compat` (TWCC half) — composition of C05 (Props/C05.lean: the recorder model
emits feedback whose independent decoding is exactly the recorded arrivals) with C09's decoders:
every feedback packet the C05 model can emit, in the parsed form pion/rtcp hands over
(`toParsed`: Proofs/TwccCompat.lean), is decoded
  * by `rtpfb.convertTWCC` to exactly one acknowledgement per status of the C05 decoding
    (`TwccSpec.decode` of the marshalled bytes), same number, arrived ⇔ the status carries a time,
    arrival = that time;
  * by `cc.FeedbackAdapter.OnTransportCCFeedback` to the history entries of exactly those numbers
    with those times — followed by `pad` further "lost" entries for the numbers after the declared
    range (the chunk padding; known finding F-15).
Only property theorems live here. The RFC 8888 half (composition with the C08 model) is not proved;
it is covered by the `ccfb-recorder` correspondence classes.
-/
import Interceptor.Props.C05
import Interceptor.Props.C09
import Interceptor.Proofs.TwccCompat
namespace Interceptor.C09Compat
open Interceptor Interceptor.Twcc Interceptor.TwccSpec

/-- T4 per packet, rtpfb (`generator_compat_packet`): for every feedback the recorder can assemble,
`convertTWCC` of its parsed form returns `entryToRAck` of each entry of the C05 structured decoding,
in order — and (C05.T4) the entries carrying a time are exactly the logged `(number, time)` pairs,
within 125 µs modulo the reference-time range, all others "not received". -/
theorem generator_compat_packet {f : Feedback} {log : List (Nat × Int)} (h : BuiltLog f log)
    (hc : f.count < 65536) (hr : 0 ≤ f.ref64) :
    Rtpfb.convertTWCC (toParsed f.getRTCP) = .ok (f.getRTCP.decodeStruct.map entryToRAck) ∧
    f.getRTCP.decodeStruct.length = f.getRTCP.count ∧
    ReportsAll ((f.getRTCP.decodeStruct.map (shiftEntry (f.ref64 / 16777216 * 1073741824000))).filter
      (fun e => e.time.isSome)) log ∧
    (∀ e ∈ f.getRTCP.decodeStruct, e.time = none → e.status = 0) := by
  obtain ⟨d1, d2, d3⟩ := decode_sound_packet h hc hr
  refine ⟨?_, d1, d2, d3⟩
  rw [C09.convertTWCC_eq_spec, decodeTWCC_toParsed (builtLog_built h) hc]
  simp only [filterMap_entryConv]

/-- T4 per packet, adapter: for every history `H`, the adapter returns the history entry of each
number of the C05 decoding with that entry's time, then `pad` entries for the numbers after the
declared range, reported as lost (F-15: the padding symbols of the last chunk). -/
theorem generator_compat_packet_adapter {f : Feedback} {log : List (Nat × Int)} (h : BuiltLog f log)
    (hc : f.count < 65536) (hb : f.base < 65536) (H : FeedbackAdapter.Hist) :
    ∃ pad, FeedbackAdapter.onTWCC H (toParsed f.getRTCP) =
      .ok ((f.getRTCP.decodeStruct.map entryConv ++
          Feedback.Spec.number (f.getRTCP.base + f.getRTCP.count) (List.replicate pad .lost)).map
        fun e => FeedbackAdapter.entry H e.1 e.2.time) := by
  obtain ⟨pad, hp⟩ := decodeTWCCAll_toParsed (builtLog_built h) hc
  refine ⟨pad, ?_⟩
  rw [C09.onTWCC_eq_spec H (toParsed f.getRTCP) hb (chunkOK_toParsed _), hp]

/-- ★ T4 `generator_compat` (TWCC): in every reachable recorder state, `BuildFeedbackPacket` returns
packets that partition the received numbers from the cursor on (C05.T4/T5); for each packet, the
independent decoder accepts its bytes, and BOTH C09 decoders, fed the parsed form, return exactly
that decoding: rtpfb one acknowledgement per status (arrived ⇔ timed, arrival = the decoded time,
which is within 125 µs of the recorded arrival modulo 2^24·64 ms), the adapter the history entries
of the same numbers with the same times (plus trailing "lost" padding entries, F-15). -/
theorem generator_compat {r : Recorder} (hr : Reach r) (s : Int) (hs : r.start = some s) :
    ∃ groups : List (Feedback × List (Int × Int)),
      r.build.2 = groups.map (fun g => g.1.getRTCP) ∧
      (groups.map (·.2)).flatten = received r.map s r.map.endSN ∧
      ∀ g ∈ groups, ∃ es : List Entry,
        TwccSpec.decode g.1.getRTCP.toWire = some es ∧
        Rtpfb.convertTWCC (toParsed g.1.getRTCP) = .ok (es.map entryToRAck) ∧
        (∀ H : FeedbackAdapter.Hist, ∃ pad, FeedbackAdapter.onTWCC H (toParsed g.1.getRTCP) =
          .ok ((es.map entryConv ++
              Feedback.Spec.number (g.1.getRTCP.base + g.1.getRTCP.count) (List.replicate pad .lost)).map
            fun e => FeedbackAdapter.entry H e.1 e.2.time)) ∧
        (∃ K : Int, K % 1073741824000 = 0 ∧
          ReportsAll ((es.map (shiftEntry K)).filter (fun e => e.time.isSome)) (g.2.map wire)) ∧
        (∀ e ∈ es, e.time = none → e.status = 0) := by
  obtain ⟨groups, g1, g2, g3⟩ := reach_groups hr s hs
  refine ⟨groups, g1, g2, ?_⟩
  intro g hg
  obtain ⟨B, c, hcov, hb⟩ := g3 g hg
  have hcnt : g.1.count < 65536 := by have := hcov.count; omega
  have hbase : g.1.base < 65536 := by rw [hcov.base]; omega
  obtain ⟨c1, d1, d2, d3⟩ := generator_compat_packet hcov.built hcnt hcov.ref
  refine ⟨_, wire_decode (builtLog_built hcov.built) hcnt, c1, ?_, ⟨_, by omega, d2⟩, d3⟩
  intro H
  exact generator_compat_packet_adapter hcov.built hcnt hbase H

/-- non-vacuity: a reachable recorder with one recorded packet has a cursor. -/
example : ∃ r : Recorder, Reach r ∧ r.start ≠ none :=
  ⟨(newRecorder 1).record 2 10 1000, .record 2 10 1000 (.new 1), by decide⟩

end Interceptor.C09Compat
