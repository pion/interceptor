/-
C15 — transport-wide sequence numbers are gap-free and unique across streams.
Model: `Model/TwccHdr.lean` (+ `Base/RtpHeader.lean`).
-/
import Interceptor.Proofs.TwccHdr
namespace Interceptor.TwccHdr
open Interceptor.Rtp

/-- the `i`-th of `k` numbers handed out from counter `c0` is `(c0 + i) mod 2^16`, also when the
uint32 counter wraps on the way (2^16 divides 2^32). -/
theorem assigned_eq (c0 k : Nat) :
    assigned c0 k = (List.range k).map fun i => (c0 + i) % 65536 := by
  induction k generalizing c0 with
  | zero => rfl
  | succ k ih =>
    rw [assigned, ih, List.range_succ_eq_map, List.map_cons, List.map_map]
    congr 1
    apply List.map_congr_left
    intro i _
    simp only [alloc, Function.comp, M32]
    omega

/-- ★ T1 `consecutive`: for EVERY schedule (an arbitrary interleaving of the steps of any number
of writer threads, started at any counter value), the numbers handed out, in the order of the
atomic steps, are `c0, c0+1, c0+2, …` modulo 2^16 — no gap, and continuous across the 16-bit
wrap and across the wrap of the uint32 counter. -/
theorem consecutive (c0 : Nat) (sched : List Nat) :
    ((Machine.init c0).run sched).numbers =
      (List.range ((Machine.init c0).run sched).numbers.length).map fun i => (c0 + i) % 65536 := by
  have h := (inv_run c0 sched (Machine.init c0) (by simp [Inv, Machine.init])).2
  unfold Machine.numbers
  rw [List.map_reverse, h, List.reverse_reverse]
  simp

theorem numbers_getElem (c0 : Nat) (sched : List Nat) (k : Nat)
    (hk : k < ((Machine.init c0).run sched).numbers.length) :
    ((Machine.init c0).run sched).numbers[k] = (c0 + k) % 65536 := by
  have := congrArg (fun l => l[k]?) (consecutive c0 sched)
  simp only [List.getElem?_map, List.getElem?_range hk, Option.map_some] at this
  rw [List.getElem?_eq_getElem hk] at this
  exact Option.some.inj this

/-- ★ T1b `no_duplicates`: under every schedule two different atomic steps less than 2^16 apart
never hand out the same number. -/
theorem no_duplicates (c0 : Nat) (sched : List Nat) (i j : Nat)
    (hij : i < j) (hw : j - i < 65536)
    (hj : j < ((Machine.init c0).run sched).numbers.length) :
    ((Machine.init c0).run sched).numbers[i]'(by omega) ≠
      ((Machine.init c0).run sched).numbers[j] := by
  rw [numbers_getElem c0 sched i (by omega), numbers_getElem c0 sched j hj]
  omega

/-- ★ T1c `successor`: consecutive atomic steps hand out successive numbers modulo 2^16
(the form in which a receiver sees "no gap"). -/
theorem successor (c0 : Nat) (sched : List Nat) (i : Nat)
    (hi : i + 1 < ((Machine.init c0).run sched).numbers.length) :
    ((Machine.init c0).run sched).numbers[i + 1] =
      (((Machine.init c0).run sched).numbers[i]'(by omega) + 1) % 65536 := by
  rw [numbers_getElem c0 sched (i + 1) hi, numbers_getElem c0 sched i (by omega)]
  omega

/-! ### every allocated number is forwarded exactly once, by the thread that allocated it -/

/-- ★ T1d `forwarded_once`: under every schedule, the packets that reached the bottom writer
together with the Writes still in flight carry exactly the numbers that were handed out, each
exactly once, each by the thread that obtained it.  In particular for a schedule in which every
Write has completed (`pend = []`) the forwarded (thread, number) pairs are a permutation of the
allocation log, i.e. (by `consecutive`) of one consecutive run. -/
theorem forwarded_once (c0 : Nat) (sched : List Nat) :
    let m := (Machine.init c0).run sched
    (m.pend ++ m.out).Perm m.logR.reverse := by
  have key : ∀ (m : Machine), (m.pend ++ m.outR).Perm m.logR →
      ((m.run sched).pend ++ (m.run sched).outR).Perm (m.run sched).logR := by
    induction sched with
    | nil => intro m h; exact h
    | cons t ts ih => intro m h; exact ih (m.step t) (perm_step m t h)
  have h := key (Machine.init c0) (by simp [Machine.init])
  simp only [Machine.out]
  exact ((List.Perm.append_left _ (List.reverse_perm _)).trans h).trans (List.reverse_perm _).symm

/-- non-vacuity of T1/T1d: three threads, interleaved allocations and forwards, across the uint32 wrap. -/
example :
    let m := (Machine.init 4294967295).run [0, 1, 1, 2, 0, 2, 1, 1]
    m.numbers = [65535, 0, 1, 2] ∧ m.out = [(1, 0), (0, 65535), (2, 1), (1, 2)] ∧ m.pend = [] := by
  decide

/-- ★ T2 `only_extension_changes`: a Write on a stream that negotiated id `id ≠ 0`, with a header
pion/rtp accepts (`accepts`: no extension block yet, or a one-byte block and `1 ≤ id ≤ 14`, or a
two-byte block), calls the next writer exactly once with the same payload and a header that
equals the caller's in every field outside the extension block; the block holds the number
`c mod 2^16` (big endian) under `id` — replaced if the id was present, appended otherwise —, all
other elements are untouched and in place, an existing profile is kept and a header without
extension block gets the one-byte profile; the caller receives the next writer's result, and the
counter advanced by one. -/
theorem only_extension_changes (c id : Nat) (h : Header) (payload : Bytes) (bottom : BottomRes)
    (hid : id ≠ 0) (hacc : accepts h id = true) :
    ∃ h', write c id (some h) payload bottom =
        ((c + 1) % M32,
         { forwarded := some (some h', payload),
           ret := (bottom.1, if bottom.2 then some .bottom else none) }) ∧
      sameButExtensions h h' ∧ h'.extension = true ∧
      (h.extension = true → h'.profile = h.profile ∧
          h'.extensions = setElem h.extensions id (be16 (c % 65536))) ∧
      (h.extension = false → h'.profile = profOneByte ∧
          h'.extensions = h.extensions ++ [(id, be16 (c % 65536))]) ∧
      h'.extensions.filter (·.1 ≠ id) = h.extensions.filter (·.1 ≠ id) ∧
      (h.extension = true ∨ h.extensions = [] → getExtension h' id = some (be16 (c % 65536))) := by
  cases hx : h.extension
  · -- no extension block yet
    refine ⟨{ h with extension := true, profile := profOneByte, extensions := h.extensions ++ [(id, be16 (c % 65536))] }, ?_, ?_⟩
    · simp [write, hid, stamp, alloc, setExtension, hx, be16]
    · refine ⟨by simp [sameButExtensions], rfl, by simp, by simp, ?_, ?_⟩
      · simp [List.filter_append]
      · intro hh
        rcases hh with hh | hh
        · simp at hh
        · simp [getExtension, hh]
  · -- existing block: the profile check passes by `accepts`
    have hchk : extensionCheck h.profile id (be16 (c % 65536)) = none := by
      simp only [accepts, hx, Bool.not_true, Bool.false_or, Bool.or_eq_true, Bool.and_eq_true,
        beq_iff_eq, decide_eq_true_eq] at hacc
      unfold extensionCheck
      have hlen : (be16 (c % 65536)).length = 2 := rfl
      rw [hlen]
      rcases hacc with ⟨hp, h1, h2⟩ | ⟨hp, h1⟩
      · rw [if_pos hp, if_neg (by omega), if_neg (by omega)]
      · rw [if_neg (by rw [hp]; decide), if_pos hp, if_neg (by omega), if_neg (by omega)]
    refine ⟨{ h with extensions := setElem h.extensions id (be16 (c % 65536)) }, ?_, ?_⟩
    · simp [write, hid, stamp, alloc, setExtension, hx, hchk]
    · refine ⟨by simp [sameButExtensions], hx, by simp, by simp, setElem_others _ _ _, ?_⟩
      intro _
      simp [getExtension, hx, setElem_find]

/-- non-vacuity of T2: a one-byte header that already carries the id (replaced) and a two-byte one (appended). -/
example :
    (write 65535 5 (some { extension := true, profile := profOneByte, extensions := [(3, [7]), (5, [1, 1])], csrc := [9] })
      [1, 2] (2, false)).2.forwarded =
      some (some { extension := true, profile := profOneByte, extensions := [(3, [7]), (5, [255, 255])], csrc := [9] }, [1, 2]) ∧
    (write 65536 5 (some { extension := true, profile := profTwoByte, extensions := [(200, [7])] })
      [] (0, false)).2.forwarded =
      some (some { extension := true, profile := profTwoByte, extensions := [(200, [7]), (5, [0, 0])] }, []) := by
  decide

/-- ★ T3 `untouched_if_not_negotiated`: if the stream's extension list has no transport-cc entry,
or the first one has id 0 (as `uint8`), the interceptor is not in the path at all: the next
writer sees the caller's header (also a nil one) and payload unchanged, the caller sees its
result, and the shared counter does not move. -/
theorem untouched_if_not_negotiated (exts : List ExtDecl) (c : Nat) (h : Option Header)
    (payload : Bytes) (bottom : BottomRes)
    (hn : (∀ e ∈ exts, e.1 = false) ∨ ∃ e, exts.find? (·.1) = some e ∧ e.2 % 256 = 0) :
    write c (negotiatedId exts) h payload bottom =
      (c, { forwarded := some (h, payload),
            ret := (bottom.1, if bottom.2 then some .bottom else none) }) := by
  have hz : negotiatedId exts = 0 := by
    unfold negotiatedId
    rcases hn with hn | ⟨e, he, h0⟩
    · have : exts.find? (·.1) = none := by
        rw [List.find?_eq_none]; intro e he; simp [hn e he]
      rw [this]
    · rw [he]; simp [h0]
  simp [write, hz]

/-- the lookup returns the id of the first transport-cc entry, truncated like `uint8(e.ID)`. -/
theorem negotiatedId_first (pre : List ExtDecl) (id : Int) (post : List ExtDecl)
    (hpre : ∀ e ∈ pre, e.1 = false) :
    negotiatedId (pre ++ (true, id) :: post) = (id % 256).toNat := by
  unfold negotiatedId
  have : (pre ++ (true, id) :: post).find? (·.1) = some (true, id) := by
    induction pre with
    | nil => simp
    | cons e rest ih =>
      have he : e.1 = false := hpre e List.mem_cons_self
      simp only [List.cons_append, List.find?_cons, he]
      exact ih (fun e h => hpre e (List.mem_cons_of_mem _ h))
  rw [this]

example : negotiatedId [(false, 3), (true, 5), (true, 7)] = 5 ∧ negotiatedId [(true, 256)] = 0 ∧
    negotiatedId [(false, 1)] = 0 ∧ negotiatedId [(true, 257)] = 1 := by decide

/-! ### the guard: what happens at the inputs pion/rtp rejects -/

/-- `rejected_consumes_number` (the excluded points): on a negotiated stream a nil header or a
header `SetExtension` rejects (an RFC 3550 extension block; a one-byte block with id > 14) is NOT
forwarded, the caller gets `(0, err)`, and the number is consumed all the same — the run seen by
the receiver then has a gap.  These inputs are outside C15's quantifier (ids 1..14, RFC 8285
profiles); they are run against the implementation as the class `excluded`. -/
theorem rejected_consumes_number (c id : Nat) (h : Option Header) (payload : Bytes)
    (bottom : BottomRes) (hid : id ≠ 0)
    (hrej : h = none ∨ ∃ h', h = some h' ∧ accepts h' id = false) :
    ∃ e, write c id h payload bottom = ((c + 1) % M32, { forwarded := none, ret := (0, some e) }) := by
  rcases hrej with hn | ⟨h', hh, hacc⟩
  · subst hn
    exact ⟨.headerNil, by simp [write, hid, stamp, alloc]⟩
  · subst hh
    have hx : h'.extension = true := by
      cases hx : h'.extension
      · simp [accepts, hx] at hacc
      · rfl
    have hchk : ∃ e, extensionCheck h'.profile id (be16 (c % 65536)) = some e := by
      simp only [accepts, hx, Bool.not_true, Bool.false_or, Bool.or_eq_false_iff,
        Bool.and_eq_false_iff, beq_eq_false_iff_ne, decide_eq_false_iff_not] at hacc
      unfold extensionCheck
      by_cases h1 : h'.profile = profOneByte
      · have := hacc.1
        simp only [h1, if_true]
        by_cases h2 : id < 1 ∨ id > 14
        · exact ⟨_, by rw [if_pos h2]⟩
        · exfalso; rcases this with h3 | h3
          · exact h3 h1
          · omega
      · by_cases h2 : h'.profile = profTwoByte
        · exfalso
          rcases hacc.2 with h3 | h3
          · exact h3 h2
          · omega
        · exact ⟨.rfc3550Id, by simp [h1, h2, hid]⟩
    obtain ⟨e, he⟩ := hchk
    exact ⟨.ext e, by simp [write, hid, stamp, alloc, setExtension, hx, he]⟩

/-- the guard is not vacuous in either direction. -/
example : accepts { extension := true, profile := 0x1234, extensions := [(0, [1, 2, 3, 4])] } 5 = false ∧
    accepts { extension := true, profile := profOneByte } 15 = false ∧
    accepts { extension := true, profile := profOneByte } 14 = true ∧
    accepts { extension := true, profile := profTwoByte } 200 = true ∧ accepts {} 5 = true := by decide

end Interceptor.TwccHdr
