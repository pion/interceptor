/-
C20 — sequence-number unwrapping (NTP part: Props/C20Ntp.lean, C20NtpRoundTrip.lean; on the generated code: Props/C20Src.lean).
-/
import Interceptor.Proofs.Unwrapper
namespace Interceptor.Unwrapper

/-- ★ T1: result congruent to the input modulo 2^16 (any state). -/
theorem unwrap_mod (last : Int) (i : Nat) (hi : i < 65536) :
    step last i % 65536 = (i : Int) := by
  obtain ⟨d, _, _, hm, hs⟩ := step_spec last i hi
  omega

/-- ★ T2: non-negative results stay non-negative. -/
theorem unwrap_nonneg (last : Int) (i : Nat) (h : 0 ≤ last) (hi : i < 65536) : 0 ≤ step last i := by
  obtain ⟨d, _, _, _, hs⟩ := step_spec last i hi
  omega

/-- ★ T3, the half that holds in every state: the result is never more than 2^15 below the last one.  (The other
half, never more than 2^15 above it, fails at the first epoch: `unwrap_close_false`, F-32.) -/
theorem unwrap_not_far_below (last : Int) (i : Nat) (hi : i < 65536) :
    last - 32768 ≤ step last i := by
  obtain ⟨d, _, _, _, hs⟩ := step_spec last i hi
  omega

/-- T3 `_partial`: closeness under the hypothesis the code forces (`last ≥ 2^15`, i.e. the
floor-at-zero branch cannot fire).  Missing for the full statement: the first epoch. -/
theorem unwrap_close_partial (last : Int) (i : Nat) (h : 32768 ≤ last) (hi : i < 65536) :
    step last i - last ≤ 32768 ∧ last - step last i ≤ 32768 := by
  obtain ⟨d, _, _, _, hs⟩ := step_spec last i hi
  omega

/-- The full-strength closeness statement is false of the code: F-32 witness `[0, 65535]`. -/
theorem unwrap_close_false : ¬ (∀ (last : Int) (i : Nat), 0 ≤ last → i < 65536 →
    step last i - last ≤ 32768 ∧ last - step last i ≤ 32768) := by
  intro h
  have := h 0 65535 (by decide) (by decide)
  revert this
  decide

/-- single step reconstructs any non-negative true value within half range of the last one. -/
theorem step_exact (last w : Int) (h0 : 0 ≤ last) (hw : 0 ≤ w)
    (hc : w - last < 32768 ∧ last - w < 32768) :
    step last (w % 65536).toNat = w := by
  obtain ⟨d, _, _, hm, hs⟩ := step_spec last (w % 65536).toNat (lastWrapped_lt w)
  rw [lastWrapped_cast] at hm
  omega

/-- consecutive elements (starting from `a`) satisfy `r`. -/
def Chain (r : Int → Int → Prop) : Int → List Int → Prop
  | _, [] => True
  | a, b :: l => r a b ∧ Chain r b l

/-- the induction behind T4: from the state `a − base` (`base` a multiple of 2^16 not above any
value) a stream whose consecutive values differ by less than 2^15 is reconstructed relative to
`base`. -/
theorem unwrapAll_from (base : Int) (hb : base % 65536 = 0) : ∀ (ws : List Int) (a : Int), base ≤ a →
    Chain (fun a b => b - a < 32768 ∧ a - b < 32768) a ws → (∀ v ∈ ws, base ≤ v) →
    unwrapAll (some (a - base)) (ws.map fun v => (v % 65536).toNat) = ws.map (fun v => v - base)
  | [], _, _, _, _ => rfl
  | w :: ws, a, ha, hch, hfl => by
    have hw : base ≤ w := hfl w (List.mem_cons_self ..)
    have e : (w % 65536).toNat = ((w - base) % 65536).toNat := by
      rw [Int.sub_emod, hb, Int.sub_zero, Int.emod_emod_of_dvd _ (Int.dvd_refl _)]
    have hs : step (a - base) ((w % 65536).toNat) = w - base := by
      rw [e]; exact step_exact (a - base) (w - base) (by omega) (by omega) (by have := hch.1; omega)
    simp only [List.map_cons, unwrapAll, unwrap, hs]
    congr 1
    exact unwrapAll_from base hb ws w hw hch.2 (fun v hv => hfl v (List.mem_cons_of_mem _ hv))

/-- ★ T4: any stream whose consecutive true values differ by less than 2^15 (and which never
goes below the first value's epoch) is reconstructed exactly, relative to that epoch. -/
theorem unwrap_exact (v0 : Int) (vs : List Int) (h0 : 0 ≤ v0)
    (hstep : Chain (fun a b => b - a < 32768 ∧ a - b < 32768) v0 vs)
    (hfloor : ∀ v ∈ vs, v0 - v0 % 65536 ≤ v) :
    unwrapAll none ((v0 :: vs).map fun v => (v % 65536).toNat)
      = (v0 :: vs).map (fun v => v - (v0 - v0 % 65536)) := by
  have hb : (v0 - v0 % 65536) % 65536 = 0 := by omega
  have hm : 0 ≤ v0 % 65536 := Int.emod_nonneg _ (by decide)
  simp only [List.map_cons, unwrapAll, unwrap]
  have key := unwrapAll_from _ hb vs v0 (by omega) hstep hfloor
  rw [Int.sub_sub_self] at key
  rw [Int.toNat_of_nonneg hm, Int.sub_sub_self, key]

/-- non-vacuity: a concrete stream across the wrap meets the hypotheses of `unwrap_exact`. -/
example : unwrapAll none ([65534, 65535, 65537, 65536, 70000].map fun v : Int => (v % 65536).toNat)
    = [65534, 65535, 65537, 65536, 70000] := by decide

end Interceptor.Unwrapper
