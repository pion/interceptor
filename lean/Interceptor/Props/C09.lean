/-
C09 — feedback decoding attributes each acknowledgement to the right sent packet.
Models: Model/FeedbackAdapter.lean (internal/cc, after the fix of F-14),
Model/Rtpfb.lean (pkg/rtpfb, after the fixes of F-15, F-16, F-17, F-18, F-40).
Spec: Spec/Feedback.lean (flat decoders without any history).
★ = full-strength clause of the property.
Known findings kept in the code because existing tests of the package demand them (adapter only):
F-15 (symbols beyond PacketStatusCount decoded), F-14b (zero-valued acknowledgements for
numbers not in the history), F-14c (symbol 3 consumes a delta) → `_partial` + `_false`.
-/
import Interceptor.Proofs.RtpfbHistory
import Interceptor.Proofs.RtpfbAcked
import Interceptor.Proofs.FeedbackLru
import Interceptor.Proofs.RtpfbSpec
set_option linter.unusedVariables false
namespace Interceptor.C09
open Interceptor Interceptor.Feedback Interceptor.Feedback.Spec

section Adapter
open Interceptor.FeedbackAdapter

/-- ★ T1 (value): for every history `H` and every TWCC feedback made of run-length /
status-vector chunks with the symbols 0, 1, 2, the adapter returns exactly the spec decoder's
statuses (all symbols, see F-15) with the history entry of each number attached — or rejects
the feedback exactly when the spec does (fewer deltas than received symbols).
Hypothesis forced by the code: no symbol 3 / unknown chunk type (F-14c). -/
theorem onTWCC_eq_spec (H : Hist) (fb : Twcc) (hb : fb.base < 65536)
    (hok : ∀ c ∈ fb.chunks, ChunkOK c) :
    onTWCC H fb =
      match decodeTWCCAll fb with
      | none => .err "invalid"
      | some l => .ok (l.map fun e => entry H e.1 e.2.time) := by
  unfold onTWCC decodeTWCCAll
  rw [chunkLoop_eq_walk H fb.chunks hok fb.base _ fb.deltas hb]
  cases walk (refTime fb.ref) (symbols fb.chunks) fb.deltas with
  | none => rfl
  | some r => rfl

/-- ★ T1 `ack_independent_of_neighbours`: whether the feedback is accepted does not depend on
the history at all, and the acknowledgement at position `j` (number `(base + j) mod 2^16`)
depends on the history only through the entry of that number: two histories that agree on
it yield the same acknowledgement, whatever else they contain.  False before the fix of F-14
(witness corpus/C09/F-14.ops, F-14-error.ops). -/
theorem ack_independent_of_neighbours (H H' : Hist) (fb : Twcc) (hb : fb.base < 65536)
    (hok : ∀ c ∈ fb.chunks, ChunkOK c) :
    ((∃ A, onTWCC H fb = .ok A) ↔ (∃ A', onTWCC H' fb = .ok A')) ∧
    ∀ A A', onTWCC H fb = .ok A → onTWCC H' fb = .ok A' →
      A.length = A'.length ∧
      ∀ j, get H 0 ((fb.base + j) % 65536) = get H' 0 ((fb.base + j) % 65536) → A[j]? = A'[j]? := by
  rw [onTWCC_eq_spec H fb hb hok, onTWCC_eq_spec H' fb hb hok]
  cases hd : decodeTWCCAll fb with
  | none => simp
  | some l =>
    refine ⟨by simp, ?_⟩
    intro A A' hA hA'
    simp only [Res.ok.injEq] at hA hA'
    subst hA hA'
    refine ⟨by simp, ?_⟩
    intro j hj
    simp only [List.getElem?_map]
    cases hl : l[j]? with
    | none => rfl
    | some e =>
      unfold decodeTWCCAll at hd
      simp only [Option.map_eq_some_iff] at hd
      obtain ⟨r, _, rfl⟩ := hd
      have := (number_get r.1 fb.base j e hl).1
      simp only [Option.map_some, entry, this, hj]

/-- T2 `acks_are_sent_packets` for TWCC, `_partial`: every acknowledgement returned is either
the zero value (number not in the history — F-14b, demanded by a test) or names a packet of the
history with its recorded size, departure and SSRC key.  No hypothesis on the feedback. -/
theorem acks_are_sent_packets_partial (H : Hist) (fb : Twcc) (A : List Ack)
    (hA : onTWCC H fb = .ok A) :
    ∀ a ∈ A, a = Ack.zero ∨
      ∃ p ∈ H, p.ssrc = 0 ∧ a.seq = p.seq ∧ a.ssrc = p.ssrc ∧ a.size = p.size ∧
        a.departure = p.departure := by
  intro a ha
  have hs := chunkLoop_sat H fb.chunks fb.base (refTime fb.ref) fb.deltas
  unfold onTWCC at hA
  rw [hA] at hs
  obtain ⟨q, t, rfl⟩ := hs a ha
  rcases entry_cases H q t with ⟨_, hz⟩ | ⟨p, _, hm, hs0, _, h1, h2, h3, h4, _⟩
  · left; exact hz
  · right; exact ⟨p, hm, hs0, h1, h2, h3, h4⟩

/-- The full-strength T2 is false of the TWCC adapter (F-14b): with an empty history the
feedback "number 0 lost" yields an acknowledgement although nothing was sent. -/
theorem acks_are_sent_packets_false :
    ¬ (∀ (H : Hist) (fb : Twcc) (A : List Ack), onTWCC H fb = .ok A → ∀ a ∈ A, ∃ p ∈ H, a.seq = p.seq) := by
  intro h
  have := h [] ⟨0, 1, 0, [.rl 0 1], []⟩ [Ack.zero] (by decide) Ack.zero (by simp)
  simp at this

/-- ★ T2 `acks_are_sent_packets` for RFC 8888: every acknowledgement names a packet of the
history (same SSRC and sequence number) with its recorded size and departure. -/
theorem acks_are_sent_packets_ccfb (H : Hist) (fb : Ccfb) :
    ∀ a ∈ onCCFB H fb, ∃ p ∈ H, a.seq = p.seq ∧ a.ssrc = p.ssrc ∧ a.size = p.size ∧
      a.departure = p.departure := by
  intro a ha
  obtain ⟨b, _, hb⟩ := List.mem_flatMap.mp ha
  generalize b.metrics = ms, 0 = i at hb
  induction ms generalizing i with
  | nil => cases hb
  | cons m ms ih =>
    unfold metricLoop at hb
    simp only at hb
    cases hg : get H b.ssrc ((b.begin + i % 65536) % 65536) with
    | none => rw [hg] at hb; exact ih _ hb
    | some p =>
      rw [hg] at hb
      rcases List.mem_cons.mp hb with rfl | hb
      · exact ⟨p, (get_mem H _ _ p hg).1, by split <;> simp⟩
      · exact ih _ hb

/-- ★ RFC 8888 value clause: the acknowledgements of one report block are exactly the spec's
statuses of the numbers that are in the history, in order, with arrival time and ECN as the
report encodes them. Hypothesis forced by the code: no offset 0x1FFF ("unavailable"), which
the adapter turns into a time instead of "no time" (F-14d). -/
theorem onCCFB_block_eq_spec (H : Hist) (ref : Int) (ssrc : Nat) (ms : List Metric)
    (hato : ∀ m ∈ ms, m.ato ≠ 0x1FFF) : ∀ (i : Nat),
    metricLoop H ref ssrc (i % 65536) ms 0 =
      (numberC ref i ms).filterMap fun e =>
        (get H ssrc e.1).map fun p =>
          if e.2.received then { p with arrival := e.2.arrival.getD p.arrival, ecn := e.2.ecn } else p := by
  intro i
  -- the loop at index `k` produces the statuses from number `i + k` on
  show metricLoop H ref ssrc (i % 65536) ms 0 = (numberC ref (i + 0) ms).filterMap _
  generalize 0 = k
  induction ms generalizing k with
  | nil => rfl
  | cons m ms ih =>
    have hm : m.ato ≠ 0x1FFF := hato m (List.mem_cons_self ..)
    unfold metricLoop numberC
    simp only [← Nat.add_mod, List.filterMap_cons]
    rw [ih (fun x hx => hato x (List.mem_cons_of_mem _ hx)) (k + 1)]
    cases get H ssrc ((i + k) % 65536) with
    | none => rfl
    | some p =>
      simp only [Option.map_some]
      congr 1
      unfold metricSt
      by_cases hr : m.received <;> simp [hr, hm]

/-- T3 `within_declared_range` for the adapter, `_partial`: when the chunks carry no more
symbols than `PacketStatusCount` declares (no padding, no run beyond the count), every
acknowledgement sits at a position inside `[base, base + count)`. Missing for the full
statement: padded final chunks (F-15, demanded by the test ignoresPossiblyInFlightPackets). -/
theorem within_declared_range_adapter_partial (H : Hist) (fb : Twcc) (hb : fb.base < 65536)
    (hok : ∀ c ∈ fb.chunks, ChunkOK c) (hfull : (symbols fb.chunks).length ≤ fb.count)
    (A : List Ack) (hA : onTWCC H fb = .ok A) :
    A.length ≤ fb.count ∧
    ∀ j a, A[j]? = some a → j < fb.count ∧ ∃ t, a = entry H ((fb.base + j) % 65536) t := by
  rw [onTWCC_eq_spec H fb hb hok] at hA
  unfold decodeTWCCAll at hA
  cases hw : walk (refTime fb.ref) (symbols fb.chunks) fb.deltas with
  | none => rw [hw] at hA; simp at hA
  | some r =>
    rw [hw] at hA
    simp only [Option.map_some, Res.ok.injEq] at hA
    subst hA
    have hl : (number fb.base r.1).length ≤ fb.count := by
      rw [number_length, (walk_length _ _ _ _ hw).1]; exact hfull
    refine ⟨by rw [List.length_map]; exact hl, fun j a hj => ?_⟩
    rw [List.getElem?_map, Option.map_eq_some_iff] at hj
    obtain ⟨e, he, rfl⟩ := hj
    exact ⟨Nat.lt_of_lt_of_le (List.getElem?_eq_some_iff.mp he).1 hl, e.2.time,
      by rw [(number_get r.1 fb.base j e he).1]⟩

/-- The full-strength T3 is false of the adapter (F-15): count 2, one two-bit vector chunk
(7 symbols): packet 2 — outside `[0, 2)`, possibly still in flight — is reported as lost. -/
theorem within_declared_range_adapter_false :
    ¬ (∀ (H : Hist) (fb : Twcc) (A : List Ack), onTWCC H fb = .ok A →
        ∀ j a, A[j]? = some a → a ≠ Ack.zero → j < fb.count) := by
  intro h
  have := h [⟨2, 0, 120, 5, 0, 0⟩] ⟨0, 2, 0, [.sv [1, 1, 0, 0, 0, 0, 0]], [250, 250]⟩
    [Ack.zero, Ack.zero, ⟨2, 0, 120, 5, 0, 0⟩, Ack.zero, Ack.zero, Ack.zero, Ack.zero] (by decide)
    2 ⟨2, 0, 120, 5, 0, 0⟩ (by decide) (by decide)
  simp at this

/-- ★ T6 `lru_bound`: the adapter's history never exceeds 250 entries … -/
theorem lru_bound (h : Hist) (a : Ack) (hl : h.length ≤ lruSize) : (add h a).length ≤ lruSize :=
  add_length_le h a hl

/-- … and eviction is oldest-first: adding a new key to a full history drops exactly the
entry that was added (or refreshed) longest ago. -/
theorem lru_evicts_oldest (h : Hist) (a : Ack) (hfull : h.length = lruSize)
    (hnew : h.any (sameKey a.ssrc a.seq) = false) : add h a = a :: h.dropLast := by
  rw [add_of_not_mem h a (by rw [hnew]; exact Bool.false_ne_true), if_pos (by rw [List.length_cons, hfull]; exact Nat.lt_succ_self _)]
  cases h with
  | nil => cases hfull
  | cons x xs => rfl


/-- T6 `lru_readd_moves_to_front`: sending a packet again under a key that is still in the history
refreshes the record AND moves it to the front of the eviction list (it becomes the newest entry;
the length does not change); `get` then returns the re-sent packet's record. -/
theorem lru_readd_moves_to_front (h : Hist) (a : Ack) (hex : h.any (sameKey a.ssrc a.seq) = true) :
    add h a = a :: h.eraseP (sameKey a.ssrc a.seq) ∧ (add h a).head? = some a ∧
    (add h a).length = h.length ∧ get (add h a) a.ssrc a.seq = some a := by
  have e := add_of_mem h a hex
  refine ⟨e, by rw [e]; rfl, length_add_of_mem h a hex, ?_⟩
  rw [e]; unfold FeedbackAdapter.get; simp [sameKey]

/-- the history never holds two records with the same (SSRC, sequence number) key. -/
theorem lru_keys_unique (h : Hist) (a : Ack) (hu : KeysUnique h) : KeysUnique (add h a) :=
  add_keysUnique h a hu

/-- ★ T6 `lru_recent_survives`: a packet that was just
sent — for the first time OR AGAIN under a key already in the history — is still found, with the
record of that last send, after up to 249 further sends of other keys; it is the age of the LAST
send that counts. -/
theorem lru_recent_survives (h : Hist) (a : Ack) (bs : List Ack) (hu : KeysUnique h)
    (hl : h.length ≤ lruSize) (hn : bs.length < lruSize)
    (hother : ∀ b ∈ bs, ¬ (b.ssrc = a.ssrc ∧ b.seq = a.seq)) :
    get (bs.foldl add (add h a)) a.ssrc a.seq = some a := by
  have hhead : a ∈ (add h a).take 1 := by
    obtain ⟨t, ht⟩ := add_eq_cons h a
    rw [ht, List.take_succ_cons]; exact List.mem_cons_self ..
  have hne : ∀ b ∈ bs, sameKey b.ssrc b.seq a = false := by
    intro b hb
    cases hs : sameKey b.ssrc b.seq a with
    | false => rfl
    | true =>
      have := (sameKey_iff _ _ _).mp hs
      exact absurd ⟨this.1.symm, this.2.symm⟩ (hother b hb)
  obtain ⟨hm, hu', _⟩ := foldl_add_keeps_recent a bs (add h a) 1 hhead (by unfold lruSize at *; omega)
    (add_keysUnique h a hu) (add_length_le h a hl) hne
  exact get_of_mem _ hu' a hm

/-- non-vacuity: re-sending key (0, 1) moves it in front of key (0, 2) with the new record. -/
example : add [⟨2, 0, 10, 5, 0, 0⟩, ⟨1, 0, 10, 4, 0, 0⟩] ⟨1, 0, 99, 6, 0, 0⟩
    = [⟨1, 0, 99, 6, 0, 0⟩, ⟨2, 0, 10, 5, 0, 0⟩] := by decide

end Adapter

section Rtpfb
open Interceptor.Rtpfb

/-- ★ T1 for rtpfb, `convertTWCC_eq_spec`: for EVERY parsed feedback (no hypothesis at all),
`convertTWCC` returns exactly the acknowledgements of the spec decoder restricted to
`[base, base + count)`: status, arrival time and sequence number of each number, in order; a
reserved symbol yields nothing; feedback with fewer deltas than timed symbols yields nothing. -/
theorem convertTWCC_eq_spec (fb : Twcc) :
    convertTWCC fb = .ok (match decodeTWCC fb with
      | none => []
      | some l => l.filterMap toRAck) := by
  unfold convertTWCC decodeTWCC
  rw [chunkLoop_eq_symLoop, symLoop_eq, Nat.sub_zero, List.drop_zero]
  cases walk (refTime fb.ref) ((symbols fb.chunks).take fb.count) fb.deltas with
  | none => rfl
  | some r => simp only [symOut]; split <;> rfl

/-- ★ T3 `within_declared_range` (rtpfb): `convertTWCC` acknowledges only numbers inside
`[base, base + count)`, for EVERY parsed feedback. False before the fix of F-15 in rtpfb
(witness corpus/C09/F-15-rtpfb.ops). -/
theorem within_declared_range (fb : Twcc) (acks : List RAck) (h : convertTWCC fb = .ok acks) :
    ∀ a ∈ acks, ∃ j, j < fb.count ∧ a.seq = (fb.base + j) % 65536 := by
  rw [convertTWCC_eq_spec, Res.ok.injEq] at h
  subst h
  intro a ha
  unfold decodeTWCC at ha
  cases hw : walk (refTime fb.ref) ((symbols fb.chunks).take fb.count) fb.deltas with
  | none => rw [hw] at ha; cases ha
  | some r =>
    -- `a` comes from the `j`-th status, and there are at most `count` statuses
    rw [hw] at ha
    obtain ⟨e, he, hea⟩ := List.mem_filterMap.mp ha
    obtain ⟨j, hj⟩ := List.getElem?_of_mem he
    obtain ⟨h1, h2⟩ := number_get r.1 fb.base j e hj
    have hlt : j < r.1.length := (List.getElem?_eq_some_iff.mp h2).1
    rw [(FeedbackAdapter.walk_length _ _ _ _ hw).1, List.length_take] at hlt
    exact ⟨j, by omega, by rw [toRAck_seq hea, h1]⟩

/-- ★ T5 `report_once_in_order`: over ANY sequence of addOutgoing / onTWCCFeedback /
onCCFBFeedback / buildReport on a fresh history, the concatenation of all reports is strictly
increasing in the counter: every sent packet is reported at most once, in send order. -/
theorem report_once_in_order (ops : List HOp) :
    ((runOps {} ops).flatten.map PR.ctr).Pairwise (· < ·) :=
  (runOps_sorted ops {} wf_init).1

/-- ★ T7 `reported_only_up_to_arrived` (the clause behind F-40): after ANY sequence of addOutgoing /
onTWCCFeedback / onCCFBFeedback / buildReport on a fresh history, every packet of the next report
(every report of a run is one of these: `runOps_build`) has a counter at or below the counter of a
packet that some feedback acknowledged AS ARRIVED, and it is reported as arrived only if feedback
acknowledged that very packet as arrived. `targets` is the ghost list of (counter, status) pairs the
acknowledgement operations resolved to. False before the fix of F-40 (witness corpus/C09/F-40.ops). -/
theorem reported_only_up_to_arrived (ops : List HOp) :
    ∀ p ∈ (buildReport (finalHist {} ops)).2,
      (∃ c, (c, true) ∈ targets {} ops ∧ p.ctr ≤ c) ∧
      (p.arrived = true → (p.ctr, true) ∈ targets {} ops) := by
  have inv := ackInv_run ops {} [] ackInv_init
  simp only [List.nil_append] at inv
  intro p hp
  obtain ⟨hak, hle, hm⟩ := buildReport_acked _ inv.wf p hp
  exact ⟨⟨_, inv.hi hak, hle⟩, fun ha => inv.arr _ hm ha⟩

/-- ★ `no_report_before_first_arrival`: as long as no feedback has acknowledged a sent packet as
arrived — RTCP reads without feedback, feedback about unknown streams or numbers, feedback that
only says "not received" — nothing is reported. -/
theorem no_report_before_first_arrival (ops : List HOp) (hno : ∀ c, (c, true) ∉ targets {} ops) :
    (buildReport (finalHist {} ops)).2 = [] := by
  apply List.eq_nil_iff_forall_not_mem.mpr
  intro p hp
  obtain ⟨⟨c, hc, _⟩, _⟩ := reported_only_up_to_arrived ops p hp
  exact hno c hc

/-- ★ `uncovered_lost_only_below_arrived`: a packet for which no feedback ever encoded a status is
reported — necessarily as not arrived — only when feedback acknowledged a LATER packet as arrived. -/
theorem uncovered_lost_only_below_arrived (ops : List HOp) (p : PR)
    (hp : p ∈ (buildReport (finalHist {} ops)).2) (hun : ∀ b, (p.ctr, b) ∉ targets {} ops) :
    p.arrived = false ∧ ∃ c, (c, true) ∈ targets {} ops ∧ p.ctr < c := by
  obtain ⟨⟨c, hc, hle⟩, harr⟩ := reported_only_up_to_arrived ops p hp
  refine ⟨?_, c, hc, ?_⟩
  · cases hb : p.arrived with
    | false => rfl
    | true => exact absurd (harr hb) (hun true)
  · rcases Nat.lt_or_eq_of_le hle with h | h
    · exact h
    · rw [← h] at hc; exact absurd hc (hun true)

/-- `history.buildReport` before the repair of F-40: `highestAcked = 0` stood both for "nothing
acknowledged yet" and for "packet 0 acknowledged" — kept as the witness of the repaired defect. -/
def buildReportUnrepaired (h : Hist) : Hist × List PR :=
  if h.nextReport > h.highestAcked then (h, [])
  else
    let (h1, res) := reportLoop (List.range' h.nextReport (h.highestAcked + 1 - h.nextReport)) h []
    (cleanBefore h1 h1.nextReport, res)

/-- F-40: on the code before the repair `no_report_before_first_arrival` fails — one packet sent,
no feedback at all, and the report says that packet 0 did not arrive (witness corpus/C09/F-40.ops). -/
theorem no_report_before_first_arrival_unrepaired_false :
    ¬ (∀ h : Hist, h.acked = false → (buildReportUnrepaired h).2 = []) := by
  intro hh
  have := hh (addOutgoing {} 1 100 false 0 62 0) rfl
  revert this; decide

/-- … and the packet was dropped with that report: its real acknowledgement is then ignored. -/
example : (onCCFBFeedback (buildReportUnrepaired (addOutgoing {} 1 100 false 0 62 0)).1 5 1 ⟨100, true, 4, 0⟩).2
    = none := by decide

/-- the same history on the repaired model: nothing is reported by the idle read, and the
acknowledgement that arrives later reports packet 0 as arrived. -/
example : (buildReport (addOutgoing {} 1 100 false 0 62 0)).2 = [] ∧
    (buildReport (onCCFBFeedback (buildReport (addOutgoing {} 1 100 false 0 62 0)).1 5 1 ⟨100, true, 4, 0⟩).1).2
      = [⟨1, 0, 100, false, 0, 62, true, 0, 4, 0⟩] := by decide

end Rtpfb

/-- F-14 witness on the fixed model: 0 is not in the history, 1 and 2 get 3000 / 7000 µs. -/
example : FeedbackAdapter.onTWCC [⟨2, 0, 120, 5, 0, 0⟩, ⟨1, 0, 120, 5, 0, 0⟩]
    ⟨0, 3, 0, [.rl 1 3], [1000, 2000, 4000]⟩
    = .ok [FeedbackAdapter.Ack.zero, ⟨1, 0, 120, 5, 3000000, 0⟩, ⟨2, 0, 120, 5, 7000000, 0⟩] := by decide

/-- the hypothesis `ChunkOK` of `onTWCC_eq_spec` / `ack_independent_of_neighbours` holds of ordinary chunks. -/
example : ∀ c ∈ [Chunk.rl 1 3, Chunk.sv [1, 2, 0]], FeedbackAdapter.ChunkOK c := by
  intro c hc; simp at hc; rcases hc with rfl | rfl <;> simp [FeedbackAdapter.ChunkOK]

/-- the hypothesis `hfull` of `within_declared_range_adapter_partial` (no more symbols than the count) is satisfiable. -/
example : (symbols [Chunk.rl 1 3]).length ≤ 3 := by decide

/-- the feedback of `within_declared_range_adapter_false` through rtpfb: the five symbols beyond the count say nothing. -/
example : Rtpfb.convertTWCC ⟨0, 2, 0, [.sv [1, 1, 0, 0, 0, 0, 0]], [250, 250]⟩
    = .ok [⟨0, true, 250000, 0⟩, ⟨1, true, 500000, 0⟩] := by decide

end Interceptor.C09
