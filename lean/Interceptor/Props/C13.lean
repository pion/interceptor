/-
C13 — caller-owned buffers are not retained or modified after a call returns.

The theorems are about the aliasing model of `Model/Alias.lean` and hold for EVERY interceptor
logic (`Machine`): an interceptor all of whose storing sites copy (`Policy.allCopy`, which
`Facts/C13.lean` establishes for every interceptor from the retention facts regenerated from
/repo) emits the same whatever the caller does to its buffers after a call has returned, and
whichever buffers it uses; the model never writes into caller memory.  PARTIAL by design: the
step from the retention facts to the running program (the translator's flow analysis, the
exception table, pion/rtp's `Header.Clone` being deep, the garbage collector) is trusted; the
correspondence run (`scribble`: every history replayed with fresh and with reused+overwritten
caller memory through the real interceptors) is the tie for the behaviour.
-/
import Interceptor.Model.Alias
import Interceptor.Proofs.Alias
namespace Interceptor.Alias
open Interceptor.Rtp

/-- all stores are copies ⇒ the emissions of a run are those of the interceptor's logic on the
*contents* of the calls alone: buffer ids and scribbles do not matter. -/
theorem emissions_eq_pure {ε} {pol : Policy} (hp : pol.allCopy = true) (M : Machine ε) (ops : List Op) :
    emissions pol M ops = pureEmissions M (erase ops) :=
  emissionsFrom_pure hp M ops {} [] (by intro h; rfl)

/-- ★ the choice of buffers does not matter: two runs whose calls have the same contents emit the
same, whichever buffers carry them (and whatever is scribbled in between). -/
theorem contents_determine_emissions {ε} {pol : Policy} (hp : pol.allCopy = true) (M : Machine ε)
    {ops ops' : List Op} (h : erase ops = erase ops') :
    emissions pol M ops = emissions pol M ops' := by
  rw [emissions_eq_pure hp, emissions_eq_pure hp, h]

/-- ★ C13 `noninterference`: if every stored value is a copy, the emissions of any run equal the
emissions of the same run with arbitrary scribbles (any buffer, any bytes) inserted after any
returned call — retransmissions, FEC packets, paced packets, dumps and reports do not depend on
what the caller does to its memory once a call has returned. -/
theorem noninterference {ε} {pol : Policy} (hp : pol.allCopy = true) (M : Machine ε)
    {ops ops' : List Op} (h : Scribbled ops ops') :
    emissions pol M ops = emissions pol M ops' :=
  contents_determine_emissions hp M (erase_scribbled h)

/-- ★ the form the correspondence run checks: a history replayed with a fresh allocation per
call and replayed with ONE allocation reused and overwritten arbitrarily after every call
emits the same, for every interceptor logic, when all stores are copies. -/
theorem fresh_eq_reuse {ε} {pol : Policy} (hp : pol.allCopy = true) (M : Machine ε)
    (scr : Call → List (BufId × Bytes)) (cs : List Call) :
    emissions pol M (freshOps 0 cs) = emissions pol M (reuseOps scr cs) :=
  contents_determine_emissions hp M (by rw [erase_freshOps, erase_reuseOps])

/-- ★ C13 `no_write_to_caller`: under every policy (copying or aliasing) and for every
interceptor logic, the heap after a run is the heap the caller itself made by filling and
overwriting its buffers: the model never writes to a caller-owned id.  (In the correspondence
run this is the `pmod=0 hmod=0` the real interceptors must print.) -/
theorem no_write_to_caller {ε} (pol : Policy) (M : Machine ε) (ops : List Op) :
    heapAfter pol M {} ops = callerHeap (fun _ => []) ops :=
  heapAfter_eq_callerHeap pol M ops {}

/-- a call changes the heap exactly as the caller's own fill does. -/
theorem step_call_heap {ε} (pol : Policy) (M : Machine ε) (s : St) (ids : Ids) (c : Call) :
    (step pol M s (.call ids c)).1.heap = fill s.heap ids c := rfl

/-- a policy with an aliasing payload site (the packet dumper before the fix of F-25, the NACK
responder with `DisableCopy`). -/
def aliasPayload : Policy := { payload := false, csrc := true, ext := true, att := true }

def w1 : Call := { kind := .w, pl := [1, 2, 3] }
def w2 : Call := { kind := .w, pl := [4, 5, 6] }
def fl : Call := { kind := .flush }

/-- `noninterference` fails for an interceptor with an aliasing store: one packet, overwritten
by the caller after `Write` returned and before the interceptor's goroutine ran (F-25). -/
theorem alias_breaks_noninterference :
    ∃ ops ops', Scribbled ops ops' ∧ emissions aliasPayload echo ops ≠ emissions aliasPayload echo ops' :=
  ⟨[.call (idsAt 0) w1, .call (idsAt 0) fl],
   [.call (idsAt 0) w1, .scribble 0 [238, 238, 238], .call (idsAt 0) fl],
   .keep _ (.ins _ _ (.keep _ .nil)), by decide⟩

/-- the two-packet witness: with an aliasing store the run with one reused buffer emits the
second packet twice, the run with fresh buffers emits both packets — no scribbling needed. -/
theorem alias_breaks_fresh_eq_reuse :
    emissions aliasPayload echo (freshOps 0 [w1, w2, fl]) ≠
      emissions aliasPayload echo (reuseOps (fun _ => []) [w1, w2, fl]) := by decide

/-- non-vacuity: the all-copy policy on the same witnesses gives equal emissions, and the
emissions are not empty. -/
example : emissions Policy.copyAll echo (reuseOps (fun _ => [(0, [238])]) [w1, w2, fl]) = [[], [], [[1, 2, 3], [4, 5, 6]]] := by
  decide
example : emissions aliasPayload echo (reuseOps (fun _ => []) [w1, w2, fl]) = [[], [], [[4, 5, 6], [4, 5, 6]]] := by
  decide
example : Policy.copyAll.allCopy = true := rfl
example : Scribbled [.call (idsAt 0) w1] [.call (idsAt 0) w1, .scribble 0 []] := .keep _ (.ins _ _ .nil)
example : heapAfter aliasPayload echo {} [.call (idsAt 0) w1] 0 = [1, 2, 3] := by decide

end Interceptor.Alias
