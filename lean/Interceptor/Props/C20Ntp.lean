/-
C20 — NTP conversion (over the exact binary64 model, Base/F64.lean; the model is compared bit for
bit with the Go code by the `ntp` correspondence stream).
-/
import Interceptor.Proofs.NtpMono
namespace Interceptor.Ntp
open Interceptor.F64

/-- ★ T5: converting wall-clock time to the 64-bit NTP format is monotone non-decreasing, for all
instants (at nanosecond granularity) from 1970-01-01 to 2036-02-07 06:28:15 UTC (`maxNs`; the last
second of NTP era 0 is excluded so that rounding cannot reach 2^32 seconds). -/
theorem toNTP_mono (a b : Int) (h0 : 0 ≤ a) (hab : a ≤ b) (hb : b ≤ maxNs) : toNTP a ≤ toNTP b := by
  have hs := sOf_mono a b h0 hab
  obtain ⟨ia, fa, ea, la, ha, ga⟩ := toNTP_struct a h0 (le_trans hab hb)
  obtain ⟨ib, fb, eb, lb, hb', gb⟩ := toNTP_struct b (le_trans h0 hab) hb
  rw [ea, eb]
  have hi : ia ≤ ib := Int.ofNat_le.mp (by rw [ha, hb']; exact Rat.floor_monotone hs)
  rcases Nat.lt_or_eq_of_le hi with hlt | he
  · -- the integer part grows: the fraction is below 2^32
    clear ha hb' ga gb
    omega
  · -- same integer part: the fractions are floors of a monotone expression
    subst he
    have hf : fa ≤ fb := Int.ofNat_le.mp (by
      rw [ga, gb]
      exact Rat.floor_monotone (mul_le_mul_of_nonneg_right (sub_le_sub_right hs _) (by norm_num)))
    exact Nat.add_le_add_left hf _

/-- every timestamp fits 64 bits (both halves are `uint32` conversions): `toNTP t < 2^64`. -/
theorem toNTP_lt (a : Int) : toNTP a < 18446744073709551616 := by
  rw [toNTP_eq]
  have h1 := toUint32_lt (sOf a)
  have h2 := toUint32_lt (fracOf (sOf a) (toUint32 (sOf a)))
  omega

theorem toNTP32_eq (a : Int) : toNTP32 a = (toNTP a / 65536) % 4294967296 := rfl

/-- non-vacuity / sanity: two concrete instants one nanosecond apart around a second boundary. -/
example : toNTP 1790000000999999999 ≤ toNTP 1790000001000000000 := by
  apply toNTP_mono <;> (try unfold maxNs) <;> decide

end Interceptor.Ntp
