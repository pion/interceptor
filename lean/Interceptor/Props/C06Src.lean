/-
C06 — the property theorems restated on the code itself: on the Lean definitions that extract/fn.go
regenerates from pkg/report/receiver_stream.go on every run (Gen/Fn_report.lean):
`report_receiverStream_processRTP`, `report_receiverStream_processSenderReport`,
`report_receiverStream_generateReport`, run over an arbitrary call sequence by
`FnReceiverGenerate.goRun` from the state `newReceiverStream` builds (`FnReceiverReport.goNew`).
Each statement follows from the model theorem of Props/C06.lean and the source-equals-model theorems of
Facts/FnReceiverReport.lean / Facts/FnReceiverGenerate.lean (`run_src_eq_model`, which chains the step
theorems with the invariants `Rel`, `TimeOk`, `SeqOk`, `LsrOk`).  No ★ statement mentions the hand-written
model `ReceiverReport.Stream` (only the helper `srcRun_reports`, the intermediate composition, does); the right-hand sides are the spec recounts of Spec/ReceiverReport.lean (the
definition of "the true value" in the property itself).

Hypotheses of every theorem (`Call.ok` for every call): the header fields are in the range of their Go types
(uint16 sequence number, uint32 timestamp), the NTP time is a uint64, and every `now` is an `instant`
(−2^62 ≤ Unix ns < 2^62: Go's `Time.Sub` saturates at ±2^63 while the property subtracts exactly).
`fuel ≥ 65535` per call suffices for every loop of the generated code (the conclusion `goRun … = some …`
says the Go loops terminate).
-/
import Interceptor.Facts.FnReceiverGenerate
import Interceptor.Props.C06
set_option linter.unusedVariables false
namespace Interceptor.C06Src
open Interceptor Interceptor.Gen.Fn Interceptor.GoSem Interceptor.ReceiverReport Interceptor.ReceiverReport.Spec
open Interceptor.Facts.FnReceiverGenerate
open Interceptor.Facts.FnReceiverReport (goNew rel_new instant)
open Interceptor.Facts.FnSenderReport (HeaderOk)

/-- the history event a Go call stands for. -/
def evOf : Call → Ev
  | .rtp now h => .rtp now h.SequenceNumber.toNat h.Timestamp.toNat
  | .sr now rep => .sr now rep.NTPTime.toNat
  | .gen now => .report now

/-- all reception reports of a list of receiver reports, in order. -/
def receptions (outs : List S_rtcp_ReceiverReport) : List S_rtcp_ReceptionReport := outs.flatMap (·.Reports)

theorem evOf_wf (c : Call) (hc : c.ok) : (evOf c).wf := by
  cases c with
  | rtp now h =>
    obtain ⟨hh, _⟩ := hc
    have := hh.seq; have := hh.ts
    show _ < 65536 ∧ _ < M32
    unfold M32; omega
  | sr now rep => trivial
  | gen now => trivial

theorem evs_wf (cs : List Call) (hok : ∀ c ∈ cs, c.ok) : ∀ e ∈ cs.map evOf, e.wf := by
  intro e he
  simp only [List.mem_map] at he
  obtain ⟨c, hc, rfl⟩ := he
  exact evOf_wf c (hok c hc)

/-- the model run over calls is the model run over the events they stand for. -/
theorem modelRun_eq_runEv (cs : List Call) : ∀ m : Stream, (modelRun m cs).2 = runEv m (cs.map evOf) := by
  induction cs with
  | nil => intro m; rfl
  | cons c cs ih =>
    intro m
    cases c with
    | rtp now h => simp only [modelRun, modelStep, List.map_cons, evOf, runEv, stepEv, List.nil_append]; exact ih _
    | sr now rep => simp only [modelRun, modelStep, List.map_cons, evOf, runEv, stepEv, List.nil_append]; exact ih _
    | gen now =>
      simp only [modelRun, modelStep, List.map_cons, evOf, runEv, stepEv, List.singleton_append]
      rw [ih]

theorem flat_single {α β : Type} (f : α → β) (l : List α) : (l.map fun x => [f x]).flatten = l.map f := by
  rw [← List.flatMap_def, ← List.map_eq_flatMap]

/-- (helper: the composition with the model, before the model theorems are applied) the generated code, run
from the state `newReceiverStream` builds over any call sequence with arguments in range, terminates (fuel ≥ 65535 per call), every receiver report it returns carries exactly one reception
report, and the reception reports are, field by field (`goRR`), the reports of the event history the calls
stand for. -/
theorem srcRun_reports (fuel : Nat) (hf : 65535 ≤ fuel) (ssrc rate r : Nat) (cs : List Call)
    (hok : ∀ c ∈ cs, c.ok) :
    ∃ g' outs, goRun fuel (goNew ssrc rate r) cs = some (g', outs) ∧
      (∀ o ∈ outs, o.Reports.length = 1) ∧
      receptions outs = (runEv (ReceiverReport.new ssrc rate) (cs.map evOf)).map goRR := by
  obtain ⟨g', outs, h, _, _, ho⟩ := run_src_eq_model fuel hf cs hok (goNew ssrc rate r)
    (ReceiverReport.new ssrc rate) (rel_new ssrc rate r) (inv_new ssrc rate)
  refine ⟨g', outs, h, ?_, ?_⟩
  · intro o hm
    have : o.Reports ∈ outs.map (·.Reports) := List.mem_map.mpr ⟨o, hm, rfl⟩
    rw [ho] at this
    simp only [List.mem_map] at this
    obtain ⟨rr, _, e⟩ := this
    rw [← e]; rfl
  · unfold receptions
    rw [List.flatMap_def, ho, flat_single, modelRun_eq_runEv]

/-- the observation of a field of the returned reports, as a list of naturals mapped into `Int`. -/
theorem field_of (f : S_rtcp_ReceptionReport → Int) (fm : RR → Nat) (hfm : ∀ rr, f (goRR rr) = (fm rr : Int))
    (l : List RR) : (l.map goRR).map f = (l.map fm).map Int.ofNat := by
  rw [List.map_map, List.map_map]
  exact List.map_congr_left fun rr _ => hfm rr

/-- ★ C06 clause "extended highest sequence number actually received (cycle count in the upper 16 bits)", on
the code: over any call sequence the `LastSequenceNumber` of every report the generated `generateReport`
returns is the extended highest sequence number received so far modulo 2^32 (`Spec.extReports`), 0 before any
packet. -/
theorem ext_highest_src (fuel : Nat) (hf : 65535 ≤ fuel) (ssrc rate r : Nat) (cs : List Call)
    (hok : ∀ c ∈ cs, c.ok) :
    ∃ g' outs, goRun fuel (goNew ssrc rate r) cs = some (g', outs) ∧
      (receptions outs).map (·.LastSequenceNumber) = (extReports none (cs.map evOf)).map Int.ofNat := by
  obtain ⟨g', outs, h, _, ho⟩ := srcRun_reports fuel hf ssrc rate r cs hok
  refine ⟨g', outs, h, ?_⟩
  rw [ho, field_of (·.LastSequenceNumber) (·.ext) (fun _ => rfl),
    ext_highest ssrc rate _ (evs_wf cs hok)]

/-- the `(FractionLost, TotalLost)` pair of a Go reception report. -/
def goLossObs (rr : S_rtcp_ReceptionReport) : Int × Int := (rr.FractionLost, rr.TotalLost)

/-- ★ C06 clauses "fraction-lost = ⌊256·lost/expected⌋ over the interval since the previous report" and
"cumulative-lost = the sum of those interval losses saturated at 2^24−1", on the code, under the hypothesis
`H8192` the 8192-position history forces (F-08: false without it): the `(FractionLost, TotalLost)` of every
report the generated `generateReport` returns are `⌊256·lost/expected⌋` and the saturating sum, with
`expected`, `lost` recounted from the history (`Spec.lossReports`). -/
theorem loss_eq_spec_src (fuel : Nat) (hf : 65535 ≤ fuel) (ssrc rate r : Nat) (cs : List Call)
    (hok : ∀ c ∈ cs, c.ok) (hH : H8192 none (cs.map evOf)) :
    ∃ g' outs, goRun fuel (goNew ssrc rate r) cs = some (g', outs) ∧
      (receptions outs).map goLossObs =
        (lossReports none (cs.map evOf)).map fun q => ((q.2.2.1 : Int), (q.2.2.2 : Int)) := by
  obtain ⟨g', outs, h, _, ho⟩ := srcRun_reports fuel hf ssrc rate r cs hok
  refine ⟨g', outs, h, ?_⟩
  have hm := loss_eq_spec ssrc rate _ (evs_wf cs hok) hH
  have e1 : ((runEv (ReceiverReport.new ssrc rate) (cs.map evOf)).map goRR).map goLossObs
      = ((runEv (ReceiverReport.new ssrc rate) (cs.map evOf)).map lossObs).map
          fun p => ((p.1 : Int), (p.2 : Int)) := by
    simp only [List.map_map]; rfl
  rw [ho, e1, hm]
  simp only [List.map_map]
  rfl

/-- ★ C06 clause "interarrival jitter follows the RFC 3550 A.8 recurrence on 32-bit RTP timestamps
(wrap-safe)", on the code: over any call sequence the `Jitter` of every report the generated `generateReport`
returns is `uint32` of the recurrence `J += (|D| − J)/16` run in binary64 over the packets so far, with the
timestamp difference taken modulo 2^32 as a signed value (`Spec.jitterReports`). -/
theorem jitter_rec_src (fuel : Nat) (hf : 65535 ≤ fuel) (ssrc rate r : Nat) (cs : List Call)
    (hok : ∀ c ∈ cs, c.ok) :
    ∃ g' outs, goRun fuel (goNew ssrc rate r) cs = some (g', outs) ∧
      (receptions outs).map (·.Jitter) = (jitterReports rate none 0 (cs.map evOf)).map Int.ofNat := by
  obtain ⟨g', outs, h, _, ho⟩ := srcRun_reports fuel hf ssrc rate r cs hok
  refine ⟨g', outs, h, ?_⟩
  rw [ho, field_of (·.Jitter) (·.jitter) (fun _ => rfl), jitter_rec ssrc rate _]

/-- ★ C06 clause "Last-SR and delay-since-last-SR reflect the most recent sender report received for that
SSRC, and are zero before any", on the code: over any call sequence every report the generated
`generateReport` returns carries `LSR = (ntp >> 16) mod 2^32` and
`DLSR = uint32(float64 seconds(max(now − t, 0))·65536)` for the most recent `processSenderReport(t, ntp)` call, and
`(0, 0)` before any (`Spec.lsrReports`). -/
theorem lsr_dlsr_src (fuel : Nat) (hf : 65535 ≤ fuel) (ssrc rate r : Nat) (cs : List Call)
    (hok : ∀ c ∈ cs, c.ok) :
    ∃ g' outs, goRun fuel (goNew ssrc rate r) cs = some (g', outs) ∧
      (receptions outs).map (fun rr => (rr.LastSenderReport, rr.Delay)) =
        (lsrReports none (cs.map evOf)).map fun p => ((p.1 : Int), (p.2 : Int)) := by
  obtain ⟨g', outs, h, _, ho⟩ := srcRun_reports fuel hf ssrc rate r cs hok
  refine ⟨g', outs, h, ?_⟩
  have hm := lsr_dlsr ssrc rate (cs.map evOf)
  rw [ho, ← hm]
  simp only [List.map_map]
  rfl

/-- ★ C06 clause "fraction-lost equal to floor(256 × lost/expected)", on the code: the expression
`uint8(float64(totalLostSinceReport*256) / float64(totalSinceReport))` exactly as the generated
`generateReport` has it (`FnReceiverGenerate.mkRepWith`, `gen_eq`) is `⌊256·l/e⌋` for `0 ≤ l < e ≤ 65535`. -/
theorem fraction_floor_src (l e : Nat) (hl : l < e) (he : e ≤ 65535) :
    u8 (F64.toInt64 (F64.div (F64.ofInt (u32 ((l : Int) * 256))) (F64.ofInt (e : Int))))
      = ((l * 256 / e : Nat) : Int) := by
  rw [fraction_eq l e (by omega), fraction_floor l e hl he]

/-- ★ C06 clause "on 32-bit RTP timestamps (wrap-safe)", on the code: the jitter sample `D` the generated
`processRTP` computes (`FnReceiverReport.dOf`, the expression
`now.Sub(lastRTPTimeTime).Seconds()*clockRate - float64(int32(ts - lastRTPTimeRTP))`) from the 32-bit wrapped
values of two true timestamps `a`, `b` within ±2^31 of each other uses the true difference `a − b`. -/
theorem jitter_wrap_safe_src (st : S_report_receiverStream) (now a b : Int)
    (h1 : -2147483648 ≤ a - b) (h2 : a - b < 2147483648) (hst : st.lastRTPTimeRTP = b % 4294967296) :
    Facts.FnReceiverReport.dOf st now (a % 4294967296)
      = F64.sub (F64.mul (durSeconds (timeSub now st.lastRTPTimeTime)) st.clockRate) (F64.ofInt (a - b)) := by
  unfold Facts.FnReceiverReport.dOf
  -- `int32(ts - lastRTPTimeRTP)` is the model's `sdiff32`, which is the true difference (`sdiff32_exact`)
  rw [hst, ← Int.toNat_of_nonneg (Int.emod_nonneg a (by decide : (4294967296 : Int) ≠ 0)),
    ← Int.toNat_of_nonneg (Int.emod_nonneg b (by decide : (4294967296 : Int) ≠ 0)),
    Facts.FnReceiverReport.sdiff_eq, sdiff32_exact a b h1 h2]

/-! ## non-vacuity: the generated code evaluated on a concrete history

first packet 65534, then 2 (wrap-around; 65535, 0, 1 lost), a sender report, a report tick, a late packet 0,
a second report tick. -/

def demo : List Call :=
  [.rtp 946684800000000000 { SequenceNumber := 65534, Timestamp := 3000 },
   .rtp 946684800020000000 { SequenceNumber := 2, Timestamp := 6000 },
   .sr 946684800500000000 { NTPTime := 16755510599426244608 },
   .gen 946684801000000000,
   .rtp 946684801020000000 { SequenceNumber := 0, Timestamp := 4294967000 },
   .rtp 946684801040000000 { SequenceNumber := 3, Timestamp := 9000 },
   .gen 946684802000000000]

theorem demo_ok : ∀ c ∈ demo, c.ok := by
  intro c hc
  simp only [demo, List.mem_cons, List.not_mem_nil, or_false] at hc
  rcases hc with rfl | rfl | rfl | rfl | rfl | rfl | rfl
  · exact ⟨⟨by decide, by decide⟩, by unfold instant; omega⟩
  · exact ⟨⟨by decide, by decide⟩, by unfold instant; omega⟩
  · exact ⟨⟨by decide, by decide⟩, by unfold instant; omega⟩
  · show instant _; unfold instant; omega
  · exact ⟨⟨by decide, by decide⟩, by unfold instant; omega⟩
  · exact ⟨⟨by decide, by decide⟩, by unfold instant; omega⟩
  · show instant _; unfold instant; omega

/-- the reception reports the generated code returns on `demo` (fuel 10 per call already suffices here). -/
def demoOut : Option (List S_rtcp_ReceptionReport) :=
  (goRun 10 (goNew 7 90000 12345) demo).map fun p => receptions p.2

/-- the receiver reports the generated code returns on `demo`, evaluated once; the examples below read their
fields off it. -/
theorem demo_reports : (goRun 10 (goNew 7 90000 12345) demo).map (·.2) =
    some [{ SSRC := 12345, Reports := [{ SSRC := 7, FractionLost := 153, TotalLost := 3, LastSequenceNumber := 65538,
                                         Jitter := 75, LastSenderReport := 2283642136, Delay := 32768 }] },
          { SSRC := 12345, Reports := [{ SSRC := 7, FractionLost := 0, TotalLost := 3, LastSequenceNumber := 65539,
                                         Jitter := 6176, LastSenderReport := 2283642136, Delay := 98304 }] }] := by
  decide +kernel

theorem demoOut_eq : demoOut = ((goRun 10 (goNew 7 90000 12345) demo).map (·.2)).map receptions := by
  unfold demoOut; rw [Option.map_map]; rfl

/-- non-vacuity of `srcRun_reports`: two receiver reports, one reception report each. -/
example : (goRun 10 (goNew 7 90000 12345) demo).map (fun p => p.2.map (·.Reports.length)) = some [1, 1] := by
  have : (goRun 10 (goNew 7 90000 12345) demo).map (fun p => p.2.map (·.Reports.length))
      = ((goRun 10 (goNew 7 90000 12345) demo).map (·.2)).map (·.map (·.Reports.length)) := by
    rw [Option.map_map]; rfl
  rw [this, demo_reports]; rfl

/-- non-vacuity of `ext_highest_src`: 1·65536 + 2, then 1·65536 + 3. -/
example : demoOut.map (·.map (·.LastSequenceNumber)) = some [65538, 65539] ∧
    extReports none (demo.map evOf) = [65538, 65539] := by
  constructor
  · rw [demoOut_eq, demo_reports]; rfl
  · decide +kernel

/-- non-vacuity of `loss_eq_spec_src`: `H8192` holds on `demo`; 3 of the 5 numbers of (65533, 2] lost (⌊256·3/5⌋ = 153), then the late
packet 0 does not count back and the interval (2, 3] has no loss. -/
example : (∀ c ∈ demo, c.ok) ∧ H8192 none (demo.map evOf) ∧
    demoOut.map (·.map goLossObs) = some [(153, 3), (0, 3)] := by
  refine ⟨demo_ok, ?_, by rw [demoOut_eq, demo_reports]; rfl⟩
  simp [demo, evOf, H8192, lossRtp, ahead, extend, highest, sub16, lostIn]

/-- non-vacuity of `jitter_rec_src`. -/
example : demoOut.map (·.map (·.Jitter)) = (some (jitterReports 90000 none 0 (demo.map evOf))).map (·.map Int.ofNat) := by
  rw [demoOut_eq, demo_reports]
  decide +kernel

/-- non-vacuity of `lsr_dlsr_src`: the sender report arrived 0.5 s, then 1.5 s before the report ticks. -/
example : demoOut.map (·.map fun rr => (rr.LastSenderReport, rr.Delay))
    = some [(2283642136, 32768), (2283642136, 98304)] := by
  rw [demoOut_eq, demo_reports]; rfl

/-- non-vacuity of `fraction_floor_src`. -/
example : u8 (F64.toInt64 (F64.div (F64.ofInt (u32 ((3 : Nat) * 256))) (F64.ofInt ((5 : Nat) : Int)))) = 153 := by
  decide +kernel

/-- non-vacuity of `jitter_wrap_safe_src`: true timestamps 2^32 + 100 and 2^32 − 200 (a wrap between them). -/
example : Facts.FnReceiverReport.dOf { lastRTPTimeRTP := 4294967096, clockRate := 90000, lastRTPTimeTime := 0 } 0
      (4294967396 % 4294967296)
    = F64.sub (F64.mul (durSeconds (timeSub 0 0)) 90000) (F64.ofInt 300) :=
  jitter_wrap_safe_src _ 0 4294967396 4294967096 (by omega) (by omega) rfl

end Interceptor.C06Src
