/-
C05 — TWCC feedback reports exactly what was received, in valid wire form.
Model: Model/Twcc.lean (+ Model/TwccWire.lean, the marshalled
bytes), tied to pkg/twcc by the `twccrec` / `twccsnd` correspondence; independent decoder and
abstract history: Spec/Twcc.lean.  Helper lemmas: Proofs/TwccChunk (chunk invariant, packer),
TwccFeedback (feedback invariant, rounding), TwccDecode (running-sum decoder), TwccMap (circular
buffer), TwccBuild (build loop), TwccRecord (Record, reachable states), TwccWire (bytes ↔ structure,
size bound).
Design theorems: T1 pack_roundtrip · T2 delta_count · T3 time_quantised · T4 decode_sound ·
T5 build_complete · T7 header_len · T6 map_refines (in the order of the file).
-/
import Interceptor.Model.Twcc
import Interceptor.Spec.Twcc
import Interceptor.Proofs.TwccChunk
import Interceptor.Proofs.TwccFeedback
import Interceptor.Proofs.TwccDecode
import Interceptor.Proofs.TwccMap
import Interceptor.Proofs.TwccBuild
import Interceptor.Proofs.TwccRecord
import Interceptor.Proofs.TwccWire
set_option linter.unusedVariables false
namespace Interceptor.Twcc

/-! ## T1 — the greedy packer round-trips -/

/-- ★ T1 `pack_roundtrip`: for EVERY symbol list, decoding the chunks the greedy packer emits
(`canAdd`/`add`/`encode` with carry-over, then the flush of `getRTCP`) and truncating to the number
of symbols gives the list back; and every emitted chunk is well formed (run length in 1..8191,
one-bit vectors have exactly 14 symbols none of which is a large delta, two-bit vectors 1..7). -/
theorem pack_roundtrip (syms : List Sym) :
    (decodeChunks (packAll syms)).take syms.length = syms ∧ ∀ ch ∈ packAll syms, ch.wf := by
  obtain ⟨ht, hs⟩ := packAll_tight syms
  obtain ⟨pad, hdec⟩ := tight_decode _ ht
  exact ⟨by rw [hdec, hs]; simp, tight_wf _ ht⟩

/-- T1 seen from `feedback`: `packAll` is exactly what `addReceived`'s pushes + `getRTCP` compute. -/
theorem pack_is_feedback (f : Feedback) (s : Sym) :
    ((f.pushSym s).last, (f.pushSym s).chunks) = packStep (f.last, f.chunks) s :=
  pushSym_last_chunks f s

/-- T1 at the level of the 16-bit chunk words: parsing every marshalled chunk word with the
specification's `parseWord` and expanding gives the input symbols' codes back. -/
theorem pack_roundtrip_wire (syms : List Sym) :
    ((packAll syms).flatMap (fun c => (TwccSpec.parseWord c.word).expand)).take syms.length
      = syms.map Sym.code := by
  obtain ⟨ht, hs⟩ := packAll_tight syms
  obtain ⟨pad, hdec⟩ := tight_decode _ ht
  rw [expand_word _ (tight_wf _ ht), hdec, hs, List.map_append, List.take_left' (by simp)]

set_option maxRecDepth 20000 in
/-- non-vacuity / sanity: a run, a one-bit vector and a short two-bit vector. -/
example : packAll ((List.replicate 20 Sym.small) ++ [.nr, .small, .nr, .small, .small, .small, .small,
    .small, .small, .small, .small, .small, .small, .small, .large, .nr])
    = [.run .small 20, .vec1 [.nr, .small, .nr, .small, .small, .small, .small, .small, .small, .small,
        .small, .small, .small, .small], .vec2 [.large, .nr]] := by decide

/-! ## T2 — one delta per received status -/

/-- ★ T2 `delta_count`: in the packet built from any feedback (`setBase` + successful
`addReceived`s), the recv-delta list has exactly one entry per received status among the first
`count` decoded statuses, in order, and each delta's kind (small / large) is that status' symbol. -/
theorem delta_count {f : Feedback} (h : Built f) (hc : f.count < 65536) :
    f.getRTCP.deltas.map (·.1) =
      ((decodeChunks f.getRTCP.chunks).take f.getRTCP.count).filter (fun s => decide (s ≠ Sym.nr)) := by
  obtain ⟨syms, hi, _⟩ := built_inv h
  exact getRTCP_delta_kinds hi hc

/-- T2, second half: every delta is a multiple of 250 µs that fits its wire size
(small: 0..255 ticks in one byte; large: int16 ticks in two bytes). -/
theorem delta_fits {f : Feedback} (h : Built f) :
    ∀ d ∈ f.getRTCP.deltas, ∃ q : Int, d.2 = q * 250 ∧
      ((d.1 = Sym.small ∧ 0 ≤ q ∧ q ≤ 255) ∨ (d.1 = Sym.large ∧ -32768 ≤ q ∧ q ≤ 32767)) := by
  obtain ⟨syms, hi, _⟩ := built_inv h
  exact hi.range

/-! ## T3 — quantisation -/

/-- ★ T3 `time_quantised`: after every successful `addReceived(seq, t)` the running time
`lastTimestampUS` is within 125 µs of `t`, the appended delta is the int16-range number of 250 µs
ticks, and `addReceived` refuses (so that the recorder starts a new packet) exactly when the
rounded delta does not fit int16 — or the packet already holds `maxDeltaBytes` of deltas (F-37 fix). -/
theorem time_quantised {f : Feedback} (h : Built f) (seq : Nat) (t : Int) :
    (∀ f', f.addReceived seq t = some f' →
      -125 ≤ f'.lastUS - t ∧ f'.lastUS - t ≤ 125 ∧
      ∃ sym q, f'.deltas = f.deltas.push (sym, q * 250) ∧ -32768 ≤ q ∧ q ≤ 32767) ∧
    (f.addReceived seq t = none ↔
      ((delta250 (t - f.lastUS) < -32768 ∨ delta250 (t - f.lastUS) > 32767) ∨ f.len ≥ maxDeltaBytes)) :=
  ⟨fun _ hadd => addReceived_close hadd, addReceived_none_iff f seq t⟩

/-- T3 corollary: the running time equals reference time + the sum of the deltas on the wire, so
a decoder that adds up the deltas recovers `lastTimestampUS` exactly. -/
theorem time_is_sum {f : Feedback} (h : Built f) :
    f.lastUS = f.ref64 * 64000 + (f.getRTCP.deltas.map (·.2)).sum := by
  obtain ⟨syms, hi, _⟩ := built_inv h
  exact hi.time

example : ((newFeedback 1 2 0).setBase 10 1000000).addReceived 10 1000100 ≠ none := by decide
example : ((newFeedback 1 2 0).setBase 10 0).addReceived 10 8191875 = none := by decide

/-! ## T4 — decode soundness -/

/-- T4, per packet (`decode_sound_packet`): for every feedback the recorder can assemble
(`setBase`, then any successful `addReceived (seq_i, t_i)`), decoding the emitted packet the way the
draft prescribes (first `count` statuses of the chunks, one delta per received status, time =
24-bit reference time · 64 ms + running sum of the deltas; `TwccSpec.timed`) yields exactly `count`
statuses; the statuses that carry a time are, in order, exactly the added `(seq_i, t_i)` — same
sequence number, decoded time within 125 µs of `t_i` modulo the reference-time range
(`K` = the multiple of 2^24·64 ms the 24-bit field dropped) — and every other status is
"not received". -/
theorem decode_sound_packet {f : Feedback} {log : List (Nat × Int)} (h : BuiltLog f log)
    (hc : f.count < 65536) (hr : 0 ≤ f.ref64) :
    f.getRTCP.decodeStruct.length = f.getRTCP.count ∧
    ReportsAll ((f.getRTCP.decodeStruct.map (shiftEntry (f.ref64 / 16777216 * 1073741824000))).filter
      (fun e => e.time.isSome)) log ∧
    (∀ e ∈ f.getRTCP.decodeStruct, e.time = none → e.status = 0) := by
  obtain ⟨syms, hl⟩ := builtLog_inv h
  obtain ⟨hcnt, hst⟩ := getRTCP_statuses hl.inv hc
  have href : (((f.getRTCP.ref % 16777216 : Nat) : Int) * 64000) + f.ref64 / 16777216 * 1073741824000
      = f.ref64 * 64000 := by
    simp only [Feedback.getRTCP]
    omega
  have hbase : f.getRTCP.base = f.base := rfl
  unfold Packet.decodeStruct
  rw [hst, hbase, timed_shift, href]
  refine ⟨?_, hl.rep, timed_none _ _ _ hl.nrs⟩
  rw [timed_length, pair_length, hcnt]

/-- non-vacuity: the hypotheses are satisfiable (a feedback with one logged addition exists). -/
example : ∃ f, BuiltLog f [(10, 1000100)] ∧ f.count < 65536 ∧ 0 ≤ f.ref64 := by
  cases h : ((newFeedback 1 2 0).setBase 10 1000000).addReceived 10 1000100 with
  | none => exact absurd h (by decide)
  | some f' =>
    refine ⟨f', .add (log := []) 10 1000100 (.base 1 2 0 10 1000000 (by decide)) (by decide) h, ?_⟩
    have : some f' = some (((newFeedback 1 2 0).setBase 10 1000000).addReceived 10 1000100 |>.getD default) := by
      rw [h]; rfl
    injection this with this
    rw [this]
    decide

/-- T4, the byte level (`wire_decode`): the independent decoder `TwccSpec.decode`, run on the bytes
the model marshals (`Packet.toWire`: 24-bit reference time, chunk words, delta bytes, padding),
parses them and returns exactly the structured decoding used above — every chunk word parses back
to its chunk, the parser consumes exactly the emitted chunks, every delta is read with the size its
status announces. -/
theorem wire_decode {f : Feedback} (h : Built f) (hc : f.count < 65536) :
    TwccSpec.decode f.getRTCP.toWire = some f.getRTCP.decodeStruct := by
  obtain ⟨syms, hi, _⟩ := built_inv h
  unfold TwccSpec.decode
  rw [parse_toWire hi hc]
  simp only [Option.map_some, Packet.decodeStruct, (getRTCP_statuses hi hc).2, Packet.toWire]

/-- what a build from a reachable state with a cursor emits: groups of a feedback and the arrivals it reports,
each feedback covering a range of at most 32768 numbers. -/
theorem reach_groups {r : Recorder} (hr : Reach r) (s : Int) (hs : r.start = some s) :
    ∃ groups : List (Feedback × List (Int × Int)),
      r.build.2 = groups.map (fun g => g.1.getRTCP) ∧
      (groups.map (·.2)).flatten = received r.map s r.map.endSN ∧
      ∀ g ∈ groups, ∃ B c : Int, Cov g.1 B c g.2 ∧ c - B ≤ 32768 := by
  obtain ⟨groups, g1, g2, g3, _⟩ := (build_spec r (reach_inv hr)).2 s hs
  refine ⟨groups, g1, g2, fun g hg => ?_⟩
  obtain ⟨B, c, hcov, hb, _⟩ := covers_mem g3 g hg
  exact ⟨B, c, hcov, hb⟩

/-- ★ T4 `decode_sound`: in every reachable recorder state (any interleaving of records and
builds), the packets `BuildFeedbackPacket` returns partition the received numbers of the arrival map
from the cursor on (`received r.map s end`: ascending, with the times the map holds); the
independent decoder `TwccSpec.decode` accepts the bytes of each packet and returns exactly `count`
statuses; the statuses carrying a time are exactly the packet's group of numbers (mod 2^16), each
with a decoded time within 125 µs of the map's arrival time modulo 2^24·64 ms (`K`), and all its
other statuses are "not received".  That the map's time for a number is the first arrival recorded
for it (still in the history) is `map_refines` + `record_keeps_pending`. -/
theorem decode_sound {r : Recorder} (hr : Reach r) (s : Int) (hs : r.start = some s) :
    ∃ groups : List (Feedback × List (Int × Int)),
      r.build.2 = groups.map (fun g => g.1.getRTCP) ∧
      (groups.map (·.2)).flatten = received r.map s r.map.endSN ∧
      ∀ g ∈ groups, ∃ es : List TwccSpec.Entry,
        TwccSpec.decode g.1.getRTCP.toWire = some es ∧
        es.length = g.1.getRTCP.count ∧
        (∃ K : Int, K % 1073741824000 = 0 ∧
          ReportsAll ((es.map (shiftEntry K)).filter (fun e => e.time.isSome)) (g.2.map wire)) ∧
        (∀ e ∈ es, e.time = none → e.status = 0) := by
  obtain ⟨groups, g1, g2, g3⟩ := reach_groups hr s hs
  refine ⟨groups, g1, g2, ?_⟩
  intro g hg
  obtain ⟨B, c, hcov, hb⟩ := g3 g hg
  have hcnt : g.1.count < 65536 := by have := hcov.count; omega
  obtain ⟨d1, d2, d3⟩ := decode_sound_packet hcov.built hcnt hcov.ref
  exact ⟨_, wire_decode (builtLog_built hcov.built) hcnt, d1, ⟨_, by omega, d2⟩, d3⟩

/-! ## T5 — completeness of a build -/

/-- ★ T5 `build_complete`: in every reachable state, one `BuildFeedbackPacket` reports every received
number of the map from the cursor to the end exactly once and in order (`flatten = received`);
consecutive packets cover consecutive, non-overlapping ranges: packet k starts at
`max(cursor_k, first_k − 0x7FFE)` (the documented skip of more than 0x7FFE missing numbers), holds one
status for every number up to its last received one, and the next cursor is that number + 1
(`Covers`); `fbPktCount` increases by one per packet (mod 256), also across builds; the cursor ends
after the last reported number; the map is untouched. -/
theorem build_complete {r : Recorder} (hr : Reach r) :
    (r.start = none → r.build = (r, [])) ∧
    (∀ s, r.start = some s →
      ∃ groups : List (Feedback × List (Int × Int)),
        r.build.2 = groups.map (fun g => g.1.getRTCP) ∧
        (groups.map (·.2)).flatten = received r.map s r.map.endSN ∧
        Covers r.sender r.media s r.fbCnt groups ∧
        r.build.1.fbCnt = (r.fbCnt + groups.length) % 256 ∧
        r.build.1.map = r.map ∧
        r.build.1.start = some (lastNext s (received r.map s r.map.endSN))) := by
  obtain ⟨b1, b2⟩ := build_spec r (reach_inv hr)
  refine ⟨b1, fun s hs => ?_⟩
  obtain ⟨groups, g1, g2, g3, g4, _⟩ := b2 s hs
  exact ⟨groups, g1, g2, g3, by rw [g4], by rw [g4], by rw [g4]⟩

/-- T5, the record side (`record_keeps_pending`): `Record(seq, t)` never moves the cursor past a
number that is still in the map and was pending (at or above the old cursor) or is the number just
recorded — so "every packet recorded since the previous feedback (and still in the map) is reported
by the next one" follows with `build_complete`; and it never alters a stored arrival time: an entry
is kept, dropped, or — only for the recorded number, only if it had no entry — set to `t`
(first arrival wins). -/
theorem record_keeps_pending {r : Recorder} (hr : Reach r) (ssrc seq : Nat) (t : Int) :
    ∃ s', (r.record ssrc seq t).start = some s' ∧
      (∀ x, (r.record ssrc seq t).map.get x = r.map.get x ∨ (r.record ssrc seq t).map.get x = -1 ∨
        (x = (Unwrapper.unwrap r.unw seq).2 ∧ r.map.get x < 0 ∧ (r.record ssrc seq t).map.get x = t)) ∧
      (∀ x, 0 ≤ (r.record ssrc seq t).map.get x →
        (x = (Unwrapper.unwrap r.unw seq).2 ∨ ∃ s, r.start = some s ∧ s ≤ x) → s' ≤ x) :=
  (record_spec r (reach_inv hr) ssrc seq t).2.2.2.2.2

set_option maxRecDepth 100000 in
example : (((newRecorder 1).record 2 10 1000).record 2 12 3000).build.2.length = 1 := by decide

/-! ## T7 — declared length -/

/-- ★ T7 `header_len`: the RTCP header length field `getRTCP` writes (in 32-bit words minus one)
describes exactly the marshalled size (20 bytes of headers + 2 per chunk + 1 or 2 per delta,
padded to a multiple of 4), and the padding bit is set exactly when padding bytes exist.  The
hypothesis is the range of the 16-bit length field itself (a feedback has at most 2^16 statuses, so
its size is below 2^18); `header_len_reach` removes it for every packet a recorder can produce. -/
theorem header_len {f : Feedback} (h : Built f) (hs : f.getRTCP.marshalSize ≤ 262144) :
    4 * (f.getRTCP.hdrLength + 1) = f.getRTCP.marshalSize ∧
    (f.getRTCP.padding = true ↔
      (20 + 2 * f.getRTCP.chunks.length + (f.getRTCP.deltas.map deltaSize).sum) % 4 ≠ 0) := by
  obtain ⟨syms, hi, _⟩ := built_inv h
  exact getRTCP_hdrLength hi.len hs

example : (((newFeedback 1 2 0).setBase 10 1000000).addReceived 10 1000100).map
    (fun f => (f.getRTCP.hdrLength, f.getRTCP.marshalSize, f.getRTCP.padding)) = some (5, 24, true) := by
  decide

/-- ★ T7 for every packet of every reachable build, without any size hypothesis
(`header_len_reach`): its declared length is its marshalled size, and that size is at most 58 542
bytes (`marshalSize_fix` at 2^15 statuses: 20 + 2·(32768/7 + 2) chunk bytes + 0xC000 + 1 delta bytes + 3 padding) — within what pion/rtcp can marshal (it sizes a TransportLayerCC in a uint16).  The bound
rests on the F-37 fix (`maxDeltaBytes`): without it a build of 2^15 statuses with two-byte deltas
produced a 65 568-byte packet on which `rtcp.TransportLayerCC.Marshal` panics
(corpus/C05/F-33.ops, the witness of F-37). -/
theorem header_len_reach {r : Recorder} (hr : Reach r) :
    ∀ p ∈ r.build.2, 4 * (p.hdrLength + 1) = p.marshalSize ∧ p.marshalSize ≤ 58542 := by
  intro p hp
  cases hs : r.start with
  | none => rw [((build_spec r (reach_inv hr)).1 hs)] at hp; simp at hp
  | some s =>
    obtain ⟨groups, g1, _, g3⟩ := reach_groups hr s hs
    rw [g1] at hp
    obtain ⟨g, hg, rfl⟩ := List.mem_map.mp hp
    obtain ⟨B, c, hcov, hb⟩ := g3 g hg
    have hbuilt := builtLog_built hcov.built
    obtain ⟨syms, hi, hb, hl⟩ := built_inv hbuilt
    have hsz := marshalSize_fix hi hb hl
    have hcnt := hi.count
    have := hcov.count
    have hle : g.1.getRTCP.marshalSize ≤ 58542 := by unfold maxDeltaBytes at hsz; omega
    exact ⟨(header_len hbuilt (by omega)).1, hle⟩

/-! ## T6 — the arrival map refines a partial function on a window -/

/-- ★ T6 `map_refines`: the circular buffer behaves as the partial function `get : number ⇀ time`
(−1 = absent) restricted to the window `[begin, end)`:
* `AddPacket sn t` on a well-formed map gives a well-formed map; it is ignored iff `sn` lies more
  than 2^15 below the end; otherwise the window becomes `[newBegin, max end (sn+1))`, `sn ↦ t`, every
  other number inside the new window keeps its entry (numbers in a gap read "absent") and everything
  outside reads "absent" — across every reallocation;
* `RemoveOldPackets sn limit` only drops a prefix of the window (below `sn`, each entry absent or
  `≤ limit`, stopping at the first younger one) and changes nothing else;
* well-formed = capacity a power of two in [128, 65536], `end − begin ≤ 2^15` and `≤ capacity`
  (the C12 bound), and every reachable recorder's map is unallocated or well formed. -/
theorem map_refines :
    (∀ (m : ArrivalMap) (sn t : Int), ArrivalMap.WF m →
      ArrivalMap.WF (m.addPacket sn t) ∧
      (if sn < m.beginSN ∧ m.endSN - sn > 32768 then m.addPacket sn t = m
       else (m.addPacket sn t).beginSN = ArrivalMap.newBegin m sn ∧
        (m.addPacket sn t).endSN = max m.endSN (sn + 1) ∧
        ∀ x, (m.addPacket sn t).get x =
          if x = sn then t
          else if ArrivalMap.newBegin m sn ≤ x ∧ x < max m.endSN (sn + 1) then m.get x else -1)) ∧
    (∀ (m : ArrivalMap) (sn limit : Int), ArrivalMap.WF m →
      ArrivalMap.WF (m.removeOld sn limit) ∧ (m.removeOld sn limit).endSN = m.endSN ∧
      m.beginSN ≤ (m.removeOld sn limit).beginSN ∧
      (m.removeOld sn limit).beginSN ≤ max m.beginSN (min sn m.endSN) ∧
      (∀ x, (m.removeOld sn limit).get x = if (m.removeOld sn limit).beginSN ≤ x then m.get x else -1) ∧
      (∀ x, m.beginSN ≤ x → x < (m.removeOld sn limit).beginSN → m.get x ≤ limit) ∧
      ((m.removeOld sn limit).beginSN < min sn m.endSN → m.get (m.removeOld sn limit).beginSN > limit)) ∧
    (∀ m : ArrivalMap, ArrivalMap.WF m →
      128 ≤ m.cap ∧ m.cap ≤ 65536 ∧ (∃ k, m.cap = 2 ^ k) ∧
      0 ≤ m.endSN - m.beginSN ∧ m.endSN - m.beginSN ≤ 32768 ∧ m.endSN - m.beginSN ≤ (m.cap : Int)) ∧
    (∀ r : Recorder, Reach r → r.map.cap = 0 ∨ ArrivalMap.WF r.map) := by
  refine ⟨fun m sn t h => ArrivalMap.addPacket_spec m h sn t,
    fun m sn limit h => ArrivalMap.removeOld_spec m h sn limit, ?_, ?_⟩
  · intro m h
    obtain ⟨k, _, _, e⟩ := h.pow
    have := h.order
    exact ⟨h.pow.ge, h.pow.le, ⟨k, e⟩, by omega, h.window, h.fits⟩
  · intro r hr
    rcases (reach_inv hr).st with ⟨h0, _⟩ | ⟨hwf, _⟩
    · exact Or.inl h0
    · exact Or.inr hwf

/-- non-vacuity: a reachable recorder with a well-formed map. -/
example : ArrivalMap.WF ((newRecorder 1).record 2 10 1000).map := by
  rcases (reach_inv (Reach.record 2 10 1000 (Reach.new 1))).st with ⟨h0, _⟩ | ⟨hwf, _⟩
  · exact absurd h0 (by decide +kernel)
  · exact hwf

end Interceptor.Twcc
