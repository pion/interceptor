/-
C14 (mask clause, design theorem 2a `mask_names_cover`) — restated on the code itself: on the Lean definitions
that extract/fn.go regenerates from pkg/flexfec/flexfec_coverage.go and pkg/flexfec/util/bitarray.go on every
run (Gen/Fn_flexfec.lean, Gen/Fn_flexfec_util.lean): the mask words the generated `extractMask1`,
`extractMask2`, `extractMask3_03` (and the methods `ProtectionCoverage.ExtractMask1/2/3_03` that index the
table) return, read as the FlexFEC-03 draft lays them out (15 + 31 + 63 bits, most significant first;
`FlexFecSpec.maskBits`, the independent decoder's reading), name exactly the positions 0..108 at which the
generated `GetBit` returns 1 — and after `Reset` and any sequence of generated `SetBit` calls those are
exactly the indices that were set.
Each statement follows from the model theorem (Props/C14.lean `mask_names_cover`; Proofs/FlexFecBits.lean
`bitOf_setBit`, `getBit_beq_one`) and the source-equals-model theorems of Facts/FnFlexFec.lean
(`extractMask*_src_eq_model`, `getBit_src_eq_model`, `setBit_src_eq_model`, `reset_src_eq_model`, `wf_setBit`).
No ★ statement mentions the hand-written model `FlexFec.BitArray` (`absB` is a proof device).

Hypothesis on a state: both words are in the range of their Go type uint64 (`U64`; established by `Reset` /
the zero value, preserved by `SetBit`: `u64_reset_src`, `u64_setBit_src`); indices are uint32.
-/
import Interceptor.Facts.FnFlexFec2
import Interceptor.Props.C14
namespace Interceptor.C14Src
open Interceptor Interceptor.Gen.Fn Interceptor.GoSem Interceptor.FlexFec
open Interceptor.FlexFecSpec (maskBits)
open Interceptor.Facts.FnFlexFec

abbrev B := S_flexfec_util_BitArray

/-- both words are in the range of their Go type (uint64). -/
def U64 (g : B) : Prop :=
  (0 ≤ g.Lo ∧ g.Lo < 18446744073709551616) ∧ (0 ≤ g.Hi ∧ g.Hi < 18446744073709551616)

/-- the model bit array a Go struct represents (proof device only). -/
def absB (g : B) : BitArray := ⟨g.Lo.toNat, g.Hi.toNat⟩

theorem rel_abs (g : B) (h : U64 g) : baRel g (absB g) ∧ wf (absB g) := by
  obtain ⟨⟨a, b⟩, c, d⟩ := h
  refine ⟨⟨?_, ?_⟩, ?_, ?_⟩
  · show g.Lo = ((g.Lo.toNat : Nat) : Int); omega
  · show g.Hi = ((g.Hi.toNat : Nat) : Int); omega
  · show g.Lo.toNat < 2 ^ 64; omega
  · show g.Hi.toNat < 2 ^ 64; omega

theorem u64_of_rel (g : B) (m : BitArray) (r : baRel g m) (w : wf m) : U64 g := by
  obtain ⟨r1, r2⟩ := r
  obtain ⟨w1, w2⟩ := w
  unfold U64
  rw [r1, r2]
  omega

/-- ★ the hypothesis is established by `Reset` (and by the zero value). -/
theorem u64_reset_src (g : B) : U64 (flexfec_util_BitArray_Reset g) ∧ U64 {} := by
  constructor
  · unfold U64 flexfec_util_BitArray_Reset; simp
  · unfold U64; decide

/-- ★ the hypothesis is preserved by the generated `SetBit`, for every uint32 index. -/
theorem u64_setBit_src (g : B) (h : U64 g) (i : Nat) (hi : i < 4294967296) :
    U64 (flexfec_util_BitArray_SetBit g (i : Int)) := by
  obtain ⟨r, w⟩ := rel_abs g h
  exact u64_of_rel _ _ (setBit_src_eq_model g _ r w i hi) (wf_setBit _ w i)

/-- the generated `GetBit` read as a Boolean "position `j` is covered". -/
def srcBit (g : B) (j : Nat) : Bool := flexfec_util_BitArray_GetBit g (j : Int) == 1

theorem srcBit_eq (g : B) (h : U64 g) (j : Nat) (hj : j < 128) : srcBit g j = bitOf (absB g) j := by
  obtain ⟨r, w⟩ := rel_abs g h
  unfold srcBit
  rw [getBit_src_eq_model g _ r w j (by omega), ← getBit_beq_one _ _ hj]
  by_cases e : (absB g).getBit j = 1
  · rw [e]; rfl
  · have : ¬ (((absB g).getBit j : Nat) : Int) = 1 := by omega
    rw [beq_eq_false_iff_ne.mpr this, beq_eq_false_iff_ne.mpr e]

/-- ★ C14 clause "the mask names exactly the packets that were combined", bit level, on the code: for EVERY
bit array (two uint64 words) the three mask words the generated `extractMask1`, `extractMask2`,
`extractMask3_03` return name — read as the draft lays them out, 15 + 31 + 63 bits, most significant first —
exactly the positions 0..108 at which the generated `GetBit` returns 1, in ascending order. -/
theorem mask_names_cover_src (g : B) (h : U64 g) :
    maskBits (flexfec_extractMask1 g).toNat 15 0 ++ maskBits (flexfec_extractMask2 g).toNat 31 15
        ++ maskBits (flexfec_extractMask3_03 g).toNat 63 46
      = (List.range 109).filter (srcBit g) := by
  obtain ⟨r, w⟩ := rel_abs g h
  rw [extractMask1_src_eq_model g _ r, extractMask2_src_eq_model g _ r, extractMask3_03_src_eq_model g _ r w]
  simp only [Int.toNat_natCast]
  rw [mask_names_cover (absB g) w.2]
  apply List.filter_congr
  intro j hj
  rw [List.mem_range] at hj
  exact (srcBit_eq g h j (by omega)).symm

/-- the generated `SetBit` over a list of indices. -/
def srcSet (g : B) (js : List Nat) : B := js.foldl (fun g (j : Nat) => flexfec_util_BitArray_SetBit g (j : Int)) g

theorem setBit_big (b : BitArray) (i : Nat) (hi : 128 ≤ i) : b.setBit i = b := by
  unfold BitArray.setBit
  rw [if_neg (by omega), if_neg (by omega)]

/-- one generated `SetBit i` (any uint32 `i`): position `j < 128` reads 1 afterwards iff `j = i` or it did. -/
theorem srcBit_setBit (g : B) (h : U64 g) (i : Nat) (hi : i < 4294967296) (j : Nat) (hj : j < 128) :
    srcBit (flexfec_util_BitArray_SetBit g (i : Int)) j = (decide (i = j) || srcBit g j) := by
  obtain ⟨r, w⟩ := rel_abs g h
  have r' := setBit_src_eq_model g _ r w i hi
  have h' := u64_setBit_src g h i hi
  have e : absB (flexfec_util_BitArray_SetBit g (i : Int)) = (absB g).setBit i := by
    obtain ⟨a, b⟩ := r'
    show (⟨(flexfec_util_BitArray_SetBit g (i : Int)).Lo.toNat, (flexfec_util_BitArray_SetBit g (i : Int)).Hi.toNat⟩ : BitArray) = _
    rw [a, b]
    simp only [Int.toNat_natCast]
  rw [srcBit_eq _ h' j hj, srcBit_eq g h j hj, e]
  by_cases hb : i < 128
  · exact bitOf_setBit _ i j hb hj
  · rw [setBit_big _ i (by omega)]
    have : ¬ i = j := by omega
    simp [this]

/-- ★ the step theorem chains: after any list of generated `SetBit` calls (uint32 indices; indices ≥ 128 have
no effect) the state is again two uint64 words and position `j < 128` reads 1 iff it was set or read 1 before. -/
theorem setBits_src (js : List Nat) (hjs : ∀ i ∈ js, i < 4294967296) :
    ∀ (g : B), U64 g → U64 (srcSet g js) ∧
      ∀ j, j < 128 → srcBit (srcSet g js) j = (decide (j ∈ js) || srcBit g j) := by
  induction js with
  | nil => intro g h; exact ⟨h, fun j _ => by simp [srcSet]⟩
  | cons i is ih =>
    intro g h
    have hi := hjs i (by simp)
    obtain ⟨u, sp⟩ := ih (fun k hk => hjs k (by simp [hk])) _ (u64_setBit_src g h i hi)
    refine ⟨u, fun j hj => ?_⟩
    have := sp j hj
    simp only [srcSet, List.foldl_cons] at this ⊢
    rw [this, srcBit_setBit g h i hi j hj]
    by_cases e : i = j
    · subst e; simp
    · have e' : ¬ j = i := fun x => e x.symm
      simp [e, e']

/-- ★ C14 clause "the mask names exactly the packets that were combined", on the code, from the constructor:
after `Reset` and any list `js` of generated `SetBit` calls (what `resetCoverage` and the fill loop of
`UpdateCoverage` do to a row), the three mask words of the generated `extractMask1/2/3_03` name exactly the
indices below 109 that were set. -/
theorem masks_name_set_src (g0 : B) (js : List Nat) (hjs : ∀ i ∈ js, i < 4294967296) :
    let g := srcSet (flexfec_util_BitArray_Reset g0) js
    maskBits (flexfec_extractMask1 g).toNat 15 0 ++ maskBits (flexfec_extractMask2 g).toNat 31 15
        ++ maskBits (flexfec_extractMask3_03 g).toNat 63 46
      = (List.range 109).filter (fun j => decide (j ∈ js)) := by
  intro g
  obtain ⟨u, sp⟩ := setBits_src js hjs _ (u64_reset_src g0).1
  rw [mask_names_cover_src g u]
  apply List.filter_congr
  intro j hj
  rw [List.mem_range] at hj
  rw [sp j (by omega)]
  have : srcBit (flexfec_util_BitArray_Reset g0) j = false := by
    rw [srcBit_eq _ (u64_reset_src g0).1 j (by omega)]
    exact bitOf_empty j
  rw [this, Bool.or_false]

/-- every row of the table is two uint64 words. -/
def TableU64 (p : S_flexfec_ProtectionCoverage) : Prop := ∀ g ∈ p.packetMasks, U64 g

theorem row_u64 (p : S_flexfec_ProtectionCoverage) (h : TableU64 p) (i : Int) : U64 (idxG p.packetMasks i) := by
  unfold idxG
  split
  · exact (u64_reset_src default).2
  · rw [List.getD_eq_getElem?_getD]
    cases e : p.packetMasks[i.toNat]? with
    | none => exact (u64_reset_src default).2
    | some g => exact h g (List.mem_of_getElem? e)

/-- ★ the same clause for the methods the encoder calls, `ProtectionCoverage.ExtractMask1/2/3_03(i)`: for every
table whose rows are uint64 words and every index, the three mask words name exactly the positions 0..108 at
which the generated `GetBit` of row `i` (`packetMasks[i]`) returns 1. -/
theorem table_masks_name_cover_src (p : S_flexfec_ProtectionCoverage) (h : TableU64 p) (i : Int) :
    maskBits (flexfec_ProtectionCoverage_ExtractMask1 p i).toNat 15 0
        ++ maskBits (flexfec_ProtectionCoverage_ExtractMask2 p i).toNat 31 15
        ++ maskBits (flexfec_ProtectionCoverage_ExtractMask3_03 p i).toNat 63 46
      = (List.range 109).filter (srcBit (idxG p.packetMasks i)) :=
  mask_names_cover_src _ (row_u64 p h i)

/-- ★ the table hypothesis is established by the constructor's array of zero bit arrays and preserved by
replacing a row with a uint64 bit array (e.g. the result of `Reset` / `SetBit` on it). -/
theorem tableU64_src :
    TableU64 { packetMasks := Facts.FnFlexFec2.goZeroMasks } ∧
    ∀ (p : S_flexfec_ProtectionCoverage) (k : Nat) (g : B), TableU64 p → U64 g →
      TableU64 { p with packetMasks := p.packetMasks.set k g } := by
  constructor
  · intro g hg
    have : g = default := List.eq_of_mem_replicate hg
    rw [this]; exact (u64_reset_src default).2
  · intro p k g hp hg x hx
    rcases List.mem_or_eq_of_mem_set hx with h | h
    · exact hp x h
    · rw [h]; exact hg

/-! ## non-vacuity: the generated code evaluated on concrete inputs -/

/-- `mask_names_cover_src`: bits 0, 46, 108 (one per mask word). -/
example :
    let g : B := { Lo := 2 ^ 63 + 2 ^ 17, Hi := 2 ^ 19 }
    U64 g ∧ maskBits (flexfec_extractMask1 g).toNat 15 0 ++ maskBits (flexfec_extractMask2 g).toNat 31 15
      ++ maskBits (flexfec_extractMask3_03 g).toNat 63 46 = [0, 46, 108] ∧
    (List.range 109).filter (srcBit g) = [0, 46, 108] := by
  refine ⟨by unfold U64; decide, by decide +kernel, by decide +kernel⟩

/-- `setBits_src` / `masks_name_set_src`: `Reset`, then `SetBit` 70, 3, 14, 15, 108, 3 again, 109 (not named by
any mask word: F-28) and 127.  (An index ≥ 128 has no effect — `setBits_src` covers it — but is not evaluated
here: the translated shift count `63 − uint32(i − 64)` wraps to about 2^32 and the kernel would compute 2^(2^32).) -/
example :
    let g := srcSet (flexfec_util_BitArray_Reset { Lo := 12345, Hi := 678 }) [70, 3, 14, 15, 108, 3, 109, 127]
    maskBits (flexfec_extractMask1 g).toNat 15 0 ++ maskBits (flexfec_extractMask2 g).toNat 31 15
      ++ maskBits (flexfec_extractMask3_03 g).toNat 63 46 = [3, 14, 15, 70, 108] ∧
    flexfec_util_BitArray_GetBit g 109 = 1 ∧ flexfec_util_BitArray_GetBit g 127 = 1 ∧ flexfec_util_BitArray_GetBit g 126 = 0 := by
  refine ⟨by decide +kernel, by decide +kernel, by decide +kernel, by decide +kernel⟩

/-- `table_masks_name_cover_src`: a table whose row 1 protects media packets 1 and 65. -/
example :
    let p : S_flexfec_ProtectionCoverage :=
      { packetMasks := Facts.FnFlexFec2.goZeroMasks.set 1 { Lo := 4611686018427387904, Hi := 4611686018427387904 } }
    TableU64 p ∧
    maskBits (flexfec_ProtectionCoverage_ExtractMask1 p 1).toNat 15 0
      ++ maskBits (flexfec_ProtectionCoverage_ExtractMask2 p 1).toNat 31 15
      ++ maskBits (flexfec_ProtectionCoverage_ExtractMask3_03 p 1).toNat 63 46 = [1, 65] := by
  refine ⟨tableU64_src.2 _ 1 _ tableU64_src.1 (by unfold U64; decide), by decide +kernel⟩

end Interceptor.C14Src
