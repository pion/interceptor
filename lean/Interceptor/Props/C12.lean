/-
C12 — memory held per interceptor is bounded regardless of stream length (PARTIAL by design:
garbage-collector reachability, slice capacity and sync.Pool are not carried; `size` counts
retained entries of the models, which the correspondence `sizes` ties to the `len` of the real
containers op for op).

Per component: ★ `…_size_bounded` (for every operation list the size stays below a bound that is a
function of the configuration and the bound streams), ★ `…_unbind_releases`; where the bound
genuinely depends on the consumer this is stated exactly; where the size grows without bound on a
workload of the property's quantifier the negation is proved (`…_false`) with a witness.
-/
import Interceptor.Proofs.Sizes
import Interceptor.Proofs.SizesRtpfb
import Interceptor.Proofs.SizesTwcc
import Interceptor.Proofs.StatsMemory
import Interceptor.Props.C17
set_option linter.unusedVariables false
namespace Interceptor.Props.C12
open Interceptor Interceptor.Sizes

/-! ## rtpfb history (pkg/rtpfb/history.go) -/

/-- ★ (partial: the bound is the consumer's) for every list of operations (sent packets, TWCC /
CCFB acknowledgements, reports) the `packets` map holds at most the packets sent and not yet
reported: `len(packets) ≤ counter − nextReport`.  With feedback that acknowledges recent packets
this is the number of packets in flight; it does not grow with the length of the stream (F-17,
fixed: reported packets are deleted). -/
theorem rtpfb_size_le_unreported_partial (ops : List Rtpfb.HOp) :
    (Rtpfb.runH {} ops).packets.length ≤ (Rtpfb.runH {} ops).counter - (Rtpfb.runH {} ops).nextReport :=
  Rtpfb.inv2_length _ (Rtpfb.inv2_runH ops {} Rtpfb.inv2_init)

/-- the full statement is false for rtpfb: WITHOUT any feedback (a workload the property names) the
history grows by one record per packet sent — no bound that depends only on the configuration
exists.  Witness: `B + 1` packets and no feedback.  (known finding F-17b) -/
theorem rtpfb_size_bounded_false : ¬ ∃ B, ∀ ops : List Rtpfb.HOp, (Rtpfb.runH {} ops).packets.length ≤ B := by
  rintro ⟨B, hB⟩
  have h1 := hB (List.replicate (B + 1) (.add 1 0 false 0 0 0))
  have h2 := Rtpfb.runH_adds 1 0 false 0 0 0 (B + 1) {} Rtpfb.inv2_init
  rw [h2] at h1
  simp at h1
  omega

example : (Rtpfb.runH {} [.add 1 0 false 0 0 0, .add 1 1 false 0 0 0, .ackCc 0 1 ⟨1, true, 0, 0⟩, .build]).packets.length = 0 := by decide

/-! ## feedback adapter (internal/cc/feedback_adapter.go): LRU of 250 -/

/-- ★ the history of the feedback adapter never holds more than 250 sent-packet records, for every
sequence of `OnSent` calls (list and map have the same entries in the model). -/
theorem adapter_size_bounded (acks : List FeedbackAdapter.Ack) :
    (acks.foldl FeedbackAdapter.add []).length ≤ 250 :=
  List.foldlRecOn acks FeedbackAdapter.add (motive := fun h => h.length ≤ FeedbackAdapter.lruSize) (Nat.zero_le _)
    fun h hh a _ => FeedbackAdapter.add_length_le h a hh

example : (((List.range 300).map (fun i => (⟨i, 0, 0, 0, 0, 0⟩ : FeedbackAdapter.Ack))).foldl FeedbackAdapter.add []).length = 250 := by
  rw [adapter_fold_fresh _ [] (Nat.zero_le _)]
  · simp [FeedbackAdapter.lruSize]
  · rw [List.pairwise_map]
    exact List.nodup_range.imp fun hne => by simp [FeedbackAdapter.sameKey, hne]
  · intro _ _ _ hx; cases hx

/-! ## RTP ring of the NACK responder (internal/rtpbuffer) -/

/-- ★ the ring never has more slots, and never more slots in use, than its configured size, for
every sequence of added sequence numbers. -/
theorem ring_size_bounded (n : Nat) (seqs : List Nat) :
    (seqs.foldl Ring.add (Ring.new n)).slots.size = n ∧ (seqs.foldl Ring.add (Ring.new n)).used ≤ n := by
  have h1 : (seqs.foldl Ring.add (Ring.new n)).slots.size = n :=
    List.foldlRecOn seqs Ring.add (motive := fun r => r.slots.size = n) Array.size_replicate
      fun r hr s _ => (ring_add_slots r s).1.trans hr
  exact ⟨h1, Nat.le_trans (ring_used_le _) (Nat.le_of_eq h1)⟩

/-- ★ unbind/close releases: after `UnbindLocalStream` of every bound stream the responder holds
nothing (the size vector is that of a fresh interceptor). -/
theorem nackresp_unbind_releases (s : NackResp) (ks : List Nat) (hk : ∀ e ∈ s.streams, e.1 ∈ ks) :
    (ks.foldl (fun k x => K.step k false (.unbind x)) (.nackresp s)).size = (K.nackresp { rsize := s.rsize }).size :=
  congrArg K.size (fold_unbind_del (fun m => K.nackresp { s with streams := m }) _ (fun _ _ => rfl) ks s.streams hk)

/-! ## NACK generator (pkg/nack/generator_interceptor.go) -/

/-- ★ unbind releases: after `UnbindRemoteStream` of every bound stream the generator holds no
receive log and no NACK counters (both live in the per-stream record of the model). -/
theorem nackgen_unbind_releases (g : ReceiveLog.Gen) (ks : List Nat) (hk : ∀ e ∈ g.streams, e.1 ∈ ks) :
    (ks.foldl ReceiveLog.unbind g).streams = [] :=
  congrArg (·.streams) (fold_unbind_del (fun m => { g with streams := m }) ReceiveLog.unbind (fun _ _ => rfl) ks g.streams hk)

/-- ★ the receive log of a stream is a bitmap of the configured size: packets and ticks never add
or remove a stream record (`rtp` and `tick` map over the bound streams). -/
theorem nackgen_streams_constant (g : ReceiveLog.Gen) (ssrc seq : Nat) :
    (ReceiveLog.rtp g ssrc seq).streams.length = g.streams.length ∧ (ReceiveLog.tick g).1.streams.length = g.streams.length := by
  simp [ReceiveLog.rtp, ReceiveLog.tick]

/-! ## FlexFEC encoder interceptor: pending batch -/

/-- ★ with `numMediaPackets ≥ 1` the pending batch of a stream always holds fewer than
`numMediaPackets` packets, for every sequence of writes. -/
theorem flexfec_size_bounded (n f ssrc fpt fssrc : Nat) (hn : 0 < n) (pkts : List FlexFec.Bytes) :
    (pkts.foldl (fun s p => (s.write p).1) (FlexFec.Icpt.new n f ssrc fpt fssrc)).buffer.length < n := by
  have h := List.foldlRecOn pkts (fun s p => (s.write p).1) (b := FlexFec.Icpt.new n f ssrc fpt fssrc)
    (motive := fun s : FlexFec.Icpt => s.buffer.length < s.numMedia ∧ s.numMedia = n) ⟨hn, rfl⟩
    fun s hs p _ => ⟨(fec_write_lt s p hs.1).1, (fec_write_lt s p hs.1).2.trans hs.2⟩
  exact Nat.lt_of_lt_of_eq h.1 h.2

/-- the configuration `NumMediaPackets(0)` has no bound: the test `len(batch) == 0` never holds
after the append, the batch grows by one per packet (observation; degenerate configuration). -/
theorem flexfec_zero_media_unbounded (f ssrc : Nat) (p : FlexFec.Bytes) (hp : FlexFec.ssrcOf p = ssrc) (k : Nat) :
    ((List.replicate k p).foldl (fun s p => (s.write p).1) (FlexFec.Icpt.new 0 f ssrc 118 119)).buffer.length = k := by
  have gen : ∀ (k : Nat) (s : FlexFec.Icpt), s.numMedia = 0 → s.active = true → FlexFec.ssrcOf p = s.mediaSsrc →
      ((List.replicate k p).foldl (fun s p => (s.write p).1) s).buffer.length = s.buffer.length + k := by
    intro k
    induction k with
    | zero => intro s _ _ _; rfl
    | succ k ih =>
      intro s h0 ha hs
      obtain ⟨a, b, c, d⟩ := fec_write_zero s p h0 ha hs
      rw [List.replicate_succ, List.foldl_cons, ih _ b c (d ▸ hs), a]
      omega
  have := gen k (FlexFec.Icpt.new 0 f ssrc 118 119) rfl rfl hp
  simpa [FlexFec.Icpt.new] using this

/-- ★ unbind releases the batch of the stream. -/
theorem flexfec_unbind_releases (s : Fec) (ks : List Nat) (hk : ∀ e ∈ s.streams, e.1 ∈ ks) :
    (ks.foldl (fun k x => K.step k false (.unbind x)) (.flexfec s)).size = (K.flexfec { media := s.media, fec := s.fec }).size :=
  congrArg K.size (fold_unbind_del (fun m => K.flexfec { s with streams := m }) _ (fun _ _ => rfl) ks s.streams hk)

/-! ## pacing interceptor: the bound is the consumer's -/

/-- ★ (the bound depends on the consumer, stated exactly) for every event list, the packets held by
the pacing interceptor (hand-over channel + queue of the loop) are exactly the accepted ones that
have not been delivered: `held = accepted − delivered`.  Whether this stays small is decided by the
rate (C17); a stalled head-of-line packet makes it grow (F-31, known under C17). -/
theorem pacing_held_eq_accepted_minus_delivered {α L} (c : Pacing.Cfg α L) (lim : L) (evs : List (Pacing.Ev α)) :
    let st := Pacing.run c (Pacing.St.init lim) evs
    st.chan.length + st.loc.length = st.accepted.length - st.delivered.length := by
  have h := congrArg List.length (Pacing.fifo_exactly_once c lim evs)
  simp only [List.length_append] at h ⊢
  omega

/-- the queues of the pacing model do not depend on its ghost histories: the driver drops them. -/
theorem pacing_forget_sound (st : PSt) (e : Pacing.Ev Nat) :
    forgetP (Pacing.exec pcfg (forgetP st) e) = forgetP (Pacing.exec pcfg st e) := by
  cases e with
  | accept p =>
    simp only [Pacing.exec, Pacing.accept, forgetP]
    by_cases hc : st.chan.length < pcfg.cap <;> simp [hc]
  | drain =>
    simp only [Pacing.exec, forgetP]
    cases hch : st.chan <;> simp [hch]
  | tick now => simp [Pacing.exec, forgetP]
  | setRate now r => simp [Pacing.exec, forgetP]
  | close => simp [Pacing.exec, forgetP]

/-! ## stats recorder: five remembered sender reports, five receiver reference times -/

/-- ★ for every event list a recorder remembers at most 5 sender-report times and at most 5
receiver-reference times. -/
theorem stats_remembered_bounded (s : Nat) (rate : Rat) (w : List Stats.Event) :
    (w.foldl (Stats.recStep s rate) {}).lastSRs.length ≤ 5 ∧ (w.foldl (Stats.recStep s rate) {}).lastRRTs.length ≤ 5 := by
  obtain ⟨a, b⟩ := Stats.fold_mem_init s rate w
  rw [a, b]
  simp only [Stats.Spec.lastN, List.length_drop]
  omega

/-- `unbind_releases` is FALSE for the stats interceptor: it has no Unbind*Stream, a recorder (and
its goroutine) stays until Close, and the map entry stays even after Close.  Witness: bind, unbind:
one recorder remains.  (known finding F-C12b) -/
theorem stats_unbind_releases_false :
    ∃ k : K, (K.step k false (.unbind 1)).size ≠ (K.stats {}).size ∧ (∀ x, K.step k false (.unbind x) = k) :=
  ⟨.stats { i := [Stats.Rec.new 1 90000] }, by decide, fun _ => rfl⟩

/-- `unbind_releases` is FALSE for the rfc8888 interceptor: it has no UnbindRemoteStream; the stream
log of every SSRC ever seen stays in the recorder (and keeps its share of the report budget).
(known finding F-C12a) -/
theorem rfc8888_unbind_releases_false (s : Rfc8888.Icpt) (x : Nat) :
    K.step (.rfc8888 s) false (.unbind x) = .rfc8888 s := rfl

/-! ## TWCC recorder: arrival-time ring (pkg/twcc/arrival_time_map.go) -/

/-- events of the recorder: a packet (transport sequence number, arrival time in µs) or a feedback tick. -/
inductive TwEv where
  | pkt (seq : Nat) (t : Int)
  | build

def twStep (r : TwccRec) : TwEv → TwccRec
  | .pkt seq t => r.record seq t
  | .build => r.build

/-- ★ for every sequence of recorded packets and feedback ticks — also when no feedback is ever
built — the arrival-time ring spans at most 2^15 = 32768 sequence numbers (`maxNumberOfPackets`).
(partial: the capacity of the slice, a power of two that `adjustToSize` keeps within a factor 4 of
the span, is compared by the correspondence only.) -/
theorem twcc_span_bounded_partial (evs : List TwEv) : (evs.foldl twStep {}).m.span ≤ 32768 := by
  have := List.foldlRecOn evs twStep (b := {}) (motive := fun r => AMap.SpanOk r.m) AMap.spanOk_init fun r h e _ => by
    cases e with
    | pkt seq t => exact record_spanOk r seq t h
    | build => show AMap.SpanOk r.build.m; rw [build_m]; exact h
  unfold AMap.SpanOk at this
  unfold AMap.span
  omega

example : (([TwEv.pkt 0 0, .pkt 10 10, .build, .pkt 5 20]).foldl twStep {}).m.span = 11 := by
  decide +kernel

/-! ## GCC rate calculator: sliding window (pkg/gcc/rate_calculator.go; a goroutine-local slice,
not reachable by an accessor: model only) -/

/-- ★ (partial: arrival times non-decreasing) after an acknowledgement with arrival time `a` the
window holds only acknowledgements that arrived within `window` before `a`: its length is the
number of packets acknowledged in one window, whatever the length of the stream. -/
theorem ratecalc_window_partial (c : RateCalc) (a : Int) (hi : c.init = true)
    (hs : (c.history ++ [a]).Pairwise (· ≤ ·)) : ∀ x ∈ (c.ack a).history, a - c.window ≤ x := by
  unfold RateCalc.ack
  simp only [hi, Bool.not_true, Bool.false_eq_true, if_false]
  exact dropOld_sorted _ _ hs

/-- without the hypothesis the statement is false: arrival times come from the remote peer's
feedback; one acknowledgement with an arrival time far in the future stays at the head of the
window and nothing behind it is ever dropped (`break` at the first entry that is not too old).
Witness: window 1 s, arrivals 10⁶ s, then 1, 2, 3 s: all four are kept. -/
theorem ratecalc_window_false :
    ∃ (c : RateCalc) (a : Int), c.init = true ∧ ∃ x ∈ (c.ack a).history, ¬ (a - c.window ≤ x) :=
  ⟨{ window := 1000000000, init := true, history := [1000000000000000, 1000000000, 2000000000] }, 3000000000, rfl,
   1000000000, by decide, by decide⟩

/-! ## receiver / sender report interceptors: one fixed-size record per bound stream -/

/-- ★ the report interceptors hold one stream record per bound stream (the receiver's bitmap is 128
words, fixed); packets, ticks and feedback do not change the size vector. -/
theorem report_size_constant (l : List Nat) (closed : Bool) (g ssrc seq : Nat) (lost : Bool) (bound : List Nat) :
    K.step (.rr l) closed (.packet g ssrc seq lost) = .rr l ∧ K.step (.rr l) closed (.adv g) = .rr l ∧
    K.step (.rr l) closed (.feedback g bound) = .rr l ∧
    K.step (.sr l) closed (.packet g ssrc seq lost) = .sr l ∧ K.step (.sr l) closed (.adv g) = .sr l ∧
    K.step (.sr l) closed (.feedback g bound) = .sr l := by
  refine ⟨rfl, ?_, rfl, rfl, ?_, rfl⟩ <;> cases closed <;> rfl

/-- ★ unbind releases the stream record of the receiver report interceptor. -/
theorem report_unbind_releases (l : List Nat) (x : Nat) :
    K.step (.rr l) false (.unbind x) = .rr (l.filter (· != x)) ∧ x ∉ l.filter (· != x) := by
  refine ⟨rfl, ?_⟩
  simp

end Interceptor.Props.C12
