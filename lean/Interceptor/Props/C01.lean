/-
C01 — media transparency of any chain of pass-through interceptors.
Model: `Model/Chain.lean`; helper lemmas: `Proofs/Chain.lean`.

Generic part, over any wrappers: a chain of writers each transparent on a guard `G` up to a relation `R` is transparent
(`chain_transparent`; readers: `chain_read_transparent`), and the application's calls reach the bottom in order
(`chain_order`).  Instances: every library interceptor's local / remote RTP and RTCP wrappers are transparent up to
`RtpRel` (equal but for header extensions), hence any chain of them (`library_chain_transparent`).  Then `Close`
(every member closed, errors kept: `chain_close`), `Unbind`, and `Registry.Build`.
-/
import Interceptor.Proofs.Chain
namespace Interceptor.Chain
open Interceptor.Rtp

variable {ω π ε β : Type}

/-- a writer wrapper is transparent on the guard `G` up to the relation `R`: on every packet that
meets the guard it calls the next writer with a related packet (and possibly injects packets of
its own *after* it), and the packet it passes on meets the guard again. -/
def Transparent (G : π → Prop) (R : π → π → Prop) (m : Wrapper ω π ε) : Prop :=
  ∀ w p, G p → ∃ w' p' after, m w p = (w', .pass p' after) ∧ R p p' ∧ G p'

/-- a reader wrapper is transparent on `G`: a successful inner read of bytes meeting the guard is
handed on with the same `n` and bytes; a failed inner read is returned as an error and leaves the
state untouched (nothing is accounted). -/
def ReadTransparent (G : β → Prop) (m : RWrapper ω β ε) : Prop :=
  (∀ w n b, G b → ∃ w', m w (.ok n b) = (w', .ok n b)) ∧
  (∀ w n e, ∃ n', m w (.err n e) = (w, .err n' e))

/-- ★ T1 `chain_transparent` (writers; RTP and RTCP alike — the packet type is a parameter).
For EVERY list of transparent wrappers (any order, any subset, any length, any world state), any
bottom writer (any fault schedule) and any packet meeting the guard: the bottom writer is called
with the application's packet exactly once, as the FIRST call (index `k`), with a related
packet; every other call is an injected packet and comes after it; the caller receives the
bottom writer's `n` for its packet, and every error the bottom writer returned for it. -/
theorem chain_transparent (G : π → Prop) (R : π → π → Prop)
    (hrefl : ∀ p, R p p) (htrans : ∀ a b c, R a b → R b c → R a c)
    (bottom : Nat → π → Ret ε) (ms : List (Wrapper ω π ε))
    (hms : ∀ m ∈ ms, Transparent G R m) (tag : Tag) (p : π) (w : ω) (k : Nat) (hp : G p) :
    ∃ p' rest, (writeVia bottom ms tag p w k).2.1 = (tag, p') :: rest ∧ (∀ c ∈ rest, c.1 = Tag.inj) ∧
      R p p' ∧ (writeVia bottom ms tag p w k).2.2.1 = (bottom k p').1 ∧
      (∀ e ∈ (bottom k p').2, e ∈ (writeVia bottom ms tag p w k).2.2.2) := by
  induction ms generalizing p w with
  | nil =>
    exact ⟨p, [], by simp [writeVia_nil], by simp, hrefl p, by simp [writeVia_nil], by simp [writeVia_nil]⟩
  | cons m inner ih =>
    obtain ⟨w1, p1, after, hm, hR, hG⟩ := hms m List.mem_cons_self w p hp
    obtain ⟨p2, rest1, hc, hinj, hR2, hn, he⟩ :=
      ih (fun m' hm' => hms m' (List.mem_cons_of_mem _ hm')) p1 w1 hG
    obtain ⟨extra, more, h1, h2, h3⟩ := injFold_spec bottom inner k (writeVia_inj_tags bottom inner) after
      ((writeVia bottom inner tag p1 w1 k).1, (writeVia bottom inner tag p1 w1 k).2.1,
       (writeVia bottom inner tag p1 w1 k).2.2.2)
    rw [writeVia_pass bottom m inner tag p p1 after w w1 k hm]
    refine ⟨p2, rest1 ++ extra, ?_, ?_, htrans _ _ _ hR hR2, hn, ?_⟩
    · simp only []; rw [h1]; simp only []; rw [hc]; rfl
    · intro c hc'
      rcases List.mem_append.mp hc' with h | h
      · exact hinj c h
      · exact h3 c h
    · intro e hem
      simp only []; rw [h2]
      exact List.mem_append_left _ (he e hem)

/-- ★ T1r `chain_read_transparent` (readers; RTP and RTCP alike): for every list of transparent
reader wrappers, bytes that meet the guard reach the application with the same `n` and the same
bytes, and an error of the wrapped reader reaches the application as an error while NO member's
state changes (a packet whose read failed is not accounted anywhere). -/
theorem chain_read_transparent (G : β → Prop) (ms : List (RWrapper ω β ε))
    (hms : ∀ m ∈ ms, ReadTransparent G m) (w : ω) :
    (∀ n b, G b → ∃ w', readVia ms w (.ok n b) = (w', .ok n b)) ∧
    (∀ n e, ∃ n', readVia ms w (.err n e) = (w, .err n' e)) := by
  induction ms generalizing w with
  | nil => exact ⟨fun n b _ => ⟨w, rfl⟩, fun n e => ⟨n, rfl⟩⟩
  | cons m rest ih =>
    have hm := hms m List.mem_cons_self
    have hrest := fun w => ih (fun m' h => hms m' (List.mem_cons_of_mem _ h)) w
    constructor
    · intro n b hb
      obtain ⟨w1, h1⟩ := hm.1 w n b hb
      obtain ⟨w2, h2⟩ := (hrest w1).1 n b hb
      exact ⟨w2, by rw [readVia, List.foldl_cons, h1]; exact h2⟩
    · intro n e
      obtain ⟨n1, h1⟩ := hm.2 w n e
      obtain ⟨n2, h2⟩ := (hrest w).2 n1 e
      exact ⟨n2, by rw [readVia, List.foldl_cons, h1]; exact h2⟩

theorem appCalls_append (a b : List (Tag × π)) : appCalls (a ++ b) = appCalls a ++ appCalls b := by
  simp only [appCalls, List.filter_append, List.map_append]

/-- ★ T2 `chain_order`: for every transparent chain, every list of application writes that meet
the guard and every fault schedule of the bottom writer, the application packets among the
bottom calls are exactly the written packets — one each, in the order written, each related to
its original — however many packets the members inject in between; and one result per write. -/
theorem chain_order (G : π → Prop) (R : π → π → Prop)
    (hrefl : ∀ p, R p p) (htrans : ∀ a b c, R a b → R b c → R a c)
    (bottom : Nat → π → Ret ε) (ms : List (Wrapper ω π ε))
    (hms : ∀ m ∈ ms, Transparent G R m) (ps : List π) (hps : ∀ p ∈ ps, G p) (w : ω) (k : Nat) :
    Pointwise R ps (appCalls (writeAll bottom ms ps w k).2.1) ∧
      (writeAll bottom ms ps w k).2.2.length = ps.length := by
  induction ps generalizing w k with
  | nil => exact ⟨by simp only [writeAll, appCalls, List.filter_nil, List.map_nil]; exact Pointwise.nil, by simp [writeAll]⟩
  | cons p ps ih =>
    obtain ⟨p', rest, hc, hinj, hR, _, _⟩ :=
      chain_transparent G R hrefl htrans bottom ms hms .app p w k (hps p List.mem_cons_self)
    have ih' := ih (fun q hq => hps q (List.mem_cons_of_mem _ hq))
      (writeVia bottom ms .app p w k).1 (k + (writeVia bottom ms .app p w k).2.1.length)
    have happ : appCalls (writeVia bottom ms .app p w k).2.1 = [p'] := by
      rw [hc]
      have : rest.filter (fun c => decide (c.1 = Tag.app)) = [] := by
        rw [List.filter_eq_nil_iff]; intro c hc'; simp [hinj c hc']
      simp [appCalls, this]
    constructor
    · simp only [writeAll]
      rw [appCalls_append, happ]
      exact Pointwise.cons hR ih'.1
    · simp only [writeAll, List.length_cons]
      rw [ih'.2]

/-- what the wrappers may change on an RTP packet: nothing but the header's extension block. -/
def RtpRel (a b : Pkt) : Prop :=
  b.payload = a.payload ∧ b.app = a.app ∧ sameButExtensions a.hdr b.hdr

theorem rtpRel_refl (p : Pkt) : RtpRel p p := by simp [RtpRel, sameButExtensions]

theorem rtpRel_trans (a b c : Pkt) (h1 : RtpRel a b) (h2 : RtpRel b c) : RtpRel a c := by
  simp_all [RtpRel, sameButExtensions]

/-- the explicit, decidable guard of the RTP writer side. It is sufficient, not exact: under it no
wrapper rejects (`local_transparent`), and the points where the real code rejects lie in its
complement (run against the implementation as the class `guards`): the NACK responder's packet factory accepts the packet (payload ≤ 1460 bytes, no RTX padding
overflow), the negotiated transport-cc id is a one-byte id, and an existing extension block is
RFC 8285 (one- or two-byte). -/
def LocalGuard (cfg : StreamCfg) (p : Pkt) : Prop :=
  responderRejects cfg p = none ∧ cfg.twId ≤ 14 ∧
    (p.hdr.extension = false ∨ p.hdr.profile = profOneByte ∨ p.hdr.profile = profTwoByte)

instance (cfg : StreamCfg) (p : Pkt) : Decidable (LocalGuard cfg p) := by
  unfold LocalGuard; infer_instance

theorem responderRejects_congr (cfg : StreamCfg) (a b : Pkt) (h : RtpRel a b) :
    responderRejects cfg b = responderRejects cfg a := by
  obtain ⟨hp, _, hs⟩ := h
  unfold sameButExtensions at hs
  obtain ⟨_, h2, _, _, h5, _, _, _, h9⟩ := hs
  simp [responderRejects, hp, ← h2, ← h9]

/-- ★ T3 `local_transparent` — `<x>_transparent` for every RTP writer wrapper of the library
except cc: nackgen, nackresp, rr, sr, twccsend, hdrext, rfc8888, rtpfb, stats, pdsend, pdrecv,
pli, flexfec (any batch size), mock and NoOp, for every stream configuration and every state:
under `LocalGuard` the wrapper passes the packet on with identical payload and a header that
differs at most in the extension block, and the guard holds again for what it passes on. -/
theorem local_transparent (idx : Nat) (k : Kind) (cfg : StreamCfg) (hk : k ≠ .cc) :
    Transparent (LocalGuard cfg) RtpRel (localWrap idx k cfg) := by
  intro w p hg
  have keep : ∀ w' after, ∃ w'' p' after', ((w', Act.pass p after) : World × Act Pkt WErr) = (w'', .pass p' after') ∧
      RtpRel p p' ∧ LocalGuard cfg p' := fun w' after => ⟨w', p, after, rfl, rtpRel_refl p, hg⟩
  cases k with
  | cc => exact absurd rfl hk
  | nackresp =>
    simp only [localWrap]
    split
    · exact keep _ _
    · rw [hg.1]; exact keep _ _
  | hdrext =>
    simp only [localWrap]
    split
    · exact keep _ _
    · rename_i hid
      obtain ⟨hrej, hle, hprof⟩ := hg
      have hacc : TwccHdrAccepts p.hdr cfg.twId := by
        unfold TwccHdrAccepts
        rcases hprof with h | h | h
        · exact Or.inl h
        · exact Or.inr (Or.inl ⟨h, by omega, hle⟩)
        · exact Or.inr (Or.inr ⟨h, by omega⟩)
      obtain ⟨h', hset, hsame, hprof'⟩ := setExtension_accepts p.hdr cfg.twId [0, 0] (by simp) hacc
      rw [hset]
      refine ⟨w, { p with hdr := h' }, [], rfl, ⟨rfl, rfl, hsame⟩, ?_, hle, Or.inr hprof'⟩
      rw [responderRejects_congr cfg p { p with hdr := h' } ⟨rfl, rfl, hsame⟩]; exact hrej
  | fec nm nf =>
    simp only [localWrap]
    split
    · exact keep _ _
    · split <;> exact keep _ _
  | mock e => simp only [localWrap]; exact keep _ _
  | noop | nackgen | rr | sr | twccsend | rfc8888 | rtpfb | stats | pdsend | pdrecv | pli => exact keep _ _

/-- T3 (cc, standalone because its guard depends on the binding state): the cc interceptor with a
pass-through pacer forwards a packet unchanged iff its SSRC was added to the pacer and — when the
stream negotiated transport-cc — the header already carries a well-formed transport-cc element
(i.e. the header-extension interceptor sits *above* it); otherwise it rejects (excluded points). -/
theorem cc_transparent (idx : Nat) (cfg : StreamCfg) (w : World) (p : Pkt)
    (hb : ((w.ccBound.lookup idx).getD []).contains p.hdr.ssrc = true)
    (ht : cfg.twId = 0 ∨ validTwcc p.hdr cfg.twId = true) :
    localWrap idx .cc cfg w p = (w, .pass p []) := by
  simp only [localWrap, hb]
  rcases ht with h | h <;> simp [h]

/-- the guard of the RTP reader side: the bytes parse as an RTP header and a transport-cc element
under the negotiated id, if present, has its two bytes. -/
def RemoteGuard (cfg : StreamCfg) (b : RPkt) : Prop :=
  b.parses = true ∧ (cfg.twId = 0 ∨ ∀ e, getExtension b.hdr cfg.twId = some e → 2 ≤ e.length)

theorem readTransparent_id (G : β → Prop) : ReadTransparent G (fun (w : ω) (r : ReadRes β ε) => (w, r)) :=
  ⟨fun w _ _ _ => ⟨w, rfl⟩, fun _ n _ => ⟨n, rfl⟩⟩

/-- wrappers that parse what they read: an unparseable packet becomes an error, an error loses its `n`.
The local `parsing` of `remoteWrap` and of `rtcpReadWrap` in Model/Chain.lean is this function by unfolding
(with `RPkt.parses` resp. `CPkt.parses` and `WErr.parse`), which is how `readTransparent_parsing` applies below. -/
def parsingOf (parses : β → Bool) (perr : ε) : ReadRes β ε → ReadRes β ε
  | .err _ e => .err 0 e
  | .ok n b => if parses b then .ok n b else .err 0 perr

theorem readTransparent_parsing (G : β → Prop) (parses : β → Bool) (perr : ε) (hg : ∀ b, G b → parses b = true) :
    ReadTransparent G (fun (w : ω) r => (w, parsingOf parses perr r)) :=
  ⟨fun w n b hb => ⟨w, by simp only [parsingOf, hg b hb, if_true]⟩, fun w n e => ⟨0, rfl⟩⟩

/-- wrappers that only account: a successful read may change the state (`f`), an error only its `n` (`k`). -/
theorem readTransparent_account (G : β → Prop) (f : ω → ω) (k : Int → Int) :
    ReadTransparent G (fun w (r : ReadRes β ε) =>
      match r with | .ok n b => (f w, .ok n b) | .err n e => (w, .err (k n) e)) :=
  ⟨fun w _ _ _ => ⟨f w, rfl⟩, fun _ n _ => ⟨k n, rfl⟩⟩

theorem readTransparent_ite (G : β → Prop) (c : Prop) [Decidable c] {m₁ m₂ : RWrapper ω β ε}
    (h₁ : ReadTransparent G m₁) (h₂ : ReadTransparent G m₂) :
    ReadTransparent G (fun w r => if c then m₁ w r else m₂ w r) := by
  split <;> assumption

/-- ★ T3r `remote_transparent`: every RTP reader wrapper of the library (all kinds), for every
stream configuration: same `n`, same bytes on success under `RemoteGuard`; on an inner error the
error is returned and the state is unchanged. -/
theorem remote_transparent (idx : Nat) (k : Kind) (cfg : StreamCfg) :
    ReadTransparent (RemoteGuard cfg) (remoteWrap idx k cfg) := by
  have parsing := readTransparent_parsing (ω := World) (RemoteGuard cfg) RPkt.parses WErr.parse fun b h => h.1
  cases k with
  | nackgen => exact readTransparent_ite _ _ parsing (readTransparent_id _)
  | rr | rfc8888 | pdrecv => exact parsing
  | stats | mock c => exact readTransparent_account _ _ _
  | twccsend =>
    -- parses, then rejects a transport-cc element shorter than two bytes: excluded by the guard
    refine ⟨fun w n b ⟨hp, ht⟩ => ?_, fun w n e => ?_⟩
    · simp only [remoteWrap, hp, if_true]
      split
      · exact ⟨_, rfl⟩
      · rename_i hid
        cases hx : getExtension b.hdr cfg.twId with
        | none => exact ⟨_, rfl⟩
        | some e =>
          have := (ht.resolve_left hid) e hx
          simp only []
          rw [if_neg (by omega)]
          exact ⟨_, rfl⟩
    · simp only [remoteWrap]; split <;> exact ⟨_, rfl⟩
  | _ => exact readTransparent_id _

/-- ★ T3c `rtcp_read_transparent`: every RTCP reader wrapper, on compounds pion/rtcp parses. -/
theorem rtcp_read_transparent (idx : Nat) (k : Kind) :
    ReadTransparent (fun b : CPkt => b.parses = true) (rtcpReadWrap idx k) := by
  cases k with
  | nackresp | rr | pdrecv | cc => exact readTransparent_parsing _ CPkt.parses WErr.parse fun b h => h
  | rtpfb => exact ⟨fun w n b hp => ⟨w, by simp only [rtcpReadWrap, hp, if_true]⟩, fun w n e => ⟨n, rfl⟩⟩
  | stats | mock c => exact readTransparent_account _ _ _
  | _ => exact readTransparent_id _

/-- ★ T3w `rtcp_write_transparent`: every RTCP writer wrapper forwards the application's packets
unchanged, unconditionally. -/
theorem rtcp_write_transparent (idx : Nat) (k : Kind) :
    Transparent (fun _ : Bytes × Bool => True) (fun a b => b = a) (rtcpWriteWrap idx k) := by
  intro w p _
  cases k <;> exact ⟨_, p, [], rfl, rfl, trivial⟩

/-- ★ T1+T3 `library_chain_transparent`: any chain of the library's members without cc (any
order, subset, length, configuration, state) is transparent for RTP writes under `LocalGuard`,
for any fault schedule of the bottom writer. -/
theorem library_chain_transparent (kinds : List (Nat × Kind)) (hcc : ∀ ik ∈ kinds, ik.2 ≠ .cc)
    (cfg : StreamCfg) (bottom : Nat → Pkt → Ret WErr) (p : Pkt) (w : World) (k : Nat)
    (hp : LocalGuard cfg p) :
    let r := writeVia bottom ((kinds.map fun ik => localWrap ik.1 ik.2 cfg).reverse) .app p w k
    ∃ p' rest, r.2.1 = (Tag.app, p') :: rest ∧ (∀ c ∈ rest, c.1 = Tag.inj) ∧ RtpRel p p' ∧
      r.2.2.1 = (bottom k p').1 ∧ ∀ e ∈ (bottom k p').2, e ∈ r.2.2.2 := by
  apply chain_transparent (LocalGuard cfg) RtpRel rtpRel_refl rtpRel_trans
  · intro m hm
    rw [List.mem_reverse, List.mem_map] at hm
    obtain ⟨ik, hik, rfl⟩ := hm
    exact local_transparent ik.1 ik.2 cfg (hcc ik hik)
  · exact hp

/-- non-vacuity: the chain `[hdrext, nackresp, flexfec 2/1, stats]` on a stream with NACK, RTX, FEC
and transport-cc id 5; the second packet completes the FEC batch; the bottom writer fails the
injected repair packet: the application packet is first, unchanged but for the extension. -/
example :
    let cfg : StreamCfg := { ssrc := 7, nack := true, rtx := true, fec := true, fecSsrc := 9, fecPt := 49, twId := 5 }
    let ms := ([(0, Kind.hdrext), (1, .nackresp), (2, .fec 2 1), (3, .stats)].map
      fun ik => localWrap ik.1 ik.2 cfg).reverse
    let bottom : Nat → Pkt → Ret WErr := fun _ q => if q.app then (3, []) else (0, [.bottom])
    let p1 : Pkt := { hdr := { ssrc := 7, seq := 10, csrc := [1] }, payload := [1, 2, 3] }
    let p2 : Pkt := { hdr := { ssrc := 7, seq := 11, padding := true, paddingSize := 4 }, payload := [4] }
    LocalGuard cfg p1 ∧ LocalGuard cfg p2 ∧
    (let r1 := writeVia bottom ms .app p1 {} 0
     let r2 := writeVia bottom ms .app p2 r1.1 1
     r1.2.1.map (·.1) = [Tag.app] ∧ r2.2.1.map (·.1) = [Tag.app, Tag.inj] ∧
     r2.2.2 = (3, [WErr.bottom]) ∧
     (r2.2.1.head?.map fun c => (c.2.payload, c.2.hdr.extensions)) = some ([4], [(5, [0, 0])])) := by
  decide

theorem isAny_iff (es : List CErr) (k : Nat) : CErr.isAny es k = true ↔ ∃ e ∈ es, e.is k = true := by
  induction es with
  | nil => simp [CErr.isAny]
  | cons e es ih => simp [CErr.isAny, ih]

/-- ★ T4a `close_errors_preserved` (`flattenErrs` + `multiError.Is`): the error `Chain.Close`
returns is nil iff every member returned nil, and otherwise `errors.Is(result, target)` holds
exactly when it holds for the error of some member — every Close error is in the returned
multi-error, also through nested chains and `%w` wrapping, and nothing else is. -/
theorem close_errors_preserved (errs : List (Option CErr)) (k : Nat) :
    (flattenErrs errs = none ↔ ∀ e ∈ errs, e = none) ∧
    ((∃ r, flattenErrs errs = some r ∧ r.is k = true) ↔ ∃ e, some e ∈ errs ∧ e.is k = true) := by
  have hmem : ∀ e, e ∈ errs.filterMap id ↔ some e ∈ errs := fun e => by simp [List.mem_filterMap]
  unfold flattenErrs
  cases hf : errs.filterMap id with
  | nil =>
    have hnone : ∀ e ∈ errs, e = none := fun e he => by
      cases e with
      | none => rfl
      | some x => have := (hmem x).mpr he; rw [hf] at this; cases this
    exact ⟨⟨fun _ => hnone, fun _ => rfl⟩, fun ⟨r, hr, _⟩ => (nomatch hr), fun ⟨e, he, _⟩ => (nomatch hnone _ he)⟩
  | cons a as =>
    refine ⟨⟨fun h => (nomatch h), fun h => (nomatch h _ ((hmem a).mp (hf ▸ List.mem_cons_self ..)))⟩, ?_⟩
    -- `errors.Is` on the multi-error searches the members, and the members are the non-nil errors
    simp only [Option.some.injEq, exists_eq_left', CErr.is, isAny_iff]
    rw [← hf]
    simp only [hmem]

/-- the errors the members return when closed in order from `w`. -/
def closeErrs : List (ω → ω × Option CErr) → ω → List (Option CErr)
  | [], _ => []
  | c :: cs, w => (c w).2 :: closeErrs cs (c w).1

theorem closeAll_eq (ms : List (ω → ω × Option CErr)) (w : ω) :
    closeAll ms w = (ms.foldl (fun a c => (c a).1) w, flattenErrs (closeErrs ms w)) := by
  have key : ∀ (ms : List (ω → ω × Option CErr)) (w : ω) (acc : List (Option CErr)),
      ms.foldl (fun (a : ω × List (Option CErr)) c => ((c a.1).1, a.2 ++ [(c a.1).2])) (w, acc)
        = (ms.foldl (fun a c => (c a).1) w, acc ++ closeErrs ms w) := by
    intro ms
    induction ms with
    | nil => intro w acc; simp [closeErrs]
    | cons c cs ih => intro w acc; simp [List.foldl_cons, ih, closeErrs]
  simp only [closeAll, key, List.nil_append]

/-- ★ T4b `chain_close`: `Chain.Close` runs the Close of EVERY member exactly once, in chain
order, on the state left by its predecessors — also when earlier members return errors — and
returns `flattenErrs` of exactly the errors they returned, in order. -/
theorem chain_close (ms : List (ω → ω × Option CErr)) (w : ω) :
    (closeAll ms w).1 = ms.foldl (fun acc c => (c acc).1) w ∧
    ∃ errs : List (Option CErr), errs.length = ms.length ∧ (closeAll ms w).2 = flattenErrs errs ∧
      ∀ i (hi : i < ms.length),
        errs[i]? = some ((ms[i]) ((ms.take i).foldl (fun acc c => (c acc).1) w)).2 := by
  rw [closeAll_eq]
  refine ⟨rfl, closeErrs ms w, ?_, rfl, ?_⟩
  · induction ms generalizing w with
    | nil => rfl
    | cons c cs ih => exact congrArg (· + 1) (ih _)
  · induction ms generalizing w with
    | nil => intro i hi; cases hi
    | cons c cs ih =>
      intro i hi
      cases i with
      | zero => rfl
      | succ j => exact ih (c w).1 j (Nat.lt_of_succ_lt_succ hi)

/-- ★ T4c `chain_unbind`: `Chain.Unbind{Local,Remote}Stream` reaches every member exactly once,
in chain order. -/
theorem chain_unbind (us : List (ω → ω)) (w : ω) (u : ω → ω) :
    unbindAll (us ++ [u]) w = u (unbindAll us w) ∧ unbindAll ([] : List (ω → ω)) w = w := by
  simp [unbindAll, List.foldl_append]

/-- non-vacuity of T4: three counting mocks around a real member; the first and the last fail. -/
example :
    let ms := [(0, Kind.mock (some (.sentinel 1))), (1, .stats), (2, .mock none),
               (3, .mock (some (.multi [.wrapped (.sentinel 3)])))].map fun ik => closeOf ik.1 ik.2
    let r := closeAll ms ({} : World)
    (r.1.mock 0).close = 1 ∧ (r.1.mock 2).close = 1 ∧ (r.1.mock 3).close = 1 ∧
    (r.2.map fun e => (e.is 1, e.is 2, e.is 3)) = some (true, false, true) := by
  decide

theorem registryBuild_cons {ι : Type} (f : Option ι) (fs : List (Option ι)) :
    registryBuild (f :: fs) = f.bind fun a => (registryBuild fs).map (a :: ·) := by
  cases f with
  | none => rfl
  | some a => simp only [registryBuild, List.mapM_cons, id, Option.bind_some]; cases List.mapM id fs <;> rfl

/-- ★ T5 `registry_build`: `Build` succeeds iff every factory succeeds, and then the chain holds
the factories' interceptors in the order of `Add`; an empty registry builds the empty chain
(`&NoOp{}`), through which the application talks to the bottom writer directly. -/
theorem registry_build {ι : Type} (fs : List (Option ι)) :
    (∀ ks, registryBuild fs = some ks ↔ fs = ks.map some) ∧
    (registryBuild fs = none ↔ none ∈ fs) ∧
    registryBuild ([] : List (Option ι)) = some [] := by
  refine ⟨?_, ?_, rfl⟩
  · induction fs with
    | nil => intro ks; cases ks <;> simp [registryBuild]
    | cons f fs ih =>
      intro ks
      rw [registryBuild_cons]
      cases f with
      | none => cases ks <;> simp
      | some a =>
        cases ks with
        | nil => simp
        | cons k ks =>
          simp only [Option.bind_some, Option.map_eq_some_iff, ih, List.cons.injEq, List.map_cons, Option.some.injEq]
          exact ⟨fun ⟨_, h1, h2, h3⟩ => ⟨h2, h3 ▸ h1⟩, fun ⟨h1, h2⟩ => ⟨ks, h2, h1, rfl⟩⟩
  · induction fs with
    | nil => simp [registryBuild]
    | cons f fs ih =>
      rw [registryBuild_cons]
      cases f with
      | none => simp
      | some a => simp [ih]

/-- the empty chain (NoOp) is the bottom writer itself. -/
theorem noop_chain (bottom : Nat → π → Ret ε) (tag : Tag) (p : π) (w : ω) (k : Nat) :
    writeVia bottom ([] : List (Wrapper ω π ε)) tag p w k = (w, [(tag, p)], bottom k p) :=
  writeVia_nil bottom tag p w k

end Interceptor.Chain
