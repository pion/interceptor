/-
C14 — FlexFEC-03 repair packets recover any single loss in their group.
Helpers: Proofs/FlexFec*.lean.  Model: Model/FlexFec.lean (the Go code with the fixes
F-28, F-26, F-33); spec: Spec/FlexFecDecode.lean.
-/
import Interceptor.Proofs.FlexFecEnc
namespace Interceptor.FlexFec
open Interceptor.FlexFecSpec (parseHeader FecHeader slice maskBits recoverAt)

/-- ★ 1 `covered`: in the table built for `n ≤ 110` media and `1 ≤ f ≤ 110` FEC packets every media
packet `j < n` is covered by FEC packet `j % f`. -/
theorem covered (n f j : Nat) (hf : 1 ≤ f) (hf110 : f ≤ 110) (hn : n ≤ 110) (hj : j < n)
    (media : List Bytes) :
    j ∈ (Coverage.mk (buildMasks n f) f n media).coveredBy (j % f) := by
  have hlt : j % f < f := Nat.mod_lt _ (by omega)
  unfold Coverage.coveredBy Coverage.row
  rw [List.mem_filter, List.mem_range]
  refine ⟨hj, ?_⟩
  rw [getBit_beq_one _ _ (by omega), bitOf_buildMasks n f (j % f) j (by omega) (by omega) (by omega)]
  simp [hlt, hj]

example : 7 ∈ (Coverage.mk (buildMasks 10 3) 3 10 []).coveredBy 1 := by decide

/-- ★ 2a `mask_names_cover` (bit level, every BitArray): the three FlexFEC-03 mask fields
`extractMask1/2/3_03` name exactly the set bits among positions 0..108 — read as the draft lays
them out (15 + 31 + 63 bits, most significant first). -/
theorem mask_names_cover (b : BitArray) (hhi : b.hi < 2 ^ 64) :
    maskBits (mask1 b) 15 0 ++ maskBits (mask2 b) 31 15 ++ maskBits (mask3 b) 63 46
      = (List.range 109).filter (bitOf b) :=
  masks_name_bits b hhi

example : maskBits (mask1 ⟨2 ^ 63 + 2 ^ 17, 2 ^ 19⟩) 15 0 ++ maskBits (mask2 ⟨2 ^ 63 + 2 ^ 17, 2 ^ 19⟩) 31 15
    ++ maskBits (mask3 ⟨2 ^ 63 + 2 ^ 17, 2 ^ 19⟩) 63 46 = [0, 46, 108] := by decide

/-- 2b the statement cannot be extended to 110 positions (F-28): in the table for 110 media packets
FEC row 0 covers index 109 but no mask field names it.  (`MaxMediaPackets` is 110 in
flexfec_coverage.go; `FlexEncoder03.EncodeFec` rejects batches of more than 109.) -/
theorem mask_names_cover_110_false :
    109 ∈ (Coverage.mk (buildMasks 110 1) 1 110 []).coveredBy 0 ∧
    109 ∉ (let b := (buildMasks 110 1).getD 0 BitArray.empty
           maskBits (mask1 b) 15 0 ++ maskBits (mask2 b) 31 15 ++ maskBits (mask3 b) 63 46) := by
  decide

/-- ★ 2c + 3 `recover_exact` (`mask_names_cover` at header level, then recovery): for a well-formed table
with at most 109 media packets the spec's parser reads from the header the encoder writes exactly the
covered indices and the SN base, and the draft's recovery run on the other covered packets returns the
removed one. -/
theorem recover_exact (c : Coverage) (hok : TableOk c) (hv : ValidMedia c.media)
    (i : Nat) (hi : i < 110) (j : Nat) (hj : j ∈ c.coveredBy i) :
    ∃ pl h, fecPayload c i (seqOf (c.media.getD 0 [])) = some pl
      ∧ parseHeader pl = some h
      ∧ h.positions = c.coveredBy i
      ∧ h.snBase = seqOf (c.media.getD 0 [])
      ∧ recoverAt pl h j (((c.coveredBy i).filter (· != j)).map (fun k => c.media.getD k []))
          = some (c.media.getD j []) := by
  have hnd := coveredBy_nodup c i
  have hcov := coveredBy_eq c hok i hi
  have hb := row_bounds c hok i
  have hmemL : ∀ k ∈ c.coveredBy i, k < c.media.length := fun k hk => by
    have := (mem_coveredBy c hok i k hi).1 hk
    rw [← hok.n]; exact this.2.1
  have hgmem : ∀ k ∈ c.coveredBy i, c.media.getD k [] ∈ c.media := fun k hk => getD_mem _ _ (hmemL k hk)
  have hjlen := hmemL j hj
  have h0mem : c.media.getD 0 [] ∈ c.media := getD_mem _ _ (by omega)
  have hbase : seqOf (c.media.getD 0 []) < 65536 := seqOf_lt _ (hv.bytes _ h0mem)
  obtain ⟨k0, L', hL⟩ : ∃ k0 L', c.coveredBy i = k0 :: L' := by
    cases h : c.coveredBy i with
    | nil => rw [h] at hj; simp at hj
    | cons a l => exact ⟨a, l, rfl⟩
  have hk0 : k0 ∈ c.coveredBy i := by rw [hL]; simp
  obtain ⟨mp, a, ha, hpl⟩ := fecPayload_eq c i (seqOf (c.media.getD 0 [])) k0 L' hL
  rw [← hL] at ha
  have hfirst12 := (hv.len12 _ (hgmem k0 hk0)).1
  obtain ⟨f0, f1, f2, f3, f4, f5, f6, f7, s0, s1, s2, s3, frest, hfirst⟩ := exists_cons12 _ hfirst12
  have hs4 : ((c.media.getD k0 []).drop 8).take 4 = [s0, s1, s2, s3] := by rw [hfirst]; rfl
  have hh0 : a.h0 < 64 := by rw [← ha]; exact foldl_step_h0_lt _ _ (show (0 : Nat) < 64 by decide)
  obtain ⟨h, hparse, hpos, hsize, hssrc, hsn⟩ :=
    parse_payload (c.row i) hb a.h0 a.h1 a.l2 a.l3 a.t4 a.t5 a.t6 a.t7 s0 s1 s2 s3
      (seqOf (c.media.getD 0 [])) a.rep hh0 hbase
  rw [hs4] at hpl
  refine ⟨_, h, hpl, hparse, by rw [hpos, hcov], hsn, ?_⟩
  apply recoverAt_core (c.coveredBy i) hnd (fun k => c.media.getD k []) j hj
    (fun k hk => (hv.len12 _ (hgmem k hk)).1) (hv.len12 _ (hgmem j hj)).2
    (hv.bytes _ (hgmem j hj)) (hv.ver _ (hgmem j hj)) mp _ h j a ha
  · rfl
  · exact hsize
  · rw [hssrc]
    have : slice (c.media.getD k0 []) 8 4 = [s0, s1, s2, s3] := hs4
    rw [← this]
    exact hv.ssrc _ (hgmem k0 hk0) _ (hgmem j hj)
  · rw [hsn]
    exact (hv.seqs j hjlen).symm

/-- ★ 4 `repair_headers`: every repair packet of one `EncodeFec` call carries the configured FEC SSRC
and payload type, their sequence numbers are `s, s+1, …` (mod 2^16) from the encoder's counter `s`,
and the counter advances by exactly the number of packets emitted (so the numbering continues
across successive batches); a rejected batch leaves the counter alone. -/
theorem repair_headers (e : Encoder) (media : List Bytes) (f : Nat) (hsn : e.fecSn < 65536) :
    (e.encodeFec media f).1.pt = e.pt ∧ (e.encodeFec media f).1.ssrc = e.ssrc ∧
    (match (e.encodeFec media f).2 with
     | none => (e.encodeFec media f).1.fecSn = e.fecSn
     | some out =>
        (∀ q ∈ out, q.ssrc = e.ssrc ∧ q.pt = e.pt ∧ q.ts = 54243243) ∧
        out.map (·.seq) = (List.range out.length).map (fun t => (e.fecSn + t) % 65536) ∧
        (e.encodeFec media f).1.fecSn = (e.fecSn + out.length) % 65536) := by
  rcases encodeFec_cases e media f with h | h | ⟨c, _, h⟩
  · rw [h]; exact ⟨rfl, rfl, rfl⟩
  · rw [h]; exact ⟨rfl, rfl, rfl⟩
  · rw [h]
    exact ⟨rfl, rfl, encodeLoop_headers c e.pt e.ssrc (seqOf (media.getD 0 [])) (List.range f) e.fecSn hsn⟩

example : ((Encoder.new 49 7777).encodeFec
    [[128, 96, 0, 1, 0, 0, 0, 10, 0, 0, 0, 7, 1], [128, 96, 0, 2, 0, 0, 0, 11, 0, 0, 0, 7, 2, 3]] 2).2.map
      (·.map (·.seq)) = some [1000, 1001] := by decide

/-- ★ 5 `interceptor_order`: a write hands the media packet itself (unmodified) to the next writer
first; repair packets follow only when this packet completes a batch of the bound SSRC, they are
exactly `EncodeFec` of the batch in arrival order, and the batch is then empty again; packets of
other SSRCs and unconfigured streams pass through untouched. -/
theorem interceptor_order (s : Icpt) (p : Bytes) :
    (s.write p).2.1 = [p] ∧
    ((s.active = false ∨ ssrcOf p ≠ s.mediaSsrc) → (s.write p).2.2 = [] ∧ (s.write p).1 = s) ∧
    (s.active = true → ssrcOf p = s.mediaSsrc → s.buffer.length + 1 = s.numMedia →
      (s.write p).1.buffer = [] ∧
      (s.write p).2.2 = ((s.enc.encodeFec (s.buffer ++ [p]) s.numFec).2).getD []) ∧
    (s.active = true → ssrcOf p = s.mediaSsrc → s.buffer.length + 1 ≠ s.numMedia →
      (s.write p).1.buffer = s.buffer ++ [p] ∧ (s.write p).2.2 = []) := by
  unfold Icpt.write
  by_cases ha : s.active = true
  · by_cases hs : ssrcOf p = s.mediaSsrc
    · by_cases hn : s.buffer.length + 1 = s.numMedia
      · simp [ha, hs, hn]
      · simp [ha, hs, hn]
    · simp [ha, hs]
  · simp [ha]

/-- ★ 6 `coverage_reuse`: `UpdateCoverage` keeps the invariant "the table is the one built for the
stored shape" — in particular when a batch of equal shape reuses the table unchanged — and after an
accepted batch the stored shape and media are the new ones. -/
theorem coverage_reuse (c : Coverage) (media : List Bytes) (f : Nat) (h : MasksOk c) :
    MasksOk (c.update media f) ∧
    (f = c.numFec → media.length = c.numMedia → (c.update media f).masks = c.masks) ∧
    (1 ≤ media.length → media.length ≤ 110 →
      (c.update media f).media = media ∧ (c.update media f).numMedia = media.length ∧
      (c.update media f).numFec = f) := by
  refine ⟨update_masksOk c media f h, ?_, update_shape c media f⟩
  intro h1 h2
  unfold Coverage.update
  simp only []
  split
  · rfl
  · rw [if_pos ⟨h1, h2⟩]

example : ((⟨buildMasks 3 2, 2, 3, []⟩ : Coverage).update [[1], [2], [3]] 2).masks = buildMasks 3 2 := by
  decide

/-- ★ 3+ `encode_protects` (the pieces tied to `EncodeFec`): from any encoder state whose table
satisfies the invariant (a new encoder does), an accepted batch (1..109 consecutive packets,
`f ≤ 110`) is encoded against a well-formed table for exactly this batch, so `covered`,
`recover_exact` and `repair_headers` apply to the packets it returns. -/
theorem encode_protects (e : Encoder) (media : List Bytes) (f : Nat)
    (he : ∀ c, e.cov = some c → MasksOk c)
    (hn1 : 1 ≤ media.length) (hn : media.length ≤ 109) (hc : consecutive media = true) :
    ∃ c, (e.encodeFec media f).1.cov = some c ∧ TableOk c ∧ c.media = media ∧ c.numFec = f ∧
      (e.encodeFec media f).2
        = some (encodeLoop c e.pt e.ssrc (seqOf (media.getD 0 [])) (List.range f) e.fecSn).2 := by
  have h1 : ¬ (media.length = 0 ∨ media.length > maxFlexFec03MediaPackets) := by
    unfold maxFlexFec03MediaPackets; omega
  obtain ⟨c, h3, s1, s2, s3⟩ := nextCov_some e media f hn1 (by omega)
  rw [encodeFec_accept e media f c h1 hc h3]
  exact ⟨c, rfl, ⟨nextCov_masksOk e media f he c h3, by rw [s1, s2], by rw [s2]; exact hn⟩, s1, s3, rfl⟩

/-- the invariant needed by `encode_protects` holds for a new encoder and is preserved by every
`EncodeFec` call (accepted or rejected). -/
theorem encode_invariant (e : Encoder) (media : List Bytes) (f : Nat)
    (he : ∀ c, e.cov = some c → MasksOk c) :
    (∀ c, (Encoder.new e.pt e.ssrc).cov = some c → MasksOk c) ∧
    (∀ c, (e.encodeFec media f).1.cov = some c → MasksOk c) := by
  refine ⟨fun c h => by simp [Encoder.new] at h, ?_⟩
  rcases encodeFec_cases e media f with h | h | ⟨c, h3, h⟩
  · rw [h]; exact he
  · rw [h]; exact fun c hc => nomatch hc
  · rw [h]
    intro c' hc'
    rw [← Option.some.inj hc']
    exact nextCov_masksOk e media f he c h3

/-- `bad_free_unchanged`: the model of a batch in which pion/rtp fails to marshal the packets at the positions `bad`
(`Encoder.encodeFecBad`: the repair packets covering one of them are not produced) is the model of `EncodeFec` when no
packet fails — every theorem above is about that function. -/
theorem bad_free_unchanged (e : Encoder) (media : List Bytes) (f : Nat) :
    e.encodeFecBad media f [] = e.encodeFec media f := by
  have hloop : ∀ (c : Coverage) (pt ssrc b : Nat) (is : List Nat) (sn : Nat),
      encodeLoopBad c pt ssrc b [] is sn = encodeLoop c pt ssrc b is sn := by
    intro c pt ssrc b is
    induction is with
    | nil => intro sn; simp [encodeLoopBad, encodeLoop]
    | cons i is ih =>
      intro sn
      have hcb : c.coversBad [] i = false := by simp [Coverage.coversBad]
      simp only [encodeLoopBad, encodeLoop, hcb, ih]
      simp
  unfold Encoder.encodeFecBad Encoder.encodeFec
  simp only [hloop]

/-- the interceptor's `Write` likewise. -/
theorem write_bad_free_unchanged (s : Icpt) (p : Bytes) : s.writeBad p [] = s.write p := by
  unfold Icpt.writeBad Icpt.write
  simp only [bad_free_unchanged]

example : (Encoder.new 96 7).encodeFecBad [[128, 96, 0, 1, 0, 0, 0, 10, 0, 0, 0, 7, 1]] 1 []
    = (Encoder.new 96 7).encodeFec [[128, 96, 0, 1, 0, 0, 0, 10, 0, 0, 0, 7, 1]] 1 := bad_free_unchanged _ _ _

/-- non-vacuity of `recover_exact`/`encode_protects`: a concrete accepted batch (CSRC-less packets of
different lengths, sequence numbers across the wrap) satisfies `ValidMedia`. -/
example : ValidMedia [[128, 96, 255, 255, 0, 0, 0, 10, 0, 0, 0, 7, 1],
                      [160, 224, 0, 0, 0, 0, 0, 11, 0, 0, 0, 7, 2, 3, 0, 2]] :=
  ⟨by decide, by decide, by decide, by decide, by decide⟩

end Interceptor.FlexFec
