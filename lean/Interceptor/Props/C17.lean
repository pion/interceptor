/-
C17 — pacers deliver each accepted packet once, in order, intact, within the rate.
Model: Interceptor/Model/Pacing.lean.

The interceptor pacer, for any limiter: queue ++ delivered is the accepted list (`exec_fifo`, `fifo_exactly_once` and its
per-stream and exactly-once readings).  With the exact token bucket `xtbG g d` as the limiter: the bits delivered by time
`t` are bounded by the credit the rate history allows (`EnvInv` is the invariant, `envelope_run` the induction, `envelope`
and `envelope_after_change` its two initial cases), a packet that fits is eventually delivered, and an oversize one blocks
for ever (`eventually_delivered_false`, F-31).  The leaky-bucket pacer over pooled buffers: one round of its pop loop is
`leakyLoop_cases`; no panic when every item fits its buffer (`leaky_total`; `leaky_unfixed_panics` is the defect), and
FIFO exactly-once with intact payloads (`leaky_fifo_exactly_once`).
-/
import Interceptor.Model.Pacing
set_option linter.unusedVariables false
namespace Interceptor.Pacing

variable {α L H : Type}

theorem releaseLoop_split (c : Cfg α L) (now : Nat) (lim : L) (loc : List α) :
    (releaseLoop c now lim loc).2.1 ++ (releaseLoop c now lim loc).2.2 = loc := by
  induction loc generalizing lim with
  | nil => rfl
  | cons p l ih =>
    simp only [releaseLoop]
    split
    · simp [ih]
    · simp

theorem exec_fifo (c : Cfg α L) (st : St α L) (e : Ev α)
    (h : st.delivered ++ st.loc ++ st.chan = st.accepted) :
    (exec c st e).delivered ++ (exec c st e).loc ++ (exec c st e).chan = (exec c st e).accepted := by
  cases e with
  | accept p =>
    simp only [exec, accept]
    split
    · simp only [Option.getD_some, ← h, List.append_assoc]
    · simpa using h
  | drain =>
    simp only [exec]
    split
    · exact h
    · rename_i p ch hch
      simp only [← h, hch, List.append_assoc, List.cons_append, List.nil_append]
  | tick now =>
    simp only [exec]
    have := releaseLoop_split c now st.lim st.loc
    rw [List.append_assoc st.delivered, this]
    exact h
  | setRate now r => exact h
  | close => exact h

/-- ★ T1 `fifo_exactly_once`: in every state reachable from the initial one by any sequence of
events (= any interleaving of writers with the loop's steps, any tick instants, any rate
changes, any limiter), the packets delivered so far, followed by the loop-local queue, followed
by the channel content, are exactly the accepted packets in acceptance order.  Packets are
values (stored copies), so delivered packets *are* the accepted ones: none lost, duplicated,
reordered or altered while queued. -/
theorem fifo_exactly_once (c : Cfg α L) (lim : L) (evs : List (Ev α)) :
    let st := run c (St.init lim) evs
    st.delivered ++ st.loc ++ st.chan = st.accepted :=
    List.foldlRecOn evs (exec c) (motive := fun st => st.delivered ++ st.loc ++ st.chan = st.accepted) rfl
      fun st h e _ => exec_fifo c st e h

/-- T1 corollary: what has been delivered is a prefix of what was accepted (order preserved). -/
theorem delivered_prefix (c : Cfg α L) (lim : L) (evs : List (Ev α)) :
    (run c (St.init lim) evs).delivered <+: (run c (St.init lim) evs).accepted := by
  have := fifo_exactly_once c lim evs
  simp only at this
  exact ⟨_, by rw [← List.append_assoc]; exact this⟩

/-- T1 per stream: the same equation restricted to any stream (any predicate on packets). -/
theorem fifo_per_stream (c : Cfg α L) (lim : L) (evs : List (Ev α)) (f : α → Bool) :
    let st := run c (St.init lim) evs
    st.delivered.filter f ++ st.loc.filter f ++ st.chan.filter f = st.accepted.filter f := by
  have := fifo_exactly_once c lim evs
  simp only at this
  simp only [← this, List.filter_append]

/-- T1 exactly once: if the accepted packets are pairwise distinct (e.g. distinct sequence
numbers), no packet is delivered twice and a delivered packet is no longer queued. -/
theorem exactly_once (c : Cfg α L) (lim : L) (evs : List (Ev α))
    (hd : (run c (St.init lim) evs).accepted.Nodup) :
    let st := run c (St.init lim) evs
    st.delivered.Nodup ∧ ∀ p ∈ st.delivered, p ∉ st.loc ∧ p ∉ st.chan := by
  have h := fifo_exactly_once c lim evs
  simp only at h
  rw [← h] at hd
  simp only [List.nodup_append, List.mem_append] at hd
  refine ⟨hd.1.1, fun p hp => ⟨fun hl => ?_, fun hc => ?_⟩⟩
  · exact hd.1.2.2 p hp p hl rfl
  · exact hd.2.2 p (Or.inl hp) p hc rfl

/-- the events of `tick` are the loop's guard: a packet is released only when
`Budget(now) > 8·len` held for it at that tick. -/
theorem release_guarded (c : Cfg α L) (now : Nat) (lim : L) (p : α) (l : List α)
    (h : c.lm.budgetGt lim now (8 * c.sz p) = false) :
    releaseLoop c now lim (p :: l) = (lim, [], p :: l) := by
  simp [releaseLoop, h]

/-- a write touches neither the limiter nor the loop's side. -/
theorem exec_accept_frame (c : Cfg α L) (st : St α L) (p : α) :
    (exec c st (.accept p)).lim = st.lim ∧ (exec c st (.accept p)).delivered = st.delivered ∧
    (exec c st (.accept p)).loc = st.loc := by
  simp only [exec, accept]
  split <;> exact ⟨rfl, rfl, rfl⟩

/-- the hand-over from the channel only appends to the local queue. -/
theorem exec_drain_frame (c : Cfg α L) (st : St α L) :
    (exec c st .drain).lim = st.lim ∧ (exec c st .drain).delivered = st.delivered ∧
    ∃ l', (exec c st .drain).loc = st.loc ++ l' := by
  simp only [exec]
  split
  · exact ⟨rfl, rfl, [], (List.append_nil _).symm⟩
  · exact ⟨rfl, rfl, _, rfl⟩

/-- bits of a list of packets. -/
def bits (sz : α → Nat) : List α → Nat
  | [] => 0
  | p :: l => 8 * sz p + bits sz l

theorem bits_append (sz : α → Nat) (a b : List α) : bits sz (a ++ b) = bits sz a + bits sz b := by
  induction a with
  | nil => simp [bits]
  | cons p l ih => simp [bits, ih]; omega

/-- `Σ rateᵢ·Δtᵢ` (unit 10⁻⁹ bit) along an event list, the rate being piecewise constant
between `setRate` events; `r`,`t` = rate and time of the last timed event. -/
def credit : Nat → Nat → List (Ev α) → Nat
  | _, _, [] => 0
  | r, t, .tick now :: es => r * (now - t) + credit r now es
  | r, t, .setRate now r' :: es => r * (now - t) + credit r' now es
  | r, t, .accept _ :: es => credit r t es
  | r, t, .drain :: es => credit r t es
  | r, t, .close :: es => credit r t es

/-- timestamps of the timed events never decrease. -/
def Mono : Nat → List (Ev α) → Prop
  | _, [] => True
  | t, .tick now :: es => t ≤ now ∧ Mono now es
  | t, .setRate now _ :: es => t ≤ now ∧ Mono now es
  | t, .accept _ :: es => Mono t es
  | t, .drain :: es => Mono t es
  | t, .close :: es => Mono t es

theorem advance_cap (g d : Nat) (tb : XTB) (t : Nat) : tb.advance g d t ≤ tb.burst * g := by
  unfold XTB.advance; exact Nat.min_le_left _ _

/-- time passing: the bucket gains at most `rate·Δt`. -/
theorem advance_time (g d : Nat) (tb : XTB) (t now : Nat) (hl : ∀ l, tb.last = some l → l ≤ t)
    (ht : t ≤ now) : tb.advance g d now ≤ tb.advance g d t + tb.rate * (now - t) := by
  unfold XTB.advance
  cases hlast : tb.last with
  | none => exact Nat.le_add_right _ _
  | some l =>
    show min _ (tb.tokens + (now - l) * tb.rate) ≤ min _ (tb.tokens + (t - l) * tb.rate) + tb.rate * (now - t)
    rw [← Nat.sub_add_sub_cancel ht (hl l hlast), Nat.add_mul, Nat.add_comm (_ * _), ← Nat.add_assoc,
      Nat.mul_comm (now - t)]
    rw [← Nat.add_min_add_right]
    exact Nat.le_min.mpr ⟨Nat.le_trans (Nat.min_le_left _ _) (Nat.le_add_right _ _), Nat.min_le_right _ _⟩

/-- charging a released packet: what is left plus what was taken is at most what was there. -/
theorem allow_charges (g d : Nat) (tb : XTB) (now n : Nat) (h : tb.budgetGt g d now n = true) :
    (tb.allow g d now n).advance g d now + n * g ≤ tb.advance g d now ∧
    (tb.allow g d now n).rate = tb.rate ∧ (tb.allow g d now n).last = some now := by
  have hb : n * g < tb.advance g d now := by simpa [XTB.budgetGt] using h
  have hcap := advance_cap g d tb now
  have hn : n ≤ tb.burst := Nat.le_of_lt (Nat.lt_of_mul_lt_mul_right (Nat.lt_of_lt_of_le hb hcap))
  have hcond : n ≤ tb.burst ∧ n * g ≤ tb.advance g d now := ⟨hn, Nat.le_of_lt hb⟩
  unfold XTB.allow
  rw [if_pos hcond]
  refine ⟨?_, rfl, rfl⟩
  generalize tb.advance g d now = tk at *
  simp only [XTB.advance, Nat.sub_self, Nat.zero_mul, Nat.add_zero]
  exact Nat.le_trans (Nat.add_le_add_right (Nat.min_le_right _ _) _) (Nat.le_of_eq (Nat.sub_add_cancel hcond.2))

theorem setRate_no_gain (g d : Nat) (tb : XTB) (now r b : Nat) :
    (tb.setRate g d now r b).advance g d now ≤ tb.advance g d now ∧
    (tb.setRate g d now r b).rate = r ∧ (tb.setRate g d now r b).last = some now := by
  refine ⟨?_, rfl, rfl⟩
  simp only [XTB.setRate, XTB.advance, Nat.sub_self, Nat.zero_mul, Nat.add_zero]
  exact Nat.le_trans (Nat.min_le_right _ _) (Nat.min_le_right _ _)

def xcfg (g d : Nat) (sz : α → Nat) (cap ivl : Nat) : Cfg α XTB := ⟨sz, cap, ivl, xtbG g d⟩

/-- the envelope invariant of a bucket and the packets released from it so far: `last` not in the
future, and `tokens(t) + g·bits released ≤ C`. -/
def EnvInv (g d : Nat) (sz : α → Nat) (tb : XTB) (del : List α) (t C : Nat) : Prop :=
  (∀ l, tb.last = some l → l ≤ t) ∧ tb.advance g d t + g * bits sz del ≤ C

/-- time passing raises the bound by `rate·Δt`. -/
theorem EnvInv.wait {g d : Nat} {sz : α → Nat} {tb : XTB} {del : List α} {t C now : Nat}
    (h : EnvInv g d sz tb del t C) (ht : t ≤ now) : EnvInv g d sz tb del now (C + tb.rate * (now - t)) :=
  ⟨fun l hl => Nat.le_trans (h.1 l hl) ht,
    Nat.le_trans (Nat.add_le_add_right (advance_time g d tb t now h.1 ht) _)
      (Nat.add_right_comm _ _ _ ▸ Nat.add_le_add_right h.2 _)⟩

section
variable {g d : Nat} {c : Cfg α XTB} (hc : c.lm = xtbG g d)
include hc

/-- the release loop of one tick charges the bucket for every packet it releases. -/
theorem releaseLoop_envelope (now C : Nat) (loc : List α) :
    ∀ (tb : XTB) (del : List α), EnvInv g d c.sz tb del now C →
      EnvInv g d c.sz (releaseLoop c now tb loc).1 (del ++ (releaseLoop c now tb loc).2.1) now C ∧
      (releaseLoop c now tb loc).1.rate = tb.rate := by
  induction loc with
  | nil => intro tb del h; exact ⟨(List.append_nil del).symm ▸ h, rfl⟩
  | cons p l ih =>
    intro tb del h
    simp only [releaseLoop]
    split
    · next hb =>
      rw [hc] at hb ⊢
      obtain ⟨hch, hrate, hlast⟩ := allow_charges g d tb now (8 * c.sz p) hb
      have hinv : EnvInv g d c.sz (tb.allow g d now (8 * c.sz p)) (del ++ [p]) now C := by
        refine ⟨fun l hl => Nat.le_of_eq (Option.some.inj (hlast.symm.trans hl)).symm, ?_⟩
        simp only [bits_append, bits, Nat.add_zero, Nat.mul_add, Nat.mul_comm g (8 * c.sz p)]
        have := h.2
        omega
      obtain ⟨h1, h2⟩ := ih _ _ hinv
      rw [List.append_cons]
      exact ⟨h1, h2.trans hrate⟩
    · exact ⟨(List.append_nil del).symm ▸ h, rfl⟩

theorem setRate_env (st : St α XTB) (t C now r : Nat) (h : EnvInv g d c.sz st.lim st.delivered t C)
    (ht : t ≤ now) :
    EnvInv g d c.sz (exec c st (.setRate now r)).lim st.delivered now (C + st.lim.rate * (now - t)) ∧
    (exec c st (.setRate now r)).lim.rate = r := by
  obtain ⟨hs, hrate, hlast⟩ := setRate_no_gain g d st.lim now r (burstOf r c.ivlUs)
  simp only [exec, hc]
  exact ⟨⟨fun l hl => Nat.le_of_eq (Option.some.inj (hlast.symm.trans hl)).symm,
    Nat.le_trans (Nat.add_le_add_right hs _) (h.wait ht).2⟩, hrate⟩

theorem envelope_run (evs : List (Ev α)) :
    ∀ (st : St α XTB) (t C : Nat), EnvInv g d c.sz st.lim st.delivered t C → Mono t evs →
      g * bits c.sz (run c st evs).delivered ≤ C + credit st.lim.rate t evs := by
  induction evs with
  | nil =>
    intro st t C h _
    exact Nat.le_trans (Nat.le_add_left _ _) h.2
  | cons e es ih =>
    intro st t C h hm
    -- events without a timestamp leave limiter and delivered packets alone; `credit` and `Mono` skip them
    have untimed : ∀ st' : St α XTB, st'.lim = st.lim → st'.delivered = st.delivered → Mono t es →
        g * bits c.sz (run c st' es).delivered ≤ C + credit st.lim.rate t es :=
      fun st' hlim hdel hm => hlim ▸ ih st' t C (hlim ▸ hdel ▸ h) hm
    -- a timed event books `rate·(now − t)` and leaves the rate `r'` for what follows
    have timed : ∀ (st' : St α XTB) (now r' : Nat),
        EnvInv g d c.sz st'.lim st'.delivered now (C + st.lim.rate * (now - t)) → st'.lim.rate = r' → Mono now es →
        g * bits c.sz (run c st' es).delivered ≤ C + (st.lim.rate * (now - t) + credit r' now es) :=
      fun st' now r' hinv hrate hm => hrate ▸ Nat.add_assoc _ _ _ ▸ ih st' now _ hinv hm
    cases e with
    | accept p =>
      obtain ⟨hlim, hdel, -⟩ := exec_accept_frame c st p
      exact untimed _ hlim hdel hm
    | drain =>
      obtain ⟨hlim, hdel, -⟩ := exec_drain_frame c st
      exact untimed _ hlim hdel hm
    | close => exact untimed _ rfl rfl hm
    | tick now =>
      -- the bucket gained at most `rate·(now − t)`, the loop released at most what it charged
      obtain ⟨hinv, hrate⟩ := releaseLoop_envelope hc now _ st.loc st.lim st.delivered (h.wait hm.1)
      exact timed _ now _ hinv hrate hm.2
    | setRate now r =>
      obtain ⟨hinv, hrate⟩ := setRate_env hc st t C now r h hm.1
      exact timed _ now r hinv hrate hm.2

end

/-- ★ T2 `envelope`: for the pacing interceptor over the exact token bucket, along every event
sequence with non-decreasing timestamps (any tick instants, any interleaving of writes, any
rate changes — the burst being recomputed by `burst(rate, interval)`), the bits released never
exceed the initial burst plus `Σ rateᵢ·Δtᵢ` (both sides in units of `1/g` bit; `g = 10⁹` for ns).
Since `evs` is arbitrary the bound holds at every instant (every prefix). -/
theorem envelope (g d : Nat) (sz : α → Nat) (cap ivl r0 : Nat) (evs : List (Ev α)) (hm : Mono 0 evs) :
    g * bits sz (run (xcfg g d sz cap ivl) (St.init (XTB.init g r0 (burstOf r0 ivl))) evs).delivered
      ≤ g * burstOf r0 ivl + credit r0 0 evs := by
  have hinv : EnvInv g d sz (XTB.init g r0 (burstOf r0 ivl)) [] 0 (g * burstOf r0 ivl) :=
    ⟨fun l hl => (nomatch hl), Nat.le_trans (advance_cap g d _ 0) (Nat.le_of_eq (Nat.mul_comm _ g))⟩
  exact envelope_run (c := xcfg g d sz cap ivl) rfl evs _ 0 _ hinv hm

/-- ★ T2b `envelope_after_change` (the bound is piecewise across rate changes): from ANY state, after a
`SetRate(r)` at `now` — between ticks or re-entrantly from a next writer in the middle of a tick, which is the event
sequence `tick now, setRate now r, drain …, tick now` — and along every further event sequence, the bits released
AFTER the change never exceed the NEW burst `burst(r, interval)` plus `Σ rateᵢ·Δtᵢ` since the change, however large
the old burst was (both sides in units of `1/g` bit). -/
theorem envelope_after_change (g d : Nat) (sz : α → Nat) (cap ivl : Nat) (st : St α XTB) (now r : Nat)
    (evs : List (Ev α)) (hm : Mono now evs) :
    g * bits sz (run (xcfg g d sz cap ivl) (exec (xcfg g d sz cap ivl) st (.setRate now r)) evs).delivered
      ≤ g * bits sz st.delivered + g * burstOf r ivl + credit r now evs := by
  -- the bucket just rebuilt holds at most the new burst
  have hinv : EnvInv g d sz (st.lim.setRate g d now r (burstOf r ivl)) st.delivered now
      (g * burstOf r ivl + g * bits sz st.delivered) :=
    ⟨fun l hl => Nat.le_of_eq (Option.some.inj hl).symm,
      Nat.add_le_add_right (Nat.le_trans (advance_cap g d _ now) (Nat.le_of_eq (Nat.mul_comm _ g))) _⟩
  exact Nat.add_comm (g * burstOf r ivl) _ ▸
    envelope_run (c := xcfg g d sz cap ivl) rfl evs (exec (xcfg g d sz cap ivl) st (.setRate now r)) now _ hinv hm

/-- non-vacuity of `envelope_after_change`: the old burst (500000 bit at 100 Mbit/s) is full and 60 packets of 9600
bit are queued when the rate is cut to 1 Mbit/s; the tick at the same instant releases one packet (9600 < 12000), not
the old burst. -/
example : (run (xcfg 1000 77 (fun _ => 1200) 100 5000)
    (exec (xcfg 1000 77 (fun _ => 1200) 100 5000)
      { (St.init (XTB.init 1000 100000000 500000) : St Nat XTB) with loc := List.replicate 60 0 } (.setRate 5000000 1000000))
    [.tick 5000000]).delivered.length = 1 := by decide

/-- non-vacuity of `envelope`: a concrete run (1 Mbit/s, 5 ms, scale 1000) releases packets and
meets the bound with room to spare. -/
example : Mono 0 ([.accept 100, .accept 200, .drain, .drain, .tick 5000000, .setRate 6000000 500000,
    .tick 10000000] : List (Ev Nat)) := ⟨by decide, by decide, by decide, trivial⟩
example : (run (xcfg 1000 77 id 10 5000) (St.init (XTB.init 1000 1000000 12000))
    [.accept 100, .accept 200, .drain, .drain, .tick 5000000, .setRate 6000000 500000,
      .tick 10000000]).delivered = [100, 200] := by decide

/-- ★ T3 `eventually_delivered`: if the head of the local queue has fewer bits than the burst
(`8·len < burst`), the rate is positive and no rate change intervenes, then there is an `n` such
that the tick number `k` after the last limiter update releases it, for every `k ≥ n`
(i.e. it is released after finitely many ticks; the packets before it were released earlier by
the same argument).  The premise `8·len < burst` is necessary: see `oversize_blocks_forever`. -/
theorem eventually_delivered (g d : Nat) (sz : α → Nat) (cap ivl : Nat) (st : St α XTB) (p : α)
    (l : List α) (l0 : Nat) (hloc : st.loc = p :: l) (hsz : 8 * sz p < st.lim.burst)
    (hl : st.lim.last = some l0) (hr : 0 < st.lim.rate) (hi : 0 < ivl) (hg : 0 < g) :
    ∃ n, ∀ k, n ≤ k →
      ∃ rest, (exec (xcfg g d sz cap ivl) st (.tick (l0 + k * ivl))).delivered = st.delivered ++ p :: rest := by
  refine ⟨st.lim.burst * g, fun k hk => ?_⟩
  -- with a positive rate the bucket is full from tick `burst·g` on
  have hfull : st.lim.advance g d (l0 + k * ivl) = st.lim.burst * g := by
    simp only [XTB.advance, hl, Nat.add_sub_cancel_left]
    exact Nat.min_eq_left (Nat.le_trans hk (Nat.le_trans (Nat.le_mul_of_pos_right k hi)
      (Nat.le_trans (Nat.le_mul_of_pos_right _ hr) (Nat.le_add_left _ _))))
  -- and a full bucket passes a head smaller than the burst
  have hb : XTB.budgetGt g d st.lim (l0 + k * ivl) (8 * sz p) = true := by
    simp only [XTB.budgetGt, hfull, decide_eq_true_eq]
    exact Nat.mul_lt_mul_of_pos_right hsz hg
  simp only [exec, hloc, releaseLoop, xcfg, xtbG, hb, if_true]
  exact ⟨_, rfl⟩

/-- non-vacuity of `eventually_delivered`: a 1000-byte head, burst 12000 bit, empty bucket at
t = 0, 1 Mbit/s (scale g = 1): not released by the tick at 5 ms, released by the tick at 10 ms. -/
example :
    (exec (xcfg 1000000000 0 id 10 5000)
      ⟨[], [1000, 50], [], [1000, 50], ⟨0, some 0, 1000000, 12000⟩, false⟩ (.tick 5000000)).delivered = [] ∧
    (exec (xcfg 1000000000 0 id 10 5000)
      ⟨[], [1000, 50], [], [1000, 50], ⟨0, some 0, 1000000, 12000⟩, false⟩ (.tick 10000000)).delivered
        = [1000, 50] := by decide

/-- events other than rate changes. -/
def noSetRate : List (Ev α) → Bool
  | [] => true
  | .setRate _ _ :: _ => false
  | _ :: es => noSetRate es

/-- a head that never passes the guard stays at the head: no event of a continuation without rate change moves
it, releases anything or touches the limiter. -/
theorem exec_blocked (c : Cfg α L) (st : St α L) (p : α) (l : List α) (e : Ev α) (es : List (Ev α))
    (hloc : st.loc = p :: l) (hbg : ∀ now, c.lm.budgetGt st.lim now (8 * c.sz p) = false)
    (he : noSetRate (e :: es) = true) :
    (exec c st e).lim = st.lim ∧ (exec c st e).delivered = st.delivered ∧
    (∃ l', (exec c st e).loc = p :: l') ∧ noSetRate es = true := by
  cases e with
  | accept q =>
    obtain ⟨hlim, hdel, hl⟩ := exec_accept_frame c st q
    exact ⟨hlim, hdel, ⟨l, hl.trans hloc⟩, he⟩
  | drain =>
    obtain ⟨hlim, hdel, l', hl⟩ := exec_drain_frame c st
    exact ⟨hlim, hdel, ⟨l ++ l', by rw [hl, hloc]; rfl⟩, he⟩
  | close => exact ⟨rfl, rfl, ⟨l, hloc⟩, he⟩
  | setRate now r => cases he
  | tick now =>
    simp only [exec]
    rw [hloc, release_guarded c now st.lim p l (hbg now)]
    exact ⟨rfl, List.append_nil _, ⟨l, rfl⟩, he⟩

/-- ★ F-31 `oversize_blocks_forever`: if the head of the local queue has at least `burst` bits,
then along *every* continuation without a rate change — any number of ticks at any instants,
any further writes — nothing is ever delivered again and that packet stays at the head; by
`fifo_exactly_once` everything accepted later stays queued behind it (the queue grows until the
channel is full). -/
theorem oversize_blocks_forever (g d : Nat) (sz : α → Nat) (cap ivl : Nat) (evs : List (Ev α)) :
    ∀ (st : St α XTB) (p : α) (l : List α), st.loc = p :: l → st.lim.burst ≤ 8 * sz p →
      noSetRate evs = true →
      (run (xcfg g d sz cap ivl) st evs).delivered = st.delivered ∧
      ∃ l', (run (xcfg g d sz cap ivl) st evs).loc = p :: l' := by
  induction evs with
  | nil => intro st p l hloc _ _; exact ⟨rfl, l, hloc⟩
  | cons e es ih =>
    intro st p l hloc hb hn
    -- the bucket never holds more than `burst`, which the head does not fit
    have hbg : ∀ now, (xcfg g d sz cap ivl).lm.budgetGt st.lim now (8 * (xcfg g d sz cap ivl).sz p) = false := by
      intro now
      show XTB.budgetGt g d st.lim now (8 * sz p) = false
      simp only [XTB.budgetGt, decide_eq_false_iff_not, Nat.not_lt]
      exact Nat.le_trans (advance_cap g d st.lim now) (Nat.mul_le_mul_right g hb)
    obtain ⟨hlim, hdel, ⟨l', hl'⟩, hn'⟩ := exec_blocked (xcfg g d sz cap ivl) st p l e es hloc hbg hn
    have := ih _ p l' hl' (hlim ▸ hb) hn'
    rw [hdel] at this
    exact this

/-- ★ `eventually_delivered_false`: without the premise `8·len < burst` the liveness statement is
false of the code.  Witness (F-31): rate 1 Mbit/s, burst 12000 bit, a 1532-byte packet
(1460 B payload + 15 CSRC) at the head: no tick ever releases it. -/
theorem eventually_delivered_false :
    ¬ (∀ (st : St Nat XTB) (p : Nat) (l : List Nat) (l0 : Nat), st.loc = p :: l →
        st.lim.last = some l0 → 0 < st.lim.rate →
        ∃ n, ∀ k, n ≤ k → ∃ rest,
          (exec (xcfg 1000000000 9223372036854775807 id 1000000 5000) st (.tick (l0 + k * 5000000))).delivered
            = st.delivered ++ p :: rest) := by
  intro h
  let st : St Nat XTB :=
    { chan := [], loc := [1532, 112], delivered := [], accepted := [1532, 112],
      lim := { tokens := 0, last := some 0, rate := 1000000, burst := 12000 }, closed := false }
  obtain ⟨n, hn⟩ := h st 1532 [112] 0 rfl rfl (by decide)
  obtain ⟨rest, hrest⟩ := hn n (Nat.le_refl _)
  have hb := (oversize_blocks_forever 1000000000 9223372036854775807 id 1000000 5000
    [.tick (0 + n * 5000000)] st 1532 [112] rfl (by decide) rfl).1
  simp only [run, List.foldl_cons, List.foldl_nil] at hb
  rw [hb] at hrest
  simp [st] at hrest

theorem copyInto_length (dst src : List Nat) : (copyInto dst src).length = dst.length := by
  rw [copyInto, List.length_append, List.length_take, List.length_drop]
  rcases Nat.le_total dst.length src.length with h | h
  · rw [Nat.min_eq_left h, Nat.sub_eq_zero_of_le h, Nat.add_zero]
  · rw [Nat.min_eq_right h, Nat.add_sub_cancel' h]

/-- every queued item can be sliced. -/
def ItemOk (it : Item H) : Prop := it.size ≤ it.buf.length

theorem sliceTo_ok {buf : List Nat} {size : Nat} (h : size ≤ buf.length) : sliceTo buf size = .ok (buf.take size) :=
  if_pos h

/-- the buffer `Write` picks (the pooled one, or a fresh one for a long payload) holds the payload. -/
theorem picked_fits (pooled payload : List Nat) : payload.length ≤
    (if payload.length > pooled.length then List.replicate payload.length 0 else pooled).length := by
  split
  · exact Nat.le_of_eq List.length_replicate.symm
  · exact Nat.le_of_not_gt ‹_›

theorem copyInto_take {dst src : List Nat} (h : src.length ≤ dst.length) :
    (copyInto dst src).take src.length = src := by
  rw [copyInto, List.take_of_length_le h, List.take_left]

theorem lItem_ok (pooled : List Nat) (hdr : H) (ssrc : Nat) (payload : List Nat) :
    ItemOk (lItem pooled hdr ssrc payload) :=
  Nat.le_trans (picked_fits pooled payload) (Nat.le_of_eq (copyInto_length _ payload).symm)

/-- ★ intact: slicing the stored buffer to the recorded size gives back the payload (fixed code),
whatever stale content the pooled buffer had. -/
theorem lItem_intact (pooled : List Nat) (hdr : H) (ssrc : Nat) (payload : List Nat) :
    sliceTo (lItem pooled hdr ssrc payload).buf (lItem pooled hdr ssrc payload).size = .ok payload := by
  rw [sliceTo_ok (lItem_ok pooled hdr ssrc payload)]
  exact congrArg Res.ok (copyInto_take (picked_fits pooled payload))

/-- one round of the pop loop: it stops (budget used up), drops the item (no writer for its SSRC), sends it sliced
to its size, or panics on an item that cannot be sliced. -/
theorem leakyLoop_cases (hsz : H → Nat) (now : Nat) (it : Item H) (q : List (Item H)) (budget : Int) (st : LSt H)
    (P : Res (LSt H) → Prop) (stop : P (.ok { st with queue := it :: q }))
    (drop : P (leakyLoop hsz now q budget { st with processed := st.processed ++ [(it, false)] }))
    (send : ItemOk it → ∀ n, P (leakyLoop hsz now q (budget - n)
      { st with lastSent := now, calls := it.ssrc :: st.calls, processed := st.processed ++ [(it, true)],
                delivered := st.delivered ++ [⟨it.ssrc, it.hdr, it.buf.take it.size⟩] }))
    (panic : ¬ ItemOk it → ∀ s, P (.panic s)) : P (leakyLoop hsz now (it :: q) budget st) := by
  simp only [leakyLoop]
  split
  · split
    · by_cases hs : ItemOk it
      · rw [sliceTo_ok hs]
        exact send hs _
      · rw [sliceTo, if_neg (show ¬ it.size ≤ it.buf.length from hs)]
        exact panic hs _
    · exact drop
  · exact stop

/-- the pop loop never panics on sliceable items and leaves only sliceable items. -/
theorem leakyLoop_total (hsz : H → Nat) (now : Nat) (q : List (Item H)) :
    ∀ (budget : Int) (st : LSt H), (∀ it ∈ q, ItemOk it) →
      ∃ st', leakyLoop hsz now q budget st = .ok st' ∧ (∀ it ∈ st'.queue, ItemOk it) := by
  induction q with
  | nil => intro budget st _; exact ⟨_, rfl, by simp⟩
  | cons it q ih =>
    intro budget st hok
    have hq : ∀ x ∈ q, ItemOk x := fun x hx => hok x (List.mem_cons_of_mem _ hx)
    exact leakyLoop_cases hsz now it q budget st (fun r => ∃ st', r = .ok st' ∧ ∀ it ∈ st'.queue, ItemOk it)
      ⟨_, rfl, hok⟩ (ih _ _ hq) (fun _ _ => ih _ _ hq) fun hno => absurd (hok it List.mem_cons_self) hno

/-- ★ T4 `leaky_total` (F-19, fixed code): whatever is written (any payload length, any pooled
buffer content), bound, re-rated and ticked, `Run` never slices beyond a buffer — the model of
the pacer never reaches the panic of `(*buf)[:size]`. -/
theorem leaky_total (hsz : H → Nat) (evs : List (LEv H)) :
    ∀ (st : LSt H), (∀ it ∈ st.queue, ItemOk it) →
      ∃ st', lrun hsz lItem st evs = .ok st' := by
  induction evs with
  | nil => intro st _; exact ⟨st, rfl⟩
  | cons e es ih =>
    intro st hok
    cases e with
    | write pooled hdr ssrc payload =>
      simp only [lrun, lexec]
      apply ih
      intro it hit
      simp only [List.mem_append, List.mem_singleton] at hit
      cases hit with
      | inl h => exact hok it h
      | inr h => rw [h]; exact lItem_ok pooled hdr ssrc payload
    | bind s => simp only [lrun, lexec]; exact ih _ hok
    | setRate r => simp only [lrun, lexec]; exact ih _ hok
    | setFails s fl => simp only [lrun, lexec]; exact ih _ hok
    | tick now =>
      obtain ⟨st', h1, h2⟩ := leakyLoop_total hsz now st.queue
        (leakyBudget now st.lastSent st.target : Nat) st hok
      simp only [lrun, lexec, leakyTick, h1]
      exact ih st' h2

/-- T4 from the initial state. -/
theorem leaky_total_init (hsz : H → Nat) (rate : Nat) (evs : List (LEv H)) :
    ∃ st', lrun hsz lItem (LSt.init rate) evs = .ok st' :=
  leaky_total hsz evs _ (by simp [LSt.init])

/-- F-19 `leaky_unfixed_panics`: on the code before the fix, one payload longer than the pooled
buffer makes the next tick panic (for the real pool size any payload of 1461 bytes). -/
theorem leaky_unfixed_panics (pooled : List Nat) (hdr : H) (ssrc : Nat) (payload : List Nat)
    (h : pooled.length < payload.length) :
    ∃ s, sliceTo (lItemUnfixed pooled hdr ssrc payload).buf (lItemUnfixed pooled hdr ssrc payload).size
      = .panic s := by
  simp only [lItemUnfixed, sliceTo, copyInto_length]
  rw [if_neg (by omega)]
  exact ⟨_, rfl⟩

/-- F-19 at the level of runs: bind, write 5 bytes into a 4-byte pooled buffer, tick → panic. -/
theorem leaky_unfixed_run_panics :
    (lrun (fun _ : Unit => 12) lItemUnfixed (LSt.init 1000000)
      [.bind 1, .write [0, 0, 0, 0] () 1 [1, 2, 3, 4, 5], .tick 5000000]).isPanic = true := by
  decide

/-- non-vacuity of `leaky_total` / `leaky_fifo_exactly_once`: on the fixed code the same run
delivers the 5-byte payload intact (and drops nothing). -/
example :
    (match lrun (fun _ : Unit => 12) lItem (LSt.init 1000000)
      [.bind 1, .write [9, 9, 9, 9] () 1 [1, 2, 3, 4, 5], .write [9, 9, 9, 9] () 1 [7], .tick 5000000] with
     | .ok st => st.delivered.map (·.payload)
     | _ => []) = [[1, 2, 3, 4, 5], [7]] := by decide

/-- the dequeued items, then the queue, are the written items in order; delivered packets are
the dequeued items that had a writer, sliced to their size. -/
def LInv (mk : List Nat → H → Nat → List Nat → Item H) (st : LSt H) (ws : List (Item H)) : Prop :=
  st.processed.map (·.1) ++ st.queue = ws ∧
  st.delivered = (st.processed.filter (·.2)).map (fun x => ⟨x.1.ssrc, x.1.hdr, x.1.buf.take x.1.size⟩)

theorem leakyLoop_inv (mk : List Nat → H → Nat → List Nat → Item H) (hsz : H → Nat) (now : Nat)
    (q : List (Item H)) :
    ∀ (budget : Int) (st st' : LSt H) (ws : List (Item H)),
      st.processed.map (·.1) ++ q = ws →
      st.delivered = (st.processed.filter (·.2)).map (fun x => ⟨x.1.ssrc, x.1.hdr, x.1.buf.take x.1.size⟩) →
      leakyLoop hsz now q budget st = .ok st' → LInv mk st' ws := by
  induction q with
  | nil =>
    intro budget st st' ws h1 h2 h
    simp only [leakyLoop, Res.ok.injEq] at h
    subst h
    exact ⟨by simpa using h1, h2⟩
  | cons it q ih =>
    intro budget st st' ws h1 h2
    have h1' : ∀ b : Bool, (st.processed ++ [(it, b)]).map (fun x => x.1) ++ q = ws := fun b => by
      rw [List.map_append, List.append_assoc]
      exact h1
    exact leakyLoop_cases hsz now it q budget st (fun r => r = .ok st' → LInv mk st' ws)
      (fun h => by cases h; exact ⟨h1, h2⟩)
      (ih _ _ st' ws (h1' false) (by simp [List.filter_append, h2]))
      (fun _ _ => ih _ _ st' ws (h1' true) (by simp [List.filter_append, h2]))
      fun _ _ h => nomatch h

/-- items written by an event list, in order. -/
def writesOf (mk : List Nat → H → Nat → List Nat → Item H) : List (LEv H) → List (Item H)
  | [] => []
  | .write a b c e :: es => mk a b c e :: writesOf mk es
  | _ :: es => writesOf mk es

/-- ★ T1 for the leaky bucket `leaky_fifo_exactly_once`: after any event sequence, the items
dequeued so far followed by the queue are exactly the written items in write order (each once),
and the delivered packets are exactly the dequeued items whose SSRC had a writer, in that order,
with the stored header and the buffer sliced to the recorded size (= the payload, by
`lItem_intact`).  Items whose SSRC has no writer when dequeued are dropped (as the code does). -/
theorem leaky_fifo_exactly_once (mk : List Nat → H → Nat → List Nat → Item H) (hsz : H → Nat)
    (evs : List (LEv H)) :
    ∀ (st st' : LSt H) (ws : List (Item H)), LInv mk st ws → lrun hsz mk st evs = .ok st' →
      LInv mk st' (ws ++ writesOf mk evs) := by
  induction evs with
  | nil =>
    intro st st' ws hinv h
    simp only [lrun, Res.ok.injEq] at h
    subst h
    simpa [writesOf] using hinv
  | cons e es ih =>
    intro st st' ws hinv h
    cases e with
    | write pooled hdr ssrc payload =>
      simp only [lrun, lexec] at h
      have hinv' : LInv mk { st with queue := st.queue ++ [mk pooled hdr ssrc payload] }
          (ws ++ [mk pooled hdr ssrc payload]) := ⟨by simp [← hinv.1], hinv.2⟩
      have := ih _ st' _ hinv' h
      simpa [writesOf] using this
    -- these three touch neither queue nor ghost lists, and `writesOf` skips them
    | bind s => exact ih { st with writers := s :: st.writers } st' ws hinv h
    | setRate r => exact ih { st with target := leakyTarget r } st' ws hinv h
    | setFails s fl => exact ih { st with fails := rebindFails st.fails s fl } st' ws hinv h
    | tick now =>
      simp only [lrun, lexec, leakyTick] at h
      split at h
      · rename_i st1 h1
        have hinv1 := leakyLoop_inv mk hsz now st.queue _ st st1 ws hinv.1 hinv.2 h1
        simpa [writesOf] using ih _ st' ws hinv1 h
      · cases h
      · cases h

end Interceptor.Pacing
