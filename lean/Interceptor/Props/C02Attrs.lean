import Interceptor.Model.AttrCache
/-
C02 / C01, the parse cache of `interceptor.Attributes`: in a chain of readers in which every member that hands
on other bytes than it read also hands on fresh attributes, every member that looks at the header through the
cache sees the parse of exactly the bytes it holds — whatever the bytes, parseable or not, and whatever the
members inside it did; a failed parse leaves nothing behind.  The negation for a member that keeps the
attributes (the jitter buffer before F-42) is proved with a witness.
-/
namespace Interceptor.Props.C02Attrs
open Interceptor.Model.AttrCache

variable {Raw H : Type}

/-- a look through a coherent cache returns the parse of the bytes it is given -/
theorem look_eq_parse (parse : Raw → Option H) (a : Attrs H) (raw : Raw) (hc : Coherent parse a raw) :
    (look parse a raw).1 = parse raw := by
  unfold look
  cases hca : a.cached with
  | some h => simp [hc h hca]
  | none => cases hp : parse raw <;> simp

/-- and leaves the cache coherent with the same bytes -/
theorem look_coherent (parse : Raw → Option H) (a : Attrs H) (raw : Raw) (hc : Coherent parse a raw) :
    Coherent parse (look parse a raw).2 raw := by
  unfold look
  cases hca : a.cached with
  | some h => simpa [hca] using hc
  | none =>
    cases hp : parse raw with
    | none => simpa [hca, hp] using hc
    | some h =>
      intro h' hh
      simp at hh
      simp [hp, ← hh]

theorem fresh_coherent (parse : Raw → Option H) (raw : Raw) : Coherent parse ({} : Attrs H) raw := by
  intro h hh; cases hh

/-- ★ a failed parse leaves nothing in the map: the next look, at other bytes, gets the parse of those bytes -/
theorem failed_parse_leaves_nothing (parse : Raw → Option H) (raw raw' : Raw) (hfail : parse raw = none) :
    (look parse (look parse ({} : Attrs H) raw).2 raw').1 = parse raw' := by
  have : (look parse ({} : Attrs H) raw).2 = {} := by simp [look, hfail]
  rw [this]
  exact look_eq_parse parse {} raw' (fresh_coherent parse raw')

/-- one well-behaved member keeps the pair (bytes, attributes) coherent and, if it looks, sees the parse of its bytes -/
theorem step_coherent (parse : Raw → Option H) (m : Member Raw) (raw : Raw) (a : Attrs H)
    (hw : m.wellBehaved = true) (hc : Coherent parse a raw) :
    Coherent parse (m.step parse raw a).2.2 (m.step parse raw a).2.1 ∧
      ∀ x, (m.step parse raw a).1 = some x → x.1 = x.2 := by
  cases m with
  | pass => exact ⟨hc, by intro x hx; simp [Member.step] at hx⟩
  | observe =>
    refine ⟨look_coherent parse a raw hc, ?_⟩
    intro x hx
    simp [Member.step] at hx
    rw [← hx]
    exact look_eq_parse parse a raw hc
  | replace raw' => exact ⟨fresh_coherent parse raw', by intro x hx; simp [Member.step] at hx⟩
  | replaceStale raw' => simp [Member.wellBehaved] at hw

/-- ★ C02/C01 (attributes): through any chain of well-behaved members, starting from any bytes with coherent
attributes (in particular the fresh map of a read), every observation equals the parse of the bytes the observer
holds, and the application receives bytes and attributes that agree. -/
theorem chain_coherent (parse : Raw → Option H) (ms : List (Member Raw)) (raw : Raw) (a : Attrs H)
    (hw : ∀ m ∈ ms, m.wellBehaved = true) (hc : Coherent parse a raw) :
    (∀ x ∈ (run parse ms raw a).1, x.1 = x.2) ∧
      Coherent parse (run parse ms raw a).2.2 (run parse ms raw a).2.1 := by
  induction ms generalizing raw a with
  | nil => exact ⟨by intro x hx; simp [run] at hx, hc⟩
  | cons m ms ih =>
    have hm := step_coherent parse m raw a (hw m (by simp)) hc
    have hrest := ih (m.step parse raw a).2.1 (m.step parse raw a).2.2
      (fun m' hm' => hw m' (by simp [hm'])) hm.1
    simp only [run]
    constructor
    · intro x hx
      cases ho : (m.step parse raw a).1 with
      | none => simp [ho] at hx; exact hrest.1 x hx
      | some y =>
        simp [ho] at hx
        rcases hx with hx | hx
        · rw [hx]; exact hm.2 y ho
        · exact hrest.1 x hx
    · exact hrest.2

/-- ★ the negation for a member that hands on other bytes with the attributes of the packet it read (the jitter
buffer interceptor before F-42): an observer further out sees the header of another packet. Witness: bytes are
numbers, the header is the number itself; inside an observer caches 7, the member hands on 3, the observer outside
is told 7 about bytes that parse to 3. -/
theorem stale_attributes_break :
    ∃ x ∈ (run (fun n : Nat => some n) [Member.observe, Member.replaceStale 3, Member.observe] 7 {}).1, x.1 ≠ x.2 := by
  refine ⟨(some 7, some 3), ?_, by decide⟩
  decide

/-- non-vacuity: a chain [observer, jitter buffer (fresh attributes), observer] on parseable and unparseable bytes -/
example : (run (fun n : Nat => if n < 10 then some n else none)
    [Member.observe, Member.replace 3, Member.observe, Member.pass] 12 {}).1 = [(none, none), (some 3, some 3)] := by
  decide

end Interceptor.Props.C02Attrs
