/-
C11 — lifecycle: Close and Unbind stop activity and never strand a caller.
Theorems over the parametric lifecycle skeleton (Model/Lifecycle.lean), for EVERY parameter
vector, every state and every operation unless a hypothesis says otherwise.  The parameter
vectors of the real interceptors are tied to the source by Facts/C11.lean (regenerated facts)
and to the running code by the `lifecycle` correspondence (every call issued from its own
goroutine under testing/synctest).
-/
import Interceptor.Model.Lifecycle
set_option linter.unusedVariables false
namespace Interceptor.Lifecycle

inductive Op where
  | bindW | bindRemote (s : Nat) | bindLocal (s : Nat) | unbindRemote (s : Nat) | unbindLocal (s : Nat)
  | write (s : Nat) | read (s : Nat) | rtcpRead | close | advance (ms : Nat) | flush

def step (s : St) : Op → St × Outcome
  | .bindW => bindW s
  | .bindRemote x => bindRemote s x
  | .bindLocal x => bindLocal s x
  | .unbindRemote x => unbindRemote s x
  | .unbindLocal x => unbindLocal s x
  | .write x => write s x
  | .read x => read s x
  | .rtcpRead => rtcpRead s
  | .close => close s
  | .advance ms => (advance s ms, .ret)
  | .flush => ((flush s).1, .ret)

def run (s : St) (ops : List Op) : St := ops.foldl (fun st o => (step st o).1) s

/-- `bindRemote` returns, touches only the stream tables and, for the interval-PLI shape, the immediate
report: emitted at once when a loop runs, queued when none runs yet, dropped after Close. -/
theorem bindRemote_eq (s : St) (x : Nat) : ∃ em qu, bindRemote s x =
    ({ s with remote := insertSorted x s.remote, readers := insertSorted x s.readers,
              reads := (x, 0) :: s.reads.filter (·.1 != x), emitted := em, queued := qu }, .ret) ∧
    (s.closed = true → em = s.emitted) := by
  obtain ⟨⟨hasLoop, interval, emits, imm, rh, rn⟩, now, loopStart, closed, remote, loc, readers, writers, hr, reads,
    queued, waiting, emitted, blocked, written, loops⟩ := s
  cases imm <;> cases closed <;> cases loopStart <;> exact ⟨_, _, rfl, fun h => by cases h <;> rfl⟩

theorem bindRemote_ret (s : St) (x : Nat) : (bindRemote s x).2 = .ret := by
  obtain ⟨_, _, h, _⟩ := bindRemote_eq s x; rw [h]

theorem bindRemote_remote (s : St) (x : Nat) : (bindRemote s x).1.remote = insertSorted x s.remote := by
  obtain ⟨_, _, h, _⟩ := bindRemote_eq s x; rw [h]

theorem bindRemote_closed (s : St) (x : Nat) : (bindRemote s x).1.closed = s.closed := by
  obtain ⟨_, _, h, _⟩ := bindRemote_eq s x; rw [h]

theorem bindRemote_emitted_closed (s : St) (x : Nat) (h : s.closed = true) :
    (bindRemote s x).1.emitted = s.emitted := by
  obtain ⟨_, _, he, hc⟩ := bindRemote_eq s x; rw [he]; exact hc h

theorem bindRemote_reads (s : St) (x : Nat) :
    (bindRemote s x).1.reads = (x, 0) :: s.reads.filter (·.1 != x) := by
  obtain ⟨_, _, h, _⟩ := bindRemote_eq s x; rw [h]

/-- ★ after Close nobody is left waiting inside the interceptor (no stranded caller). -/
theorem close_releases_all (s : St) : (close s).1.waiting = [] ∧ (close s).1.closed = true := by
  simp [close]

/-- `read` is the only call that blocks: a hand-off read of a bound stream while the interceptor is
open and no loop runs.  It changes `reads` and `waiting` only. -/
theorem read_blocked_iff (s : St) (x : Nat) : (read s x).2 = .blocked ↔
    s.readers.contains x = true ∧ s.closed = false ∧ s.loopStart = none ∧ s.p.readHandoff = true := by
  unfold read
  cases hr : s.readers.contains x
  · simp
  · have hb : (s.p.readHandoff && !s.closed && s.loopStart.isNone) = true ↔
        s.closed = false ∧ s.loopStart = none ∧ s.p.readHandoff = true := by
      simp [and_comm, and_assoc]
    simp only [Bool.not_true, Bool.false_eq_true, if_false, setReads, true_and, ← hb]
    by_cases hc : (s.p.readHandoff && !s.closed && s.loopStart.isNone) = true
    · simp only [hc, if_true]
    · simp only [hc, if_false, reduceCtorEq]

theorem read_frame (s : St) (x : Nat) :
    (read s x).1.closed = s.closed ∧ (read s x).1.emitted = s.emitted ∧ (read s x).1.remote = s.remote := by
  unfold read; split
  · exact ⟨rfl, rfl, rfl⟩
  · dsimp only; split <;> exact ⟨rfl, rfl, rfl⟩

/-- ★ a call blocks only in the one situation the code has: a hand-off read (twcc sender, rfc8888)
while the interceptor is open and no loop has been started yet. -/
theorem blocks_only_without_loop (s : St) (o : Op) (h : (step s o).2 = .blocked) :
    s.closed = false ∧ s.loopStart = none ∧ s.p.readHandoff = true := by
  cases o with
  | read x => exact ((read_blocked_iff s x).mp h).2
  | bindW => rw [step, bindW] at h; split at h <;> cases h
  | bindRemote x => rw [step, bindRemote_ret] at h; cases h
  | write x => rw [step, write] at h; split at h <;> cases h
  | rtcpRead => rw [step, rtcpRead] at h; split at h <;> cases h
  | _ => cases h

/-- ★ once closed, every call returns (or reports an unbound stream): nothing blocks. -/
theorem after_close_nothing_blocks (s : St) (h : s.closed = true) (o : Op) :
    (step s o).2 ≠ .blocked := fun hb => by
  rw [(blocks_only_without_loop s o hb).1] at h; cases h

/-- once closed the interceptor is inert: it stays closed and no operation adds to the emitted set. -/
theorem closed_inert (s : St) (h : s.closed = true) (o : Op) :
    (step s o).1.closed = true ∧ ∀ x, x ∈ (step s o).1.emitted → x ∈ s.emitted := by
  have same : ∀ t : St, t.closed = s.closed → t.emitted = s.emitted →
      t.closed = true ∧ ∀ x, x ∈ t.emitted → x ∈ s.emitted :=
    fun t hc he => ⟨hc.trans h, fun _ hx => he ▸ hx⟩
  cases o with
  | bindRemote y => exact same _ (bindRemote_closed s y) (bindRemote_emitted_closed s y h)
  | bindW => rw [step, bindW, if_pos (by rw [h]; rfl)]; exact same _ rfl rfl
  | write y => rw [step, write]; split <;> exact same _ rfl rfl
  | read y => exact same _ (read_frame s y).1 (read_frame s y).2.1
  | rtcpRead => rw [step, rtcpRead]; split <;> exact same _ rfl rfl
  | close => exact ⟨rfl, fun _ hx => hx⟩
  | flush => exact ⟨h, fun _ hx => nomatch hx⟩
  -- no tick falls into a closed interceptor's interval
  | advance ms => exact same _ rfl (by simp [step, advance, ticksIn, h])
  | _ => exact same _ rfl rfl

/-- ★ after Close nothing more is emitted: no operation adds to the emitted set. -/
theorem no_emission_after_close (s : St) (h : s.closed = true) (o : Op) :
    ∀ x, x ∈ (step s o).1.emitted → x ∈ s.emitted :=
  (closed_inert s h o).2

theorem no_emission_after_close_run (s : St) (h : s.closed = true) (ops : List Op) :
    ∀ x, x ∈ (run s ops).emitted → x ∈ s.emitted := by
  induction ops generalizing s with
  | nil => intro x hx; exact hx
  | cons o os ih =>
    intro x hx
    obtain ⟨hc, he⟩ := closed_inert s h o
    exact he x (ih (step s o).1 hc x hx)

/-- ★ interceptors without hand-off reads never block a caller. -/
theorem plain_never_blocks (s : St) (hr : s.p.readHandoff = false) (o : Op) : (step s o).2 ≠ .blocked :=
  fun h => by rw [(blocks_only_without_loop s o h).2.2] at hr; cases hr

/-- ★ Bind, Unbind and Close never block, whatever lifecycle calls preceded them, for every parameter
vector, including the interval-PLI shape (F-30b). -/
theorem lifecycle_calls_never_block (s : St) (x : Nat) :
    (bindW s).2 = .ret ∧ (bindLocal s x).2 = .ret ∧ (bindRemote s x).2 = .ret ∧
    (unbindLocal s x).2 = .ret ∧ (unbindRemote s x).2 = .ret ∧ (close s).2 = .ret := by
  refine ⟨?_, rfl, ?_, rfl, rfl, rfl⟩
  · simp only [bindW]; split <;> rfl
  · exact bindRemote_ret s x

/-- the code before the F-30b repair (a channel of capacity one that only the loop drains): a second
BindRemoteStream before any RTCP writer blocked — kept as the witness of the repaired defect. -/
def bindRemoteUnrepaired (s : St) (ssrc : Nat) : Outcome :=
  if s.p.immediateOnBind && !s.closed && s.loopStart.isNone && !s.queued.isEmpty then .blocked else .ret

theorem bind_never_blocks_unrepaired_false :
    ¬ (∀ (s : St) (x : Nat), bindRemoteUnrepaired s x = .ret) := by
  intro h
  have := h { p := { hasLoop := true, emits := .remoteBound, immediateOnBind := true }, queued := [1] } 2
  revert this; decide

/-- ★ the start of a loop releases every blocked caller (Close does too: `close_releases_all`). -/
theorem released_by_loop_start (s : St) (hc : s.closed = false) (hl : s.p.hasLoop = true) :
    (bindW s).1.waiting = [] := by
  simp [bindW, hc, hl]

/-- ★ Unbind stops reports about the stream: after UnbindRemoteStream x no tick reports x for the
remote-stream rules, and after UnbindLocalStream x none for the local rule. -/
theorem unbind_remote_stops (s : St) (x : Nat) (h : s.p.emits ≠ .localBound) :
    x ∉ tickSet (unbindRemote s x).1 := by
  unfold tickSet unbindRemote
  cases he : s.p.emits <;> simp_all [List.mem_filter]

theorem unbind_local_stops (s : St) (x : Nat) (h : s.p.emits = .localBound) :
    x ∉ tickSet (unbindLocal s x).1 := by
  unfold tickSet unbindLocal
  simp [h, List.mem_filter]

/-- the operation does not bind `x`. -/
def notRebinding (x : Nat) : Op → Prop
  | .bindRemote y => y ≠ x
  | .bindLocal y => y ≠ x
  | _ => True

theorem mem_insertSorted (a x : Nat) (l : List Nat) : a ∈ insertSorted x l ↔ a = x ∨ a ∈ l := by
  induction l with
  | nil => rw [insertSorted, List.mem_singleton]; simp
  | cons y ys ih =>
    rw [insertSorted]
    split
    · exact List.mem_cons
    · split
      · -- `x` is there already
        subst_vars; exact ⟨Or.inr, fun h => h.elim (fun e => e ▸ List.mem_cons_self) id⟩
      · rw [List.mem_cons, ih, List.mem_cons]; exact or_left_comm

theorem remote_unchanged (s : St) (x : Nat) (o : Op) (hn : notRebinding x o) (hx : x ∉ s.remote) :
    x ∉ (step s o).1.remote := by
  cases o with
  | bindRemote y =>
    rw [step, bindRemote_remote, mem_insertSorted]
    exact fun h => h.elim (fun e => hn e.symm) hx
  | unbindRemote y => exact fun h => hx (List.mem_filter.mp h).1
  | bindW => rw [step, bindW]; split <;> exact hx
  | write y => rw [step, write]; split <;> exact hx
  | read y => rw [step, (read_frame s y).2.2]; exact hx
  | rtcpRead => rw [step, rtcpRead]; split <;> exact hx
  | _ => exact hx

/-- ★ after UnbindRemoteStream x, no later tick reports x until x is bound again (remote rules). -/
theorem unbind_remote_stops_run (s : St) (x : Nat) (ops : List Op) (hn : ∀ o ∈ ops, notRebinding x o) :
    x ∉ (run (unbindRemote s x).1 ops).remote := by
  have h0 : x ∉ (unbindRemote s x).1.remote := by simp [unbindRemote, List.mem_filter]
  generalize (unbindRemote s x).1 = t at h0
  induction ops generalizing t with
  | nil => exact h0
  | cons o os ih =>
    exact ih (fun o' ho' => hn o' (by simp [ho'])) (step t o).1
      (remote_unchanged t x o (hn o (by simp)) h0)

/-- ★ binding the same SSRC again starts from fresh per-stream state. -/
theorem rebind_fresh (s : St) (x : Nat) : readsOf (bindRemote s x).1 x = 0 := by
  simp [readsOf, bindRemote_reads]

/-- non-vacuity: a reachable state in which a hand-off read is waiting, and Close releases it. -/
example :
    let s0 : St := { p := { hasLoop := true, readHandoff := true } }
    let s1 := (bindRemote s0 1).1
    (read s1 1).2 = .blocked ∧ (close (read s1 1).1).1.waiting = [] := by decide

end Interceptor.Lifecycle
