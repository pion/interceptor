/-
C02 (jitter-buffer part) — the queue cannot loop forever or panic, and the jitter-buffer
interceptor never reports more bytes than it was given room for.  `WF` and the preservation
theorems (`wf_push`, …) are in Props/C18.lean, `HRep` and `heapRefines` in
Proofs/JitterBufferHeap.lean; this file draws the C02 consequences.

In the heap-level model every traversal of the linked list carries fuel = number of allocated
nodes + 1 and returns `.panic "loop"` when the fuel runs out; a nil dereference is
`.panic "nil"`.  So "no infinite loop, no panic" is: no operation returns `.panic _`.
-/
import Interceptor.Props.C18
namespace Interceptor.JitterBuffer

/-- ★ T2 `queue_terminates`: on a well-formed queue every operation terminates within its fuel
and dereferences no nil pointer: none returns `.panic _` (in particular not `.panic "loop"`).
False on the unfixed code after pushing a duplicate of the head (F-21). -/
theorem queue_terminates {q : PQ} (h : WF q) (v : Pkt) (k : Nat) (s : String) :
    q.push v k ≠ .panic s ∧ q.find k ≠ .panic s ∧ q.popAt k ≠ .panic s ∧ q.popAtTs k ≠ .panic s ∧
    q.pop ≠ .panic s ∧ q.clear ≠ .panic s := by
  obtain ⟨l, hr, _⟩ := h
  obtain ⟨h1, h2, h3, h4, h5, h6, _⟩ := refines_multiset_heap hr v k
  refine ⟨?_, ?_, ?_, ?_, ?_, ?_⟩
  · obtain ⟨q', hq, _⟩ := h1; rw [hq]; intro h; cases h
  · rw [h2]; exact findL_not_panic l k s
  · exact h3.not_panic s
  · exact h4.not_panic s
  · exact h5.not_panic s
  · obtain ⟨q', hq, _⟩ := h6; rw [hq]; intro h; cases h

/-- no call on the list-level JitterBuffer panics. -/
theorem list_step_no_panic (js : LJB) (op : Op) (s : String) : (js.step op).2.ret ≠ .panic s := by
  by_cases hrem : op.removes = true
  · rcases rem_cases js hrem with ⟨_, x, hret⟩ | ⟨_, e, hret, _⟩ <;> (rw [hret]; intro h; cases h)
  · cases op with
    | push p => rw [show (js.step (.push p)).2.ret = .ok none from (push_char js p).1]; intro h; cases h
    | peek b =>
      simp only [JB.step, JB.peek]
      split
      · intro h; cases h
      · split <;> exact findL_not_panic _ _ s
    | peekSeq sq => exact findL_not_panic _ _ s
    | setHead x => intro h; cases h
    | getHead => intro h; cases h
    | clear r => cases r <;> (intro h; cases h)
    | _ => simp [Op.removes] at hrem

/-- ★ T2' `jitterbuffer_never_hangs`: along ANY history of exported calls on a fresh JitterBuffer
over the heap-level queue (the Go code's queue), no call runs out of fuel or panics. -/
theorem jitterbuffer_never_hangs (m : Option Nat) (ops : List Op) (s : String) :
    ∀ r ∈ ((JB.new heapImpl m).run ops).2, r.out.ret ≠ .panic s := by
  rw [(sim_run heapRefines (jrep_new heapRefines m) ops).1]
  generalize JB.new listImpl m = js
  induction ops generalizing js with
  | nil => intro r hr; cases hr
  | cons op ops ih =>
    rw [run_cons]
    intro r hr
    rcases List.mem_cons.mp hr with rfl | hr
    · exact list_step_no_panic js op s
    · exact ih _ r hr

/-- ★ T3 `reader_len` (jitter-buffer interceptor, fixed code): one `Read` through the interceptor,
where the upstream reader reported `n ≤ len(b)` bytes, never reports more than `len(b)` bytes;
when it hands out a packet it reports exactly that packet's marshalled size, and on every
other path at most the `n` it was given.  (The literal `n_out ≤ n_in` cannot hold for a jitter
buffer: it may emit an earlier, larger packet than the one just read.)  False on the unfixed
code (F-23: reported `len(b)` for every packet). Holds for any queue implementation. -/
theorem reader_len {I : QImpl} (jb : JB I) (p : Pkt) (n blen : Nat) (uerr : Bool) (h : n ≤ blen) :
    (intRead jb p n blen uerr).2.n ≤ blen ∧
    (∀ v, (intRead jb p n blen uerr).2.pkt = some v → (intRead jb p n blen uerr).2.n = v.size) ∧
    ((intRead jb p n blen uerr).2.pkt = none → (intRead jb p n blen uerr).2.n ≤ n) := by
  -- every path ends in one of three shapes: nothing reported, the upstream count passed on, a packet handed out
  have zero : ∀ {r : JB I × ReadOut} {s : JB I} {e : String}, (s, { n := 0, err := e }) = r →
      r.2.n ≤ blen ∧ (∀ v, r.2.pkt = some v → r.2.n = v.size) ∧ (r.2.pkt = none → r.2.n ≤ n) := by
    rintro _ _ _ rfl; exact ⟨Nat.zero_le _, (fun _ hv => by cases hv), fun _ => Nat.zero_le _⟩
  have pass : ∀ {r : JB I × ReadOut} {s : JB I} {e : String}, (s, { n := n, err := e }) = r →
      r.2.n ≤ blen ∧ (∀ v, r.2.pkt = some v → r.2.n = v.size) ∧ (r.2.pkt = none → r.2.n ≤ n) := by
    rintro _ _ _ rfl; exact ⟨h, (fun _ hv => by cases hv), fun _ => Nat.le_refl _⟩
  generalize hr : intRead jb p n blen uerr = r
  unfold intRead at hr
  split at hr
  · exact pass hr               -- the upstream reader failed: its `n` and error are returned
  split at hr
  · exact zero hr               -- fewer than 12 bytes: `Unmarshal` fails
  dsimp only at hr
  split at hr
  · exact zero hr               -- `Push` panicked
  split at hr
  · split at hr                 -- emitting: the result of `Pop`
    · split at hr
      · rename_i v _ hle        -- a packet that fits into the caller's buffer
        subst hr
        exact ⟨hle, fun _ hv => by cases hv; rfl, fun hv => by cases hv⟩
      · exact zero hr           -- a packet larger than the caller's buffer
    · exact zero hr             -- `Pop` returned a nil packet
    · exact zero hr             -- `Pop` returned an error
    · exact zero hr             -- `Pop` panicked
  · exact pass hr               -- still buffering: the count of the packet just read
end Interceptor.JitterBuffer
