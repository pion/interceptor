/-
C10 — freedom from data races: the lock discipline implies race freedom on the abstract
lock machine, and the discipline is checked on the facts regenerated from /repo
(`Facts/C10.lean: facts_ok`).  The step from the syntactic lock sets of the facts to the
running program (the translator's lock-set computation, the Go memory model) is trusted.
-/
import Interceptor.Model.LockMachine
import Interceptor.Facts.LockDiscipline
namespace Interceptor.LockMachine
open Interceptor.Facts

theorem excl_init : Excl (fun _ => {}) := by
  intro m h; rfl

theorem excl_set {s : LState} {m : Mutex} {v : MState} (h : Excl s) (hv : v.writer ≠ none → v.readers = []) :
    Excl (set s m v) := by
  intro m' hne
  unfold set at hne ⊢
  by_cases hm : m' = m
  · rw [if_pos hm] at hne ⊢; exact hv hne
  · rw [if_neg hm] at hne ⊢; exact h m' hne

theorem excl_step {s e s'} (h : Excl s) (st : Step s e s') : Excl s' := by
  cases st with
  | lock t m hw hr => exact excl_set h fun _ => rfl
  | rlock t m hw => exact excl_set h fun hn => absurd rfl hn
  | unlock t m hw => exact excl_set h fun hn => absurd rfl hn
  | runlock t m hr => exact excl_set h fun hn => by rw [h m hn]; rfl

/-- ★ mutual exclusion holds in every reachable state of the mutex machine. -/
theorem excl_reach {s} (h : Reach s) : Excl s := by
  induction h with
  | init => exact excl_init
  | step _ st ih => exact excl_step ih st

/-- ★ an exclusive holder excludes every other holder (exclusive or shared). -/
theorem exclusive_excludes {s t1 t2 m} (h : Reach s) (hw : holdsW s t1 m)
    (ho : holdsW s t2 m ∨ holdsR s t2 m) : t1 = t2 := by
  cases ho with
  | inl h2 => unfold holdsW at *; rw [hw] at h2; exact Option.some.inj h2
  | inr h2 =>
    have := excl_reach h m (by unfold holdsW at hw; rw [hw]; simp)
    unfold holdsR at h2; rw [this] at h2; cases h2

/-- thread `t` holds (at least) the locks of a static lock set. -/
def Holds (s : LState) (t : Tid) (locks : List (Nat × Mode)) : Prop :=
  ∀ p ∈ locks, (p.2 = .w → holdsW s t p.1) ∧ (p.2 = .r → holdsR s t p.1 ∨ holdsW s t p.1)

theorem holds_of_siteHoldsW {s : LState} {t : Tid} {site : Site} {l : Nat}
    (hs : Holds s t site.locks) (h : site.holdsW l = true) : holdsW s t l := by
  unfold Site.holdsW at h
  obtain ⟨p, hp, hpl⟩ := List.any_eq_true.mp h
  simp only [Bool.and_eq_true, beq_iff_eq] at hpl
  have := (hs p hp).1 hpl.2
  rw [hpl.1] at this; exact this

theorem holds_of_siteHolds {s : LState} {t : Tid} {site : Site} {l : Nat}
    (hs : Holds s t site.locks) (h : site.holds l = true) : holdsW s t l ∨ holdsR s t l := by
  unfold Site.holds at h
  obtain ⟨p, hp, hpl⟩ := List.any_eq_true.mp h
  simp only [beq_iff_eq] at hpl
  have hh := hs p hp
  cases hm : p.2 with
  | w => left; have := hh.1 hm; rw [hpl] at this; exact this
  | r =>
    cases hh.2 hm with
    | inl h1 => right; rw [hpl] at h1; exact h1
    | inr h1 => left; rw [hpl] at h1; exact h1

/-- ★ discipline ⇒ no race (guarded fields): if the facts of a field satisfy `guardedOk l`, two
live access sites of which one modifies the field can be simultaneously enabled — each thread
holding the locks its site holds syntactically — only in one and the same thread. -/
theorem guarded_no_race {l : Nat} {sites : List Site} {s1 s2 : Site} {st : LState} {t1 t2 : Tid}
    (hok : guardedOk l sites = true) (h1 : s1 ∈ sites) (h2 : s2 ∈ sites)
    (l1 : s1.ctor = false) (l2 : s2.ctor = false) (hw : s1.writes = true)
    (hr : Reach st) (hh1 : Holds st t1 s1.locks) (hh2 : Holds st t2 s2.locks) : t1 = t2 := by
  unfold guardedOk at hok
  have a1 := List.all_eq_true.mp hok s1 h1
  have a2 := List.all_eq_true.mp hok s2 h2
  simp only [l1, l2, Bool.false_or, hw, if_true] at a1 a2
  have w1 := holds_of_siteHoldsW hh1 a1
  by_cases hw2 : s2.writes = true
  · simp only [hw2, if_true] at a2
    exact exclusive_excludes hr w1 (Or.inl (holds_of_siteHoldsW hh2 a2))
  · simp only [hw2] at a2
    exact exclusive_excludes hr w1 (holds_of_siteHolds hh2 (by simpa using a2))

/-- ★ immutable fields: no live site modifies the field, so no conflicting pair exists. -/
theorem immutable_no_conflict {sites : List Site} {s : Site}
    (hok : immutableOk sites = true) (h : s ∈ sites) (hl : s.ctor = false) : s.writes = false := by
  have := List.all_eq_true.mp hok s h
  simpa [hl] using this

/-- ★ atomic fields: every live access is an atomic operation (linearizable by sync/atomic). -/
theorem atomic_only {sites : List Site} {s : Site}
    (hok : atomicOk sites = true) (h : s ∈ sites) (hl : s.ctor = false) : s.kind = .atomic := by
  have := List.all_eq_true.mp hok s h
  simpa [hl] using this

/-- one pruning round of the lock-order check keeps a self-loop edge: `(a, a)` survives `pruneOnce`.
(Nothing is stated here about `acyclic`, which iterates `pruneOnce`.) -/
theorem acyclic_no_self_edge (es : List (Nat × Nat)) (a : Nat) (h : (a, a) ∈ es) :
    (a, a) ∈ pruneOnce es := by
  unfold pruneOnce
  simp only [List.mem_filter]
  exact ⟨h, List.any_eq_true.mpr ⟨(a, a), h, by simp⟩⟩

/-- non-vacuity: a reachable state with a writer, and a site list satisfying `guardedOk`. -/
example : Reach (set (fun _ => {}) 3 { writer := some 7, readers := [] }) :=
  Reach.step Reach.init (Step.lock _ 7 3 rfl rfl)
example : guardedOk 3 [{ ctx := 0, kind := .write, ctor := false, locks := [(3, .w)] },
    { ctx := 1, kind := .read, ctor := false, locks := [(3, .r), (4, .w)] }] = true := by decide

end Interceptor.LockMachine
