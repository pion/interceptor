/-
C19 — stream statistics equal a recount of the observed traffic.
Model: Model/Stats.lean (the stats interceptor and its
recorders, on the tree with the F-29, F-27 and F-34 fixes); spec: Spec/Stats.lean (counts, sums and
"last matching report" over the event history); helper lemmas: Proofs/Stats*.lean.
-/
import Interceptor.Proofs.StatsFanout
import Interceptor.Proofs.StatsCounters
import Interceptor.Proofs.StatsRtt
set_option linter.unusedVariables false
namespace Interceptor.Stats
open Interceptor.Stats.Spec Interceptor.F64

/-- ★ T1 `counters_eq_recount`: for every history (any interleaving of binds, incoming/outgoing
RTP on any stream with any header SSRC, incoming/outgoing compound RTCP packets of any
composition and order, close) and every SSRC `s`: `Get(s)` is nil exactly when the recount says
there is no recorder, and otherwise *every* additive counter (packets / bytes / header bytes
received and sent, NACK / PLI / FIR in each direction, sender reports received) equals the
recount over the window in which the recorder of `s` was active. -/
theorem counters_eq_recount (s : Nat) (evs : List Event) :
    ((Icpt.run evs).get s).map countersOf = recount s evs :=
  get_map_window s countersOf (recountW s) (fold_counters_init s) evs

/-- non-vacuity: two streams, a compound packet with an XR in front of a NACK. -/
example : ((Icpt.run [.bind 1 90000, .bind 2 8000, .rtpOut 1 ⟨1, 7, 0, 12, 100⟩,
      .rtcpIn 0 [.xr 9 [], .nack 9 1, .pli 9 2]]).get 1).map countersOf
    = some { inPR := 0, inHB := 0, inB := 0, inFIR := 0, inPLI := 0, inNACK := 0, outPS := 1, outBS := 112,
             outHB := 12, outNACK := 1, outFIR := 0, outPLI := 0, roReports := 0 } := by
  rw [counters_eq_recount]; decide

/-- T1 on the code *before* `fix: stats: keep processing a compound RTCP packet after an
ExtendedReport` is false (F-29): `[XR, NACK]` counts no NACK. -/
theorem counters_eq_recount_unfixed_false :
    ¬ (∀ (s : Nat) (rate : Rat) (now : Int) (pkts : List Rtcp),
        countersOf (recordIncomingRTCPUnfixed s rate {} pkts now) = recountW s [.rtcpIn now pkts]) := by
  intro h
  have := congrArg Counters.outNACK (h 1 90000 0 [.xr 1 [], .nack 2 1])
  revert this
  decide

/-- ★ T2 `per_ssrc_isolation`: the statistics of `s` are a function of the sub-history that
concerns `s` alone — erasing every RTP packet that travels on another stream or carries
another SSRC, every binding of another stream, every incoming RTCP packet whose destinations
do not include `s` and every outgoing FIR/PLI/NACK/SR/RR/other packet that does not name `s`
(from inside whichever compound packets they sit in) changes nothing. -/
theorem per_ssrc_isolation (s : Nat) (evs : List Event) :
    (Icpt.run evs).get s = (Icpt.run (restrict s evs)).get s := by
  unfold Icpt.get
  rw [find_run, find_run, foldl_proj_restrict s evs none (fun r hr => by cases hr)]

/-- non-vacuity: the restriction really erases foreign traffic. -/
example : restrict 1 [.bind 1 90000, .bind 2 8000, .rtpOut 2 ⟨2, 7, 0, 12, 100⟩, .rtpOut 1 ⟨2, 7, 0, 12, 100⟩,
      .rtcpIn 0 [.nack 9 2, .nack 9 1, .xr 2 [.dlrr [⟨2, 5, 5⟩]]], .rtcpOut [.pli 1 2, .rr 1 []]]
    = [.bind 1 90000, .rtcpIn 0 [.nack 9 1], .rtcpOut []] := by decide

/-- ★ T3 `lost_formula`: `PacketsLost` of the inbound stream is expected − received over the
unwrapped sequence numbers of the packets received on stream `s` (with SSRC `s`), in arrival
order: `(highest − first + 1) − count`, `highest` being the running maximum (from 0: unwrapped
numbers are non-negative, C20 `unwrap_nonneg`), `first` the first one; 0 before any packet. -/
theorem lost_formula (s : Nat) (evs : List Event) :
    ((Icpt.run evs).get s).map (·.inLost) = (window s evs).map fun w => lostOf (unwrapped s w) :=
  get_map_window s (·.inLost) (fun w => lostOf (unwrapped s w)) (fold_lost s) evs

/-- non-vacuity: wrap-around with one packet missing and one duplicate: 65534, 0, 0 → expected 3,
received 3 → lost 0; then 2 → expected 5, received 4 → lost 1. -/
example : ((Icpt.run [.bind 1 90000, .rtpIn 0 1 ⟨1, 65534, 0, 12, 12⟩, .rtpIn 0 1 ⟨1, 0, 0, 12, 12⟩,
      .rtpIn 0 1 ⟨1, 0, 0, 12, 12⟩, .rtpIn 0 1 ⟨1, 2, 0, 12, 12⟩]).get 1).map (·.inLost) = some 1 := by
  rw [lost_formula]; decide

/-- ★ T4 `remote_from_latest_matching_report`: the remote-inbound loss figures (`PacketsLost`,
`Jitter`, `FractionLost`) are those of the most recent reception report block about `s` among
all incoming SR/RR packets (anywhere in any compound packet), by the WebRTC-stats formulas
`TotalLost`, `jitter / clockRate`, `fractionLost / 256` in exact binary64 arithmetic; all zero
if there is none.  The clock rate is that of the first binding of `s`. -/
theorem remote_from_latest_matching_report (s : Nat) (evs : List Event) :
    ((Icpt.run evs).get s).map remoteLossOf
      = (activation s evs).map fun a => remoteOf (ofInt (a.1 : Int)) (reportsFor s a.2).getLast? :=
  get_map_activation s remoteLossOf (fun rate w => remoteOf rate (reportsFor s w).getLast?) (fold_remote_init s) evs

/-- non-vacuity: the later block (inside an SR behind an XR) wins over the earlier RR. -/
example : (reportsFor 1 [.rtcpIn 0 [.rr 9 [⟨1, 10, 3, 0, 90, 0, 0⟩, ⟨2, 0, 0, 0, 0, 0, 0⟩]],
      .rtcpIn 5 [.xr 9 [], .sr 9 0 0 0 [⟨1, 128, 4, 0, 180, 0, 0⟩]]]).getLast?
    = some ⟨1, 128, 4, 0, 180, 0, 0⟩ := by decide

/-- T4, round-trip time, one report block: when a report block about `s` with non-zero LSR and
DLSR is processed and the search over the remembered sender reports (most recent first, at most
5) finds the NTP time `v` whose middle 32 bits are the LSR, then
`RoundTripTime = now − DLSR/65536 s − ToTime(v)` (binary64 / int64 exactly as the code computes
it), the measurement count goes up by one and the total by that RTT (int64 wrap-around).  The
history-level statement is `rtt_from_latest_matching_report` below. -/
theorem rtt_from_lsr_dlsr_step (s : Nat) (rate : Rat) (now : Int) (st : IStats) (r : Report) (v : Nat)
    (hs : r.ssrc = s) (hd : r.dlsr ≠ 0) (hl : r.lsr ≠ 0)
    (hf : (searchOrder st.lastSRs).find? (midMatches r.lsr) = some v) :
    (rrStep s rate now st r).riRTT = rttOf now r.dlsr v ∧
    (rrStep s rate now st r).riN = st.riN + 1 ∧
    (rrStep s rate now st r).riTotRTT = wrap64 (st.riTotRTT + rttOf now r.dlsr v) := by
  rw [rrStep_eq s rate now st r hs, hitsAt_hit now st.lastSRs r v hd hl hf]
  exact ⟨rfl, rfl, rfl⟩

/-- ★ the memory the RTT search runs over is itself a recount: at any moment the recorder of `s`
remembers exactly the last five NTP times of the sender reports sent that name `s`, and the
last five receiver-reference times sent (any XR), oldest first. -/
theorem sr_memory_eq_recount (s : Nat) (evs : List Event) :
    ((Icpt.run evs).get s).map (fun st => (st.lastSRs, st.lastRRTs))
      = (window s evs).map fun w => (lastN 5 (srTimes s w), lastN 5 (rrtrTimes w)) :=
  get_map_window s _ _ (fun rate w => Prod.ext (fold_mem_init s rate w).1 (fold_mem_init s rate w).2) evs

/-- T4, round-trip time right after a report (corollary form): after any active window `w`, a
receiver report carrying a block about `s` whose LSR is found, most recent first, among the
last five sender reports sent for `s` in `w` gives `RoundTripTime = now − DLSR − ToTime(that SR)`. -/
theorem rtt_after_report (s : Nat) (rate : Rat) (w : List Event) (now : Int) (x : Nat) (r : Report) (v : Nat)
    (hs : r.ssrc = s) (hd : r.dlsr ≠ 0) (hl : r.lsr ≠ 0)
    (hf : (searchOrder (lastN 5 (srTimes s w))).find? (midMatches r.lsr) = some v) :
    ((w ++ [Event.rtcpIn now [Rtcp.rr x [r]]]).foldl (recStep s rate) {}).riRTT = rttOf now r.dlsr v := by
  rw [List.foldl_append]
  have hm := (fold_mem_init s rate w).1
  have hc : (Rtcp.rr x [r]).dest.contains s = true := by simp [Rtcp.dest, hs]
  simp only [List.foldl_cons, List.foldl_nil, recStep, recordIncomingRTCP]
  rw [inStep_hit _ _ _ _ _ hc]
  simp only [inSwitch, recordIncomingRR, List.foldl_cons, List.foldl_nil]
  exact (rtt_from_lsr_dlsr_step s rate now _ r v hs hd hl (by rw [hm]; exact hf)).1

/-- non-vacuity of the hypotheses of `rtt_after_report`: six SRs sent, the LSR of the
second (the oldest still remembered) is found; that of the first is not. -/
example : (searchOrder (lastN 5 (srTimes 1 [.rtcpOut [.sr 1 (10 * 65536) 0 0 [], .sr 1 (20 * 65536) 0 0 []],
      .rtcpOut [.sr 1 (30 * 65536) 0 0 [], .sr 2 (35 * 65536) 0 0 [], .sr 2 (40 * 65536) 0 0 [⟨1, 0, 0, 0, 0, 0, 0⟩]],
      .rtcpOut [.sr 1 (50 * 65536) 0 0 [], .sr 1 (60 * 65536) 0 0 []]]))).find? (midMatches 20) = some (20 * 65536)
    ∧ (searchOrder (lastN 5 (srTimes 1 [.rtcpOut [.sr 1 (10 * 65536) 0 0 [], .sr 1 (20 * 65536) 0 0 []],
      .rtcpOut [.sr 1 (30 * 65536) 0 0 [], .sr 2 (35 * 65536) 0 0 [], .sr 2 (40 * 65536) 0 0 [⟨1, 0, 0, 0, 0, 0, 0⟩]],
      .rtcpOut [.sr 1 (50 * 65536) 0 0 [], .sr 1 (60 * 65536) 0 0 []]]))).find? (midMatches 10) = none := by
  decide

/-- … and no measurement is recorded when LSR or DLSR is zero or no remembered SR matches. -/
theorem rtt_unchanged_without_match (s : Nat) (rate : Rat) (now : Int) (st : IStats) (r : Report)
    (h : r.dlsr = 0 ∨ r.lsr = 0 ∨ (searchOrder st.lastSRs).find? (midMatches r.lsr) = none) :
    (rrStep s rate now st r).riRTT = st.riRTT ∧ (rrStep s rate now st r).riN = st.riN ∧
    (rrStep s rate now st r).riTotRTT = st.riTotRTT := by
  by_cases hs : r.ssrc = s
  · rw [rrStep_eq s rate now st r hs, hitsAt_miss now st.lastSRs r h]
    exact ⟨rfl, rfl, rfl⟩
  · rw [rrStep_skip s rate now st r hs]
    exact ⟨rfl, rfl, rfl⟩

/-- non-vacuity of the RTT formula: SR sent at NTP second 3155673600 (2000-01-01), report
processed 1.5 s later with DLSR = 0.5 s: round-trip time exactly one second. -/
example : (rrStep 1 90000 946684801500000000 { lastSRs := [3155673600 * 4294967296] }
      ⟨1, 0, 0, 0, 0, 3155673600 * 65536 % 4294967296, 32768⟩).riRTT = 1000000000 := by
  decide +kernel

/-- T4, remote `PacketsReceived`, per report block: once a packet has been sent,
`PacketsReceived = max (extended highest − first sent + 1 − TotalLost, 0)`. -/
theorem remote_packets_received_formula (s : Nat) (rate : Rat) (now : Int) (st : IStats) (r : Report)
    (hs : r.ssrc = s) (hi : st.remFirstInit = true) (hlsn : r.lsn < 4294967296) :
    (rrStep s rate now st r).riPR = (max ((r.lsn : Int) - st.remFirst + 1 - (r.tl : Int)) 0).toNat := by
  have : (r.lsn / 65536 % 65536 * 65536 + r.lsn % 65536 : Nat) = r.lsn := by omega
  rw [rrStep_eq s rate now st r hs]
  simp only [hi, if_true, this]

/-- T4, DLRR, one remembered time: each remembered receiver-reference time whose middle 32 bits
equal `LastRR` yields one measurement `now − DLRR/65536 s − ToTime(v)` (history level:
`dlrr_rtt_from_history`). -/
theorem rtt_from_dlrr_step (now : Int) (dlrr lrr : Nat) (st : IStats) (v : Nat) (h : midMatches lrr v = true) :
    (dlrrHit now dlrr lrr st v).roRTT = rttOf now dlrr v ∧ (dlrrHit now dlrr lrr st v).roN = st.roN + 1 ∧
    (dlrrHit now dlrr lrr st v).roTotRTT = wrap64 (st.roTotRTT + rttOf now dlrr v) := by
  unfold dlrrHit rttOf
  simp [h]

/-- ★ T4 `rtt_from_latest_matching_report`, round-trip time at history level: at every query
`RoundTripTime`, `TotalRoundTripTime` and `RoundTripTimeMeasurements` of the remote-inbound
stream are the last element, the (int64) sum and the number of `rttHits s w` — the list, in
arrival order, over every incoming compound packet of the window, of `now − DLSR − ToTime(SR)`
for each report block about `s` (in SR or RR, anywhere in the compound) with non-zero LSR and
DLSR whose LSR is found, most recent first, among the last five sender reports that had been
*sent for `s` before that packet*.  So a `RoundTripTime` seen later stems from the most recent
such block, judged against the sender reports sent before it; 0 if there never was one. -/
theorem rtt_from_latest_matching_report (s : Nat) (evs : List Event) :
    ((Icpt.run evs).get s).map remoteInboundRtt = (window s evs).map fun w => rttFiguresOf (rttHits s w) :=
  get_map_window s remoteInboundRtt (fun w => rttFiguresOf (rttHits s w)) (fold_rtt_init s) evs

/-- non-vacuity: SR sent, a first report misses (LSR of nothing sent), a second one hits, later
traffic (another SR out, a report with DLSR = 0) leaves the value alone: one measurement. -/
example : rttFiguresOf (rttHits 1 [.rtcpOut [.sr 1 (3155673600 * 4294967296) 0 0 []],
      .rtcpIn 946684801000000000 [.rr 9 [⟨1, 0, 0, 0, 0, 77, 65536⟩]],
      .rtcpIn 946684801500000000 [.xr 9 [], .rr 9 [⟨2, 0, 0, 0, 0, 0, 0⟩, ⟨1, 0, 0, 0, 0, 3155673600 * 65536 % 4294967296, 32768⟩]],
      .rtcpOut [.sr 1 (3155673700 * 4294967296) 0 0 []],
      .rtcpIn 946684809000000000 [.rr 9 [⟨1, 0, 0, 0, 0, 3155673700 * 65536 % 4294967296, 0⟩]]])
    = { rtt := 1000000000, total := 1000000000, n := 1 } := by
  decide +kernel

/-- ★ T4, DLRR at history level: `RoundTripTime`, total and count of the remote-outbound stream
are the last element, the sum and the number of `dlrrHits s w`: for every incoming XR, every DLRR
sub-report about `s` with non-zero LastRR and DLRR, every one of the last five
receiver-reference times sent before that packet whose middle bits equal LastRR (most recent
first; the code does not stop at the first) yields `now − DLRR − ToTime(that time)`. -/
theorem dlrr_rtt_from_history (s : Nat) (evs : List Event) :
    ((Icpt.run evs).get s).map remoteOutboundRtt = (window s evs).map fun w => rttFiguresOf (dlrrHits s w) :=
  get_map_window s remoteOutboundRtt (fun w => rttFiguresOf (dlrrHits s w)) (fold_ro_init s) evs

/-- non-vacuity: the same reference time sent twice is matched twice by one sub-report. -/
example : (rttFiguresOf (dlrrHits 1 [.rtcpOut [.xr 1 [.rrtr (3155673600 * 4294967296)], .xr 1 [.rrtr (3155673600 * 4294967296)]],
      .rtcpIn 946684801500000000 [.xr 9 [.dlrr [⟨2, 5, 5⟩, ⟨1, 3155673600 * 65536 % 4294967296, 32768⟩]]]])).n = 2 := by
  decide +kernel

/-- ★ FIR addressing (F-34, fixed): in both directions a FIR is addressed to `s` iff one of its
FCI entries names `s` (RFC 5104 §4.3.1: the media-source field of the header is unused and
SHALL be 0) — the recount `counters_eq_recount` uses for incoming FIR is the same predicate as
for outgoing FIR — … -/
theorem fir_in_addressing_rfc5104 (s : Nat) (p : Rtcp) : isFirInFor s p = isFirOutFor s p := by
  cases p <;> rfl

/-- … and the recorder counts an incoming FIR with an FCI entry for `s` whatever its header says. -/
theorem fir_in_counted_per_fci_entry (s : Nat) (rate : Rat) (now : Int) (st : IStats) (sender media : Nat)
    (es : List Nat) (h : s ∈ es) :
    (inStep s rate now st (.fir sender media es)).outFIR = st.outFIR + 1 := by
  have hc : (Rtcp.fir sender media es).dest.contains s = true := by simpa [Rtcp.dest] using h
  rw [inStep_hit _ _ _ _ _ hc]
  rfl

/-- non-vacuity: a compliant FIR (media SSRC 0) inside a compound packet. -/
example : ((Icpt.run [.bind 1 90000, .rtcpIn 0 [.xr 9 [], .fir 9 0 [2, 1]]]).get 1).map (·.outFIR) = some 1 := by
  decide

/-- On the code *before* `fix: stats: count an incoming FIR for the stream named in its FCI entries` the FIR case
of the switch (`firInUnfixed`, reached when an FCI entry names `s`) does not always count (F-34): media SSRC 0, FCI
entry for stream 1 — not counted. -/
theorem fir_in_counted_unfixed_false :
    ¬ (∀ (s : Nat) (st : IStats) (media : Nat), (firInUnfixed s st media).outFIR = st.outFIR + 1) := by
  intro h
  have := h 1 {} 0
  revert this
  decide

end Interceptor.Stats
