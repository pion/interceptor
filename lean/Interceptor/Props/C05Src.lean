/-
C05 (arrival map, design theorem T6 `map_refines`) — restated on the code itself: on the Lean definitions
that extract/fn.go regenerates from pkg/twcc/arrival_time_map.go on every run (Gen/Fn_twcc.lean):
`AddPacket`, `RemoveOldPackets`, `FindNextAtOrAfter`, `HasReceived`, observed through the generated `get`.
Each statement follows from the model theorem (Props/C05.lean `map_refines`, i.e.
`ArrivalMap.addPacket_spec` / `addPacket_first` / `removeOld_spec`, and `findLoop_spec` of Proofs/TwccBuild.lean)
and the source-equals-model theorems of Facts/FnTwccMap.lean / Facts/FnTwcc.lean.  No ★ statement mentions the
hand-written model `Twcc.ArrivalMap` (`absM` is a proof device): the only hypothesis on the state is the SOURCE-level invariant
`FnTwccMap.Inv g` (|begin|, |end| ≤ 2^62, begin ≤ end, end − begin ≤ capacity, capacity 0 or a power of two
in [128, 32768]), which the zero value `&packetArrivalTimeMap{}` establishes (`inv_init`) and every mutator
preserves (the `Inv g'` conjunct of each step theorem; `srcRun_inv` chains them over arbitrary operation
lists) — so the step theorems hold in every state the code can reach.

Hypotheses on the arguments: sequence numbers |sn| < 2^62 for `AddPacket` (they are unwrapped 16-bit numbers;
the Go code computes `end − sn`, `sn + 1` in int64), any int64 for the others; arrival times unconstrained.
Every theorem about a function with loops gives a fuel bound: `∃ n, ∀ fuel ≥ n, … = some …` (termination).
-/
import Interceptor.Facts.FnTwccMap
import Interceptor.Props.C05
namespace Interceptor.C05Src
open Interceptor Interceptor.Gen.Fn Interceptor.GoSem Interceptor.Twcc
open Interceptor.Facts.FnTwccMap (Rel Inv MInv I64 Pow2 P2 conc findRes)

abbrev G := S_twcc_packetArrivalTimeMap
/-- the generated `get` (the observation all statements are made through). -/
abbrev gget := twcc_packetArrivalTimeMap_get

/-- the model map a Go struct represents (proof device only; no statement mentions it). -/
def absM (g : G) : ArrivalMap :=
  { buf := g.arrivalTimes.toArray, beginSN := g.beginSequenceNumber, endSN := g.endSequenceNumber }

theorem rel_abs (g : G) : Rel g (absM g) := ⟨by simp [absM], rfl, rfl⟩

theorem cap_abs (g : G) : (absM g).cap = g.arrivalTimes.length := by simp [absM, ArrivalMap.cap]

theorem minv_abs (g : G) (hi : Inv g) : MInv (absM g) := (rel_abs g).inv.1 hi

theorem get_abs (g : G) (hi : Inv g) (x : Int) : gget g x = (absM g).get x :=
  Facts.FnTwccMap.get_src_eq_model g _ (rel_abs g) ((rel_abs g).cap_ok hi) x

theorem capOK_of (g : G) (hi : Inv g) (h0 : g.arrivalTimes.length ≠ 0) :
    Facts.FnTwccMap.CapOK (absM g).cap := by
  rw [cap_abs]
  rcases hi.2.2.2.2 with h | h
  · exact absurd h h0
  · exact h

/-- lower end of the window after an accepted `AddPacket sn` (in terms of the Go fields). -/
def newBeginG (g : G) (sn : Int) : Int :=
  if g.beginSequenceNumber ≤ sn ∧ sn < g.endSequenceNumber then g.beginSequenceNumber
  else if sn < g.beginSequenceNumber then sn
  else if sn + 1 ≥ g.endSequenceNumber + 32768 then sn
  else max g.beginSequenceNumber (sn + 1 - 32768)

/-- ★ C05/T6 `map_refines`, first clause, on the code: the generated `AddPacket`, in every state satisfying
the invariant, for every |sn| < 2^62 and every `t`, terminates, preserves the invariant, leaves a capacity
that is a power of two in [128, 32768], and acts on the partial function `get : number ⇀ time` (−1 = absent)
as follows — on the zero-capacity map (first packet ever) the window becomes `[sn, sn+1)` with `sn ↦ t`;
otherwise the call is ignored (state unchanged) iff `sn` lies more than 2^15 below the end; otherwise the window
becomes `[newBegin, max end (sn+1))`, `sn ↦ t`, every other number inside the new window keeps its entry
(numbers in a gap read "absent") and everything outside reads "absent" — across every reallocation. -/
theorem addPacket_src (g : G) (hi : Inv g) (sn t : Int)
    (hsn : -4611686018427387904 < sn ∧ sn < 4611686018427387904) :
    ∃ n, ∀ fuel, n ≤ fuel → ∃ g', twcc_packetArrivalTimeMap_AddPacket fuel g sn t = some g' ∧
      Inv g' ∧ Facts.FnTwccMap.CapOK g'.arrivalTimes.length ∧
      (if g.arrivalTimes.length = 0 then
         g'.beginSequenceNumber = sn ∧ g'.endSequenceNumber = sn + 1 ∧ ∀ x, gget g' x = if x = sn then t else -1
       else if sn < g.beginSequenceNumber ∧ g.endSequenceNumber - sn > 32768 then g' = g
       else g'.beginSequenceNumber = newBeginG g sn ∧ g'.endSequenceNumber = max g.endSequenceNumber (sn + 1) ∧
         ∀ x, gget g' x =
           if x = sn then t
           else if newBeginG g sn ≤ x ∧ x < max g.endSequenceNumber (sn + 1) then gget g x else -1) := by
  obtain ⟨n, h⟩ := Facts.FnTwccMap.addPacket_src_eq_model g (absM g) (rel_abs g) hi sn t hsn
  refine ⟨n, fun fuel hf => ?_⟩
  obtain ⟨g', e, r', i', c'⟩ := h fuel hf
  refine ⟨g', e, i', c', ?_⟩
  have hg' : ∀ x, gget g' x = ((absM g).addPacket sn t).get x := fun x =>
    Facts.FnTwccMap.get_src_eq_model g' _ r' (r'.cap_ok i') x
  have hm := minv_abs g hi
  by_cases h0 : g.arrivalTimes.length = 0
  · rw [if_pos h0]
    have hc0 : (absM g).cap = 0 := by rw [cap_abs]; exact h0
    have hbe : (absM g).beginSN = (absM g).endSN := by
      obtain ⟨_, a, _, b, _⟩ := hm
      rw [hc0] at b
      omega
    obtain ⟨_, f1, f2, f3⟩ := ArrivalMap.addPacket_first (absM g) hc0 sn t
    exact ⟨by rw [r'.2.1]; exact f1, by rw [r'.2.2]; exact f2, fun x => by rw [hg' x]; exact f3 x⟩
  · rw [if_neg h0]
    have hwf := hm.wf (capOK_of g hi h0)
    obtain ⟨_, sp⟩ := ArrivalMap.addPacket_spec (absM g) hwf sn t
    by_cases hig : sn < g.beginSequenceNumber ∧ g.endSequenceNumber - sn > 32768
    · rw [if_pos hig]
      rw [if_pos (show sn < (absM g).beginSN ∧ (absM g).endSN - sn > 32768 from hig)] at sp
      rw [sp] at r'
      rw [r'.eq, ← (rel_abs g).eq]
    · rw [if_neg hig]
      rw [if_neg (show ¬ (sn < (absM g).beginSN ∧ (absM g).endSN - sn > 32768) from hig)] at sp
      obtain ⟨f1, f2, f3⟩ := sp
      refine ⟨by rw [r'.2.1]; exact f1, by rw [r'.2.2]; exact f2, fun x => ?_⟩
      rw [hg' x, f3 x, get_abs g hi x]
      rfl

/-- `RemoveOldPackets` on the zero-capacity map does nothing (model side). -/
theorem removeOld_zero (m : ArrivalMap) (h0 : m.cap = 0) (hbe : m.beginSN = m.endSN) (sn limit : Int) :
    m.removeOld sn limit = m := by
  unfold ArrivalMap.removeOld
  have hl : ∀ n, ArrivalMap.removeLoop n m (min sn m.endSN) limit = m := by
    intro n
    cases n with
    | zero => rfl
    | succ n =>
      unfold ArrivalMap.removeLoop
      have : ¬ (m.beginSN < min sn m.endSN ∧ m.get m.beginSN ≤ limit) := by omega
      rw [if_neg this]
  simp only [hl]
  exact Facts.FnTwccMap.adjust_zero m _ h0 (by omega)

/-- ★ C05/T6 `map_refines`, second clause, on the code: the generated `RemoveOldPackets`, in every state
satisfying the invariant, for every int64 `sn` and `limit`, terminates, preserves the invariant, keeps `end`,
and only drops a prefix of the window: `begin` moves up to at most `min sn end`, past entries that are absent or
`≤ limit` only, stopping at the first younger one; every number from the new `begin` on keeps its entry, and
everything below reads "absent". -/
theorem removeOldPackets_src (g : G) (hi : Inv g) (sn limit : Int) (hsn : I64 sn) :
    ∃ n, ∀ fuel, n ≤ fuel → ∃ g', twcc_packetArrivalTimeMap_RemoveOldPackets fuel g sn limit = some g' ∧
      Inv g' ∧ g'.endSequenceNumber = g.endSequenceNumber ∧
      g.beginSequenceNumber ≤ g'.beginSequenceNumber ∧
      g'.beginSequenceNumber ≤ max g.beginSequenceNumber (min sn g.endSequenceNumber) ∧
      (∀ x, gget g' x = if g'.beginSequenceNumber ≤ x then gget g x else -1) ∧
      (∀ x, g.beginSequenceNumber ≤ x → x < g'.beginSequenceNumber → gget g x ≤ limit) ∧
      (g'.beginSequenceNumber < min sn g.endSequenceNumber → gget g g'.beginSequenceNumber > limit) := by
  obtain ⟨n, h⟩ := Facts.FnTwccMap.removeOldPackets_src_eq_model g (absM g) (rel_abs g) hi sn limit hsn
  refine ⟨n, fun fuel hf => ?_⟩
  obtain ⟨g', e, r', i'⟩ := h fuel hf
  refine ⟨g', e, i', ?_⟩
  have hg' : ∀ x, gget g' x = ((absM g).removeOld sn limit).get x := fun x =>
    Facts.FnTwccMap.get_src_eq_model g' _ r' (r'.cap_ok i') x
  have hm := minv_abs g hi
  have hb' : g'.beginSequenceNumber = ((absM g).removeOld sn limit).beginSN := r'.2.1
  have he' : g'.endSequenceNumber = ((absM g).removeOld sn limit).endSN := r'.2.2
  by_cases h0 : g.arrivalTimes.length = 0
  · have hc0 : (absM g).cap = 0 := by rw [cap_abs]; exact h0
    have hbe : g.beginSequenceNumber = g.endSequenceNumber := by
      obtain ⟨_, a, _, b, _⟩ := hm
      rw [hc0] at b
      have a' : g.beginSequenceNumber ≤ g.endSequenceNumber := a
      have b' : g.endSequenceNumber - g.beginSequenceNumber ≤ ((0 : Nat) : Int) := b
      omega
    rw [removeOld_zero (absM g) hc0 hbe sn limit] at hb' he' hg'
    have hb'' : g'.beginSequenceNumber = g.beginSequenceNumber := hb'
    have he'' : g'.endSequenceNumber = g.endSequenceNumber := he'
    have hout : ∀ x, (absM g).get x = -1 := by
      intro x
      rw [ArrivalMap.get_def]
      have : x < (absM g).beginSN ∨ x ≥ (absM g).endSN := by
        show x < g.beginSequenceNumber ∨ x ≥ g.endSequenceNumber
        omega
      rw [if_pos this]
    refine ⟨he'', by omega, by omega, fun x => ?_, fun x a b => by omega, fun a => by omega⟩
    rw [hg' x, get_abs g hi x, hout x]
    split <;> rfl
  · have hwf := hm.wf (capOK_of g hi h0)
    obtain ⟨_, f1, f2, f3, f4, f5, f6⟩ := ArrivalMap.removeOld_spec (absM g) hwf sn limit
    rw [hb', he']
    refine ⟨f1, f2, f3, fun x => ?_, fun x a b => ?_, fun a => ?_⟩
    · rw [hg' x, f4 x, get_abs g hi x]
    · rw [get_abs g hi x]; exact f5 x a b
    · rw [get_abs g hi]; exact f6 a

/-- ★ C05, `FindNextAtOrAfter` on the code: in every state satisfying the invariant, for every int64 `sn`, the
generated function terminates and returns either `(x, t, true)` where `x` is the first number at or after
`Clamp(sn)` and below `end` whose entry is present (`t = get x ≥ 0`, everything in between reads absent), or
`(−1, −1, false)` when every number from `Clamp(sn)` to `end` reads absent. -/
theorem findNextAtOrAfter_src (g : G) (hi : Inv g) (sn : Int) (hsn : I64 sn) :
    ∃ n, ∀ fuel, n ≤ fuel → ∃ x t ok, twcc_packetArrivalTimeMap_FindNextAtOrAfter fuel g sn = some (x, t, ok) ∧
      (ok = true → twcc_packetArrivalTimeMap_Clamp g sn ≤ x ∧ x < g.endSequenceNumber ∧ t = gget g x ∧ 0 ≤ t ∧
        ∀ y, twcc_packetArrivalTimeMap_Clamp g sn ≤ y → y < x → gget g y < 0) ∧
      (ok = false → x = -1 ∧ t = -1 ∧
        ∀ y, twcc_packetArrivalTimeMap_Clamp g sn ≤ y → y < g.endSequenceNumber → gget g y < 0) := by
  have hm := minv_abs g hi
  have hB : I64 (absM g).beginSN := by obtain ⟨a, b, c, _⟩ := hm; unfold I64; omega
  have hE : I64 (absM g).endSN := by obtain ⟨a, b, c, _⟩ := hm; unfold I64; omega
  obtain ⟨n, h⟩ := Facts.FnTwccMap.findNextAtOrAfter_src_eq_model g (absM g) (rel_abs g)
    ((rel_abs g).cap_ok hi) hB hE sn hsn
  refine ⟨n, fun fuel hf => ?_⟩
  have e := h fuel hf
  have hcl : twcc_packetArrivalTimeMap_Clamp g sn = (absM g).clamp sn :=
    Facts.FnTwcc.clamp_src_eq_model g (absM g) rfl rfl sn
  have hsp := findLoop_spec (absM g) ((absM g).endSN - (absM g).clamp sn).toNat ((absM g).clamp sn) (by omega)
  have hfn : (absM g).findNext sn
      = ArrivalMap.findLoop (absM g) ((absM g).endSN - (absM g).clamp sn).toNat ((absM g).clamp sn) := rfl
  rw [← hfn] at hsp
  cases hr : (absM g).findNext sn with
  | none =>
    rw [hr] at hsp e
    refine ⟨-1, -1, false, e, fun h => (by cases h), fun _ => ⟨rfl, rfl, fun y a b => ?_⟩⟩
    rw [get_abs g hi y]
    exact hsp y (by rw [← hcl]; exact a) b
  | some p =>
    obtain ⟨x, t⟩ := p
    rw [hr] at hsp e
    obtain ⟨a1, a2, a3, a4, a5⟩ := hsp
    refine ⟨x, t, true, e, fun _ => ⟨by rw [hcl]; exact a1, a2, by rw [get_abs g hi x]; exact a3, a4, fun y a b => ?_⟩,
      fun h => (by cases h)⟩
    rw [get_abs g hi y]
    exact a5 y (by rw [← hcl]; exact a) b

/-- ★ C05, `HasReceived` on the code: it is "`get` is present", hence after an accepted `AddPacket sn t` with a
real arrival time (`t ≥ 0`) the generated `HasReceived sn` is true, and for every other number of the new window
it is what it was before. -/
theorem hasReceived_src (g : G) (hi : Inv g) (sn t : Int)
    (hsn : -4611686018427387904 < sn ∧ sn < 4611686018427387904) (ht : 0 ≤ t)
    (hacc : ¬ (g.arrivalTimes.length ≠ 0 ∧ sn < g.beginSequenceNumber ∧ g.endSequenceNumber - sn > 32768)) :
    ∃ n, ∀ fuel, n ≤ fuel → ∃ g', twcc_packetArrivalTimeMap_AddPacket fuel g sn t = some g' ∧
      twcc_packetArrivalTimeMap_HasReceived g' sn = true ∧
      (g.arrivalTimes.length ≠ 0 → ∀ x, x ≠ sn → newBeginG g sn ≤ x → x < max g.endSequenceNumber (sn + 1) →
        twcc_packetArrivalTimeMap_HasReceived g' x = twcc_packetArrivalTimeMap_HasReceived g x) := by
  obtain ⟨n, h⟩ := addPacket_src g hi sn t hsn
  refine ⟨n, fun fuel hf => ?_⟩
  obtain ⟨g', e, _, _, sp⟩ := h fuel hf
  refine ⟨g', e, ?_, ?_⟩
  · unfold twcc_packetArrivalTimeMap_HasReceived
    by_cases h0 : g.arrivalTimes.length = 0
    · rw [if_pos h0] at sp
      have := sp.2.2 sn
      rw [if_pos rfl] at this
      show decide (gget g' sn ≥ 0) = true
      rw [this]; exact decide_eq_true ht
    · rw [if_neg h0, if_neg (fun hh => hacc ⟨h0, hh⟩)] at sp
      have := sp.2.2 sn
      rw [if_pos rfl] at this
      show decide (gget g' sn ≥ 0) = true
      rw [this]; exact decide_eq_true ht
  · intro h0 x hx h1 h2
    rw [if_neg h0, if_neg (fun hh => hacc ⟨h0, hh⟩)] at sp
    have := sp.2.2 x
    rw [if_neg hx, if_pos ⟨h1, h2⟩] at this
    unfold twcc_packetArrivalTimeMap_HasReceived
    show decide (gget g' x ≥ 0) = decide (gget g x ≥ 0)
    rw [this]

/-! ## chaining: the invariant (and with it the capacity bound C12 uses) over arbitrary operation lists -/

inductive Op where
  | add (sn t : Int)
  | remove (sn limit : Int)
  | erase (sn : Int)

/-- the arguments are in the ranges the step theorems need. -/
def Op.ok : Op → Prop
  | .add sn _ => -4611686018427387904 < sn ∧ sn < 4611686018427387904
  | .remove sn _ => I64 sn
  | .erase _ => True

def srcStep (fuel : Nat) (g : G) : Op → Option G
  | .add sn t => twcc_packetArrivalTimeMap_AddPacket fuel g sn t
  | .remove sn limit => twcc_packetArrivalTimeMap_RemoveOldPackets fuel g sn limit
  | .erase sn => twcc_packetArrivalTimeMap_EraseTo fuel g sn

def srcRun (fuel : Nat) : G → List Op → Option G
  | g, [] => some g
  | g, op :: ops => match srcStep fuel g op with
    | none => none
    | some g' => srcRun fuel g' ops

/-- a result that represents the same model map for every sufficient fuel does not depend on the fuel. -/
theorem fuel_indep {f : Nat → Option G} {M : ArrivalMap} {n : Nat}
    (h : ∀ fuel, n ≤ fuel → ∃ g', f fuel = some g' ∧ Rel g' M ∧ Inv g') :
    ∃ n g', Inv g' ∧ ∀ fuel, n ≤ fuel → f fuel = some g' := by
  obtain ⟨g0, _, r0, i0⟩ := h n (Nat.le_refl _)
  refine ⟨n, g0, i0, fun fuel hf => ?_⟩
  obtain ⟨g', e, r', _⟩ := h fuel hf
  rw [e, r'.eq, r0.eq]

/-- one generated mutator call from a state satisfying the invariant terminates in such a state, and the
result does not depend on the fuel (beyond the bound). -/
theorem srcStep_inv (g : G) (hi : Inv g) (op : Op) (hok : op.ok) :
    ∃ n g', Inv g' ∧ ∀ fuel, n ≤ fuel → srcStep fuel g op = some g' := by
  cases op with
  | add sn t =>
    obtain ⟨n, h⟩ := Facts.FnTwccMap.addPacket_src_eq_model g (absM g) (rel_abs g) hi sn t hok
    exact fuel_indep (f := fun fuel => srcStep fuel g (.add sn t)) fun fuel hf =>
      let ⟨g', e, r, i, _⟩ := h fuel hf
      ⟨g', e, r, i⟩
  | remove sn limit =>
    obtain ⟨n, h⟩ := Facts.FnTwccMap.removeOldPackets_src_eq_model g (absM g) (rel_abs g) hi sn limit hok
    exact fuel_indep (f := fun fuel => srcStep fuel g (.remove sn limit)) h
  | erase sn =>
    obtain ⟨n, h⟩ := Facts.FnTwccMap.eraseTo_src_eq_model g (absM g) (rel_abs g) hi sn
    exact fuel_indep (f := fun fuel => srcStep fuel g (.erase sn)) h

/-- the step theorems chain: from any state satisfying the invariant, any list of mutator calls with arguments
in range terminates (one fuel bound for the whole list) in a state satisfying the invariant. -/
theorem srcRun_inv (ops : List Op) (hok : ∀ op ∈ ops, op.ok) :
    ∀ (g : G), Inv g → ∃ n g', Inv g' ∧ ∀ fuel, n ≤ fuel → srcRun fuel g ops = some g' := by
  induction ops with
  | nil => intro g hi; exact ⟨0, g, hi, fun _ _ => rfl⟩
  | cons op ops ih =>
    intro g hi
    obtain ⟨n1, g1, i1, h1⟩ := srcStep_inv g hi op (hok op (by simp))
    obtain ⟨n2, g2, i2, h2⟩ := ih (fun o ho => hok o (by simp [ho])) g1 i1
    refine ⟨max n1 n2, g2, i2, fun fuel hf => ?_⟩
    simp only [srcRun, h1 fuel (by omega), h2 fuel (by omega)]

/-- ★ C05/T6 `map_refines`, third and fourth clause, on the code (the bound C12 uses): from the zero value
`&packetArrivalTimeMap{}` that `NewRecorder` builds, ANY sequence of generated `AddPacket` / `RemoveOldPackets` /
`EraseTo` calls (|sn| < 2^62 for `AddPacket`) terminates, and in the state it reaches the capacity
`len(arrivalTimes)` is 0 or a power of two in [128, 32768], `begin ≤ end`, and the window fits:
`end − begin ≤ capacity ≤ 32768`. -/
theorem capacity_bound_src (ops : List Op) (hok : ∀ op ∈ ops, op.ok) :
    ∃ n g', (∀ fuel, n ≤ fuel → srcRun fuel {} ops = some g') ∧
      (g'.arrivalTimes.length = 0 ∨
        ((∃ k, g'.arrivalTimes.length = 2 ^ k) ∧ 128 ≤ g'.arrivalTimes.length ∧ g'.arrivalTimes.length ≤ 32768)) ∧
      g'.beginSequenceNumber ≤ g'.endSequenceNumber ∧
      g'.endSequenceNumber - g'.beginSequenceNumber ≤ (g'.arrivalTimes.length : Int) ∧
      g'.endSequenceNumber - g'.beginSequenceNumber ≤ 32768 := by
  obtain ⟨n, g', i', h⟩ := srcRun_inv ops hok {} Facts.FnTwccMap.inv_init.1
  obtain ⟨a, b, c, d, e⟩ := i'
  refine ⟨n, g', h, e, b, d, ?_⟩
  rcases e with e | ⟨_, _, e⟩ <;> omega

/-- ★ the step theorems hold in every state the code can reach: the state after any operation list from the
zero value satisfies the invariant that `addPacket_src`, `removeOldPackets_src`, `findNextAtOrAfter_src`,
`hasReceived_src` assume. -/
theorem reachable_inv_src (ops : List Op) (hok : ∀ op ∈ ops, op.ok) :
    ∃ n g', (∀ fuel, n ≤ fuel → srcRun fuel {} ops = some g') ∧ Inv g' := by
  obtain ⟨n, g', i', h⟩ := srcRun_inv ops hok {} Facts.FnTwccMap.inv_init.1
  exact ⟨n, g', h, i'⟩


/-! ## non-vacuity: the generated code evaluated on concrete inputs (fuel 300 suffices here) -/

/-- what is observed of a state: begin, end, capacity, and `get` at a few numbers. -/
def obs (g : G) (xs : List Int) : Int × Int × Nat × List Int :=
  (g.beginSequenceNumber, g.endSequenceNumber, g.arrivalTimes.length, xs.map (gget g))

/-- non-vacuity of `addPacket_src`: the first packet (−3, negative sequence number: slot 125), a packet ahead
(gap −2..0 reads absent), a packet far enough ahead to force a reallocation to 256 slots (old entries kept),
and a packet more than 2^15 below the end (ignored). -/
example : (srcRun 300 {} [.add (-3) 1000]).map (obs · [-4, -3, -2]) = some (-3, -2, 128, [-1, 1000, -1]) ∧
    (srcRun 300 {} [.add (-3) 1000, .add 1 2000]).map (obs · [-3, -2, 0, 1, 2])
      = some (-3, 2, 128, [1000, -1, -1, 2000, -1]) ∧
    (srcRun 300 {} [.add (-3) 1000, .add 1 2000, .add 200 3000]).map (obs · [-3, 1, 100, 200])
      = some (-3, 201, 256, [1000, 2000, -1, 3000]) ∧
    (srcRun 300 {} [.add (-3) 1000, .add 1 2000, .add (-40000) 5]).map (obs · [-40000, -3, 1])
      = some (-3, 2, 128, [-1, 1000, 2000]) := by
  refine ⟨?_, ?_, ?_, ?_⟩ <;> decide +kernel

/-- non-vacuity of `removeOldPackets_src`: entries below 1 that are absent or not younger than 1500 are dropped;
with limit 500 the scan stops at −3 (arrival 1000 is younger). -/
example : (srcRun 300 {} [.add (-3) 1000, .add 1 2000, .remove 1 1500]).map (obs · [-3, 0, 1])
      = some (1, 2, 128, [-1, -1, 2000]) ∧
    (srcRun 300 {} [.add (-3) 1000, .add 1 2000, .remove 1 500]).map (obs · [-3, 0, 1])
      = some (-3, 2, 128, [1000, -1, 2000]) := by
  refine ⟨?_, ?_⟩ <;> decide +kernel

/-- non-vacuity of `findNextAtOrAfter_src`: from inside a gap, from below the window (clamped), from the end. -/
example : ((srcRun 300 {} [.add (-3) 1000, .add 1 2000]).bind fun g =>
      twcc_packetArrivalTimeMap_FindNextAtOrAfter 300 g (-2)) = some (1, 2000, true) ∧
    ((srcRun 300 {} [.add (-3) 1000, .add 1 2000]).bind fun g =>
      twcc_packetArrivalTimeMap_FindNextAtOrAfter 300 g (-100)) = some (-3, 1000, true) ∧
    ((srcRun 300 {} [.add (-3) 1000, .add 1 2000]).bind fun g =>
      twcc_packetArrivalTimeMap_FindNextAtOrAfter 300 g 2) = some (-1, -1, false) := by
  refine ⟨?_, ?_, ?_⟩ <;> decide +kernel

/-- non-vacuity of `hasReceived_src`: after `AddPacket 1 2000` number 1 has been received, −3 still has, the gap
−2 and the number 2 beyond the end have not. -/
example : (srcRun 300 {} [.add (-3) 1000, .add 1 2000]).map
      (fun g => [-3, -2, 1, 2].map (twcc_packetArrivalTimeMap_HasReceived g)) = some [true, false, true, false] := by
  decide +kernel

/-- non-vacuity of `capacity_bound_src` / `reachable_inv_src`: the operations are in range, and a jump of
40000 numbers leaves a 128-slot buffer holding only the new packet. -/
example : (∀ op ∈ [Op.add (-3) 1000, .add 1 2000, .remove 1 1500, .erase 0, .add 40000 9], op.ok) ∧
    (srcRun 300 {} [.add (-3) 1000, .add 1 2000, .remove 1 1500, .erase 0, .add 40000 9]).map (obs · [1, 40000])
      = some (40000, 40001, 128, [-1, 9]) := by
  refine ⟨?_, by decide +kernel⟩
  intro op hop
  simp only [List.mem_cons, List.not_mem_nil, or_false] at hop
  rcases hop with rfl | rfl | rfl | rfl | rfl <;> simp [Op.ok, I64]

end Interceptor.C05Src
