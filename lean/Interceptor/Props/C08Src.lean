/-
C08 — the property theorems restated on the code itself: on the Lean definitions that extract/fn.go
regenerates from pkg/rfc8888/stream_log.go on every run (Gen/Fn_rfc8888.lean):
`rfc8888_newStreamLog`, `rfc8888_streamLog_add`, `rfc8888_streamLog_metricsAfter`,
`rfc8888_getArrivalTimeOffset`.  `srcReport ssrc ops ref b` runs the generated `add` / `metricsAfter` over an
arbitrary call list `ops` from the state `newStreamLog(ssrc)` builds (`FnStreamLog.goRun`) and then calls the
generated `metricsAfter(ref, b)` once more: it returns the Go state before that call, the report block the call
returns, and the Go state after it.  Every ★ statement below is about that block and those two states.
`run_block_is_srcReport`: every block a run of the generated code returns is such a block (of the calls before it).
Each statement follows from the model theorem of Props/C08.lean (and, for the "stops at the first gap" half, the
model lemmas `metricsAfter_passed`/`metricsAfter_cursor` of Proofs/Rfc8888.lean) and the source-equals-model theorems of
Facts/FnStreamLog.lean (`add_src_eq_model`, `add_inv`, `metricsAfter_chain`,
`newStreamLog_src_eq_model`, `newStreamLog_inv`), Facts/FnRfc8888.lean (`getATO_src_eq_model`) and
Facts/FnUnwrapper.lean (`unwrap_src_eq_model`, through Props/C20Src `unwrap_mod_nonneg_src`).

No ★ statement mentions the hand-written model `Rfc8888.StreamLog` (only the helpers `run_hist`,
`srcReport_model`, the intermediate compositions, do).  The right-hand sides are the spec notions of
Spec/Rfc8888.lean, the definition of "the true value" in the property itself: `firstArrival h n` (the arrival
record of the FIRST copy of number `n` in the history) and `atoSpec` (⌊1024·age⌋ with the two saturation codes),
over `hist ops`, the event history the calls stand for — the unwrapped sequence numbers in it are the results of
the GENERATED `Unwrap` (Gen/Fn_sequencenumber.lean) on the 16-bit numbers of the `add` calls, in call order.

Hypotheses of every run theorem, all on the call arguments: `Op.ok` for every call (a uint16 sequence number for
`add`; `0 ≤ maxReportBlocks < 2^62` for `metricsAfter` — `Recorder.BuildReport` passes an `int64` in that range
for every `int` maximum size), fewer than 2^46 calls (int64 room for the unwrapper), the same range for the budget
`b` of the final call, and — where the model theorem needs `init = true` — `hasAdd ops` (some `add` call
happened; a streamLog inside a Recorder is created by AddPacket and always has one).  The conclusion
`srcReport … = some …` says that every loop of the generated code terminates with the fuel
`lastSequenceNumberReceived − nextSequenceNumberToReport + 2` (`FnStreamLog.goRun`'s choice).
-/
import Interceptor.Facts.FnStreamLog
import Interceptor.Props.C08
import Interceptor.Props.C20Src
set_option linter.unusedVariables false
namespace Interceptor.C08Src
open Interceptor Interceptor.Gen.Fn Interceptor.GoSem Interceptor.Facts
open Interceptor.Facts.FnStreamLog (Op goRun Rel toGoB toGoM glookup)
open Interceptor.Facts.FnUnwrapper (absU unwrap_src_eq_model)
open Interceptor.Rfc8888 (Ev Entry Metric Block StreamLog firstArrival exec reportAfter NonNeg rangeBegin
  reportedAs atoSpec mkMetric addU lookup)

/-- the events a call list stands for, oldest first: every `add(ts, sn, ecn)` becomes an arrival of the unwrapped
number the GENERATED `Unwrap` returns for `sn` (threading the generated unwrapper state `u`), every `metricsAfter`
a report build. -/
def evs : S_sequencenumber_Unwrapper → List Op → List Ev
  | _, [] => []
  | u, .add ts sn ecn :: ops =>
    Ev.add ts (sequencenumber_Unwrapper_Unwrap u (sn : Int)).1 ecn ::
      evs (sequencenumber_Unwrapper_Unwrap u (sn : Int)).2 ops
  | u, .report ref mb :: ops => Ev.report ref mb :: evs u ops

/-- the history of a call list from a fresh stream log (newest event first, the convention of Spec/Rfc8888). -/
def hist (ops : List Op) : List Ev := (evs {} ops).reverse

def hasAdd (ops : List Op) : Prop := ∃ ts sn ecn, Op.add ts sn ecn ∈ ops

/-- run the generated code over `ops` from `newStreamLog(ssrc)`, then call the generated `metricsAfter(ref, b)`:
(state before the call, returned report block, state after the call). -/
def srcReport (ssrc : Nat) (ops : List Op) (ref b : Int) :
    Option (S_rfc8888_streamLog × S_rtcp_CCFeedbackReportBlock × S_rfc8888_streamLog) :=
  match goRun (rfc8888_newStreamLog (ssrc : Int)) ops with
  | none => none
  | some (g, _) =>
    match rfc8888_streamLog_metricsAfter
        ((g.lastSequenceNumberReceived - g.nextSequenceNumberToReport + 1).toNat + 1) g ref b with
    | none => none
    | some (blk, g') => some (g, blk, g')

/-- first (unwrapped) number of the range a report with budget `b` lists, read off the Go state: the first
not-yet-reported number, or `last − b + 1` when the budget is smaller than the outstanding range. -/
def goBegin (g : S_rfc8888_streamLog) (b : Int) : Int :=
  max g.nextSequenceNumberToReport (g.lastSequenceNumberReceived - b + 1)

/-- how a returned block describes the unwrapped number `n` when its first metric block stands for `beginU`:
`none` when `n` is outside the listed range. -/
def goReportedAs (blk : S_rtcp_CCFeedbackReportBlock) (beginU n : Int) : Option S_rtcp_CCFeedbackMetricBlock :=
  if beginU ≤ n then blk.MetricBlocks[(n - beginU).toNat]? else none

/-- the metric block the property prescribes for a number whose first copy has arrival record `o`
(`none`: never arrived) in a report built at `ref`. -/
def specMetric (ref : Int) : Option Entry → S_rtcp_CCFeedbackMetricBlock
  | some e => { Received := true, ECN := (e.ecn : Int), ArrivalTimeOffset := (atoSpec ref e.arrival : Int) }
  | none => { Received := false, ECN := 0, ArrivalTimeOffset := 0 }

theorem goRun_report_some {g g2 : S_rfc8888_streamLog} {ref mb : Int} {ops : List Op}
    {outs : List S_rtcp_CCFeedbackReportBlock} :
    goRun g (Op.report ref mb :: ops) = some (g2, outs) ↔
    ∃ blk g1 o, rfc8888_streamLog_metricsAfter
        ((g.lastSequenceNumberReceived - g.nextSequenceNumberToReport + 1).toNat + 1) g ref mb = some (blk, g1) ∧
      goRun g1 ops = some (g2, o) ∧ outs = blk :: o := by
  simp only [goRun]
  constructor
  · intro h
    split at h
    · cases h
    · rename_i blk g1 hm
      split at h
      · cases h
      · rename_i g'' bs hr
        cases h
        exact ⟨blk, g1, bs, hm, hr, rfl⟩
  · rintro ⟨blk, g1, o, hm, hr, rfl⟩
    simp only [hm, hr]

theorem goRun_append (a b : List Op) : ∀ {g g2 : S_rfc8888_streamLog} {outs : List S_rtcp_CCFeedbackReportBlock},
    goRun g (a ++ b) = some (g2, outs) ↔
    ∃ g1 o1 o2, goRun g a = some (g1, o1) ∧ goRun g1 b = some (g2, o2) ∧ outs = o1 ++ o2 := by
  induction a with
  | nil =>
    intro g g2 outs
    exact ⟨fun h => ⟨g, [], outs, rfl, h, rfl⟩, fun ⟨g1, o1, o2, h1, h2, e⟩ => by cases h1; rw [e]; exact h2⟩
  | cons o a ih =>
    intro g g2 outs
    cases o with
    | add ts sn ecn => exact ih
    | report ref mb =>
      rw [List.cons_append, goRun_report_some]
      constructor
      · rintro ⟨blk, g', o, hm, hr, rfl⟩
        obtain ⟨g1, o1, o2, h1, h2, rfl⟩ := ih.mp hr
        exact ⟨g1, blk :: o1, o2, goRun_report_some.mpr ⟨blk, g', o1, hm, h1, rfl⟩, h2, rfl⟩
      · rintro ⟨g1, o1, o2, h1, h2, rfl⟩
        obtain ⟨blk, g', o, hm, hr, rfl⟩ := goRun_report_some.mp h1
        exact ⟨blk, g', o ++ o2, hm, ih.mpr ⟨g1, o, o2, hr, h2, rfl⟩, rfl⟩

/-- every report block a run of the generated code returns is a `srcReport` block: the block returned by the
`metricsAfter(ref, b)` call that follows the calls `pre` inside a longer run is the one `srcReport ssrc pre ref b`
describes, at its place in the list of returned blocks — so the ★ theorems below speak about every block of every
run. -/
theorem run_block_is_srcReport (ssrc : Nat) (pre post : List Op) (ref b : Int) (g : S_rfc8888_streamLog)
    (outs : List S_rtcp_CCFeedbackReportBlock)
    (h : goRun (rfc8888_newStreamLog (ssrc : Int)) (pre ++ Op.report ref b :: post) = some (g, outs)) :
    ∃ g0 blk g1 o1 o2, srcReport ssrc pre ref b = some (g0, blk, g1) ∧
      goRun (rfc8888_newStreamLog (ssrc : Int)) pre = some (g0, o1) ∧ goRun g1 post = some (g, o2) ∧
      outs = o1 ++ blk :: o2 := by
  obtain ⟨g0, o1, o, h1, h2, rfl⟩ := (goRun_append pre _).mp h
  obtain ⟨blk, g1, o2, hm, h3, rfl⟩ := goRun_report_some.mp h2
  exact ⟨g0, blk, g1, o1, o2, by unfold srcReport; simp only [h1, hm], h1, h3, rfl⟩

/-- the model state without its unwrapper (`exec` of Spec/Rfc8888 works on unwrapped numbers and never sets it). -/
def strip (l : StreamLog) : StreamLog := { l with seq := none }

theorem strip_metricsAfter (l : StreamLog) (ref b : Int) :
    Rfc8888.metricsAfter (strip l) ref b = (strip (Rfc8888.metricsAfter l ref b).1, (Rfc8888.metricsAfter l ref b).2) := by
  by_cases he : l.log = []
  · rw [Rfc8888.metricsAfter_empty (strip l) ref b he, Rfc8888.metricsAfter_empty l ref b he]; rfl
  · have ht : (Rfc8888.truncate (strip l) b).log = (Rfc8888.truncate l b).log := by
      rw [Rfc8888.truncate_eq, Rfc8888.truncate_eq]; rfl
    rw [Rfc8888.metricsAfter_eq (strip l) ref b he, Rfc8888.metricsAfter_eq l ref b he, ht]; rfl

theorem strip_add (m : StreamLog) (ts : Int) (sn ecn : Nat) :
    strip (Rfc8888.add m ts sn ecn) = addU (strip m) ts (Unwrapper.unwrap m.seq sn).2 ecn := by
  unfold Rfc8888.add
  simp only []
  rw [Rfc8888.addU_eq, Rfc8888.addU_eq]
  rfl

theorem add_sequence (g : S_rfc8888_streamLog) (ts sn ecn : Int) :
    (rfc8888_streamLog_add g ts sn ecn).sequence = (sequencenumber_Unwrapper_Unwrap g.sequence sn).2 := by
  rw [FnStreamLog.add_eq]
  simp only []
  rw [apply_ite S_rfc8888_streamLog.sequence]
  exact ite_self _

/-- `FnStreamLog.run_rel` with the history threaded: the unwrapper-free part of the model state is `exec` over the
events the calls stand for, and their numbers are non-negative (C20: `unwrap_mod_nonneg_src`). -/
theorem run_hist (ssrc : Nat) : ∀ (ops : List Op) (g : S_rfc8888_streamLog) (m : StreamLog) (h0 : List Ev),
    (∀ o ∈ ops, o.ok) → Rel g m → FnStreamLog.Inv g ops.length → 0 ≤ g.sequence.lastUnwrapped →
    strip m = exec ssrc h0 → NonNeg h0 →
    ∃ g' outs m', goRun g ops = some (g', outs) ∧ Rel g' m' ∧ FnStreamLog.Inv g' 0 ∧
      strip m' = exec ssrc ((evs g.sequence ops).reverse ++ h0) ∧
      NonNeg ((evs g.sequence ops).reverse ++ h0) := by
  intro ops
  induction ops with
  | nil =>
    intro g m h0 _ h hi _ hs hn
    exact ⟨g, [], m, rfl, h, hi, by simpa [evs] using hs, by simpa [evs] using hn⟩
  | cons o ops ih =>
    intro g m h0 hok h hi hnn hs hn
    have hok' : ∀ o ∈ ops, o.ok := fun o ho => hok o (by simp [ho])
    cases o with
    | add ts sn ecn =>
      have hsn : sn < 65536 := hok (.add ts sn ecn) (by simp)
      have hb := hi.bounds
      have hu := unwrap_src_eq_model g.sequence sn hsn ⟨hb.2.2.2.1, hb.2.2.2.2⟩
      simp only at hu
      rw [h.seq] at hu
      have hu2 : (Unwrapper.unwrap m.seq sn).2 = (sequencenumber_Unwrapper_Unwrap g.sequence (sn : Int)).1 :=
        (congrArg Prod.snd hu).symm
      have hf := FnStreamLog.unwrap_facts g.sequence sn hsn ⟨hb.2.2.2.1, hb.2.2.2.2⟩
      have hr0 : 0 ≤ (sequencenumber_Unwrapper_Unwrap g.sequence (sn : Int)).1 :=
        (C20Src.unwrap_mod_nonneg_src g.sequence sn hsn ⟨hb.2.2.2.1, hb.2.2.2.2⟩).2 hnn
      have hseq := add_sequence g ts (sn : Int) (ecn : Int)
      simp only [goRun, evs, List.reverse_cons, List.append_assoc, List.singleton_append]
      rw [← hseq]
      exact ih (rfc8888_streamLog_add g ts (sn : Int) (ecn : Int))
        (Rfc8888.add m ts sn ecn) (Ev.add ts (sequencenumber_Unwrapper_Unwrap g.sequence (sn : Int)).1 ecn :: h0) hok'
        (FnStreamLog.add_src_eq_model h ts sn hsn ecn ⟨hb.2.2.2.1, hb.2.2.2.2⟩)
        (FnStreamLog.add_inv hi ts sn hsn ecn)
        (by rw [hseq, hf.2.1]; exact hr0)
        (by rw [strip_add, hu2, hs]; rfl)
        ⟨hr0, hn⟩
    | report ref mb =>
      have hmb : 0 ≤ mb ∧ mb < 4611686018427387904 := hok (.report ref mb) (by simp)
      obtain ⟨g1, e1, r1, i1, hseq⟩ := FnStreamLog.metricsAfter_step h hi.mono ref mb hmb _ (Nat.le_refl _)
      simp only [evs, List.reverse_cons, List.append_assoc, List.singleton_append]
      rw [← hseq]
      obtain ⟨g', outs, m', e, rest⟩ := ih g1 (Rfc8888.metricsAfter m ref mb).1 (Ev.report ref mb :: h0) hok'
        r1 i1 (by rw [hseq]; exact hnn)
        (by
          have := strip_metricsAfter m ref mb
          rw [hs] at this
          show _ = (Rfc8888.metricsAfter (exec ssrc h0) ref mb).1
          rw [this])
        ⟨hmb.1, hn⟩
      exact ⟨g', toGoB (Rfc8888.metricsAfter m ref mb).2 :: outs, m', by simp only [goRun, e1, e], rest⟩

/-- the events of a longer call list: those of the shorter one, then the rest from wherever the unwrapper got to. -/
theorem evs_append (a b : List Op) : ∀ u, ∃ u', evs u (a ++ b) = evs u a ++ evs u' b := by
  induction a with
  | nil => exact fun u => ⟨u, rfl⟩
  | cons o a ih =>
    intro u
    cases o with
    | add ts sn ecn =>
      obtain ⟨u', h⟩ := ih (sequencenumber_Unwrapper_Unwrap u (sn : Int)).2
      exact ⟨u', by simp only [List.cons_append, evs, h]⟩
    | report ref mb =>
      obtain ⟨u', h⟩ := ih u
      exact ⟨u', by simp only [List.cons_append, evs, h]⟩

/-- a longer call list extends the history (newest first: at the front). -/
theorem hist_append (ops1 ops2 : List Op) : ∃ h2, hist (ops1 ++ ops2) = h2 ++ hist ops1 := by
  obtain ⟨u', h⟩ := evs_append ops1 ops2 {}
  exact ⟨(evs u' ops2).reverse, by unfold hist; rw [h, List.reverse_append]⟩

theorem hist_init (ssrc : Nat) (ops : List Op) (h : hasAdd ops) : (exec ssrc (hist ops)).init = true := by
  obtain ⟨ts, sn, ecn, hm⟩ := h
  obtain ⟨a, b, rfl⟩ := List.append_of_mem hm
  obtain ⟨u', h⟩ := evs_append a (Op.add ts sn ecn :: b) {}
  unfold hist
  rw [h, List.reverse_append]
  simp only [evs, List.reverse_cons, List.append_assoc, List.singleton_append]
  exact Rfc8888.exec_init_mono ssrc _ _ (Rfc8888.addU_init _ _ _ _)

/-- the transfer lemma every statement below goes through: the generated run terminates, the block of the final
`metricsAfter(ref, b)` is `toGoB` of the model's `reportAfter` over `hist ops`, and the Go cursor and highest number
before / after the call, and with them `goBegin`, are the model's. -/
theorem srcReport_model (ssrc : Nat) (ops : List Op) (hok : ∀ o ∈ ops, o.ok) (hlen : ops.length < 70368744177664)
    (ref b : Int) (hb : 0 ≤ b ∧ b < 4611686018427387904) :
    ∃ g g', srcReport ssrc ops ref b = some (g, toGoB (reportAfter ssrc (hist ops) ref b), g') ∧
      NonNeg (hist ops) ∧
      g.nextSequenceNumberToReport = (exec ssrc (hist ops)).next ∧
      g.lastSequenceNumberReceived = (exec ssrc (hist ops)).last ∧
      g'.nextSequenceNumberToReport = (Rfc8888.metricsAfter (exec ssrc (hist ops)) ref b).1.next ∧
      g'.lastSequenceNumberReceived = g.lastSequenceNumberReceived ∧
      goBegin g b = rangeBegin (exec ssrc (hist ops)) b := by
  obtain ⟨g, outs, m, e, r, i, s, n⟩ := run_hist ssrc ops (rfc8888_newStreamLog (ssrc : Int))
    (StreamLog.new ssrc) [] hok (FnStreamLog.newStreamLog_src_eq_model ssrc)
    (FnStreamLog.newStreamLog_inv _ _ hlen) (Int.le_refl 0) rfl trivial
  simp only [List.append_nil] at s n
  have s' : strip m = exec ssrc (hist ops) := s
  obtain ⟨g', e', r', _⟩ := FnStreamLog.metricsAfter_chain r i ref b hb _ (Nat.le_refl _)
  have hsm := strip_metricsAfter m ref b
  rw [s'] at hsm
  have hblk : (Rfc8888.metricsAfter m ref b).2 = reportAfter ssrc (hist ops) ref b := by
    unfold reportAfter; rw [hsm]
  have hnx : (Rfc8888.metricsAfter m ref b).1.next = (Rfc8888.metricsAfter (exec ssrc (hist ops)) ref b).1.next := by
    rw [hsm]; rfl
  have f2 : g.nextSequenceNumberToReport = (exec ssrc (hist ops)).next := by rw [r.next, ← s']; rfl
  have f3 : g.lastSequenceNumberReceived = (exec ssrc (hist ops)).last := by rw [r.last, ← s']; rfl
  refine ⟨g, g', ?_, n, f2, f3, by rw [r'.next, hnx], by rw [r'.last, Rfc8888.metricsAfter_last, r.last],
    by unfold goBegin rangeBegin; rw [f2, f3]⟩
  unfold srcReport
  simp only [e, e', hblk]

theorem toGoM_mkMetric (ref : Int) (o : Option Entry) : toGoM (mkMetric ref o) = specMetric ref o := by
  cases o with
  | none => rfl
  | some e => simp only [mkMetric, toGoM, specMetric, Rfc8888.ato_encoding]

theorem specMetric_spec (ref : Int) (o : Option Entry) :
    ((specMetric ref o).Received = true ↔ o ≠ none) ∧
    (o = none → (specMetric ref o).ECN = 0 ∧ (specMetric ref o).ArrivalTimeOffset = 0) ∧
    (∀ e, o = some e →
      (specMetric ref o).ECN = (e.ecn : Int) ∧ (specMetric ref o).ArrivalTimeOffset = (atoSpec ref e.arrival : Int)) := by
  cases o <;> simp [specMetric]

theorem goReportedAs_toGoB (B : Block) (s n : Int) :
    goReportedAs (toGoB B) s n = (reportedAs B s n).map toGoM := by
  unfold goReportedAs reportedAs toGoB
  split
  · simp only [List.getElem?_map]
  · rfl

/-- ★ C08 clause "a contiguous range ending at the highest sequence number received" (T1 `block_range`), on the
code: after any call list containing an `add`, the block the generated `metricsAfter(ref, b)` returns carries the
stream's SSRC, has exactly `min(last − next + 1, b)` metric blocks (`next`/`last`: the Go fields
`nextSequenceNumberToReport`/`lastSequenceNumberReceived` before the call), stands for the contiguous numbers
`goBegin … last` with `BeginSequence = uint16(goBegin)` — the first not-yet-reported number, or `last − b + 1` when
the budget is smaller —, its `j`-th metric block is the prescribed description (`specMetric`) of the `j`-th number of
that range, and the range ends at a number that did arrive. -/
theorem block_range_src (ssrc : Nat) (ops : List Op) (hok : ∀ o ∈ ops, o.ok) (hlen : ops.length < 70368744177664)
    (hadd : hasAdd ops) (ref b : Int) (hb : 0 ≤ b ∧ b < 4611686018427387904) :
    ∃ g blk g', srcReport ssrc ops ref b = some (g, blk, g') ∧
      let len := min (g.lastSequenceNumberReceived - g.nextSequenceNumberToReport + 1) b
      blk.MediaSSRC = (ssrc : Int) ∧ (blk.MetricBlocks.length : Int) = len ∧
      g.lastSequenceNumberReceived + 1 - len = goBegin g b ∧
      blk.BeginSequence = u16 (goBegin g b) ∧
      (∀ j : Nat, (j : Int) < len →
        blk.MetricBlocks[j]? = some (specMetric ref (firstArrival (hist ops) (goBegin g b + j)))) ∧
      (g.nextSequenceNumberToReport ≤ g.lastSequenceNumberReceived →
        firstArrival (hist ops) g.lastSequenceNumberReceived ≠ none) := by
  obtain ⟨g, g', e, hn, f2, f3, _, _, hgb⟩ := srcReport_model ssrc ops hok hlen ref b hb
  obtain ⟨c1, c2, c3, c4, c5, c6⟩ := Rfc8888.block_range (exec ssrc (hist ops)) ref b
    (Rfc8888.inv_exec ssrc (hist ops) hn) (hist_init ssrc ops hadd) hb.1
  have hfirst := Rfc8888.exec_first ssrc (hist ops)
  refine ⟨g, _, g', e, ?_⟩
  rw [f2, f3, hgb]
  refine ⟨?_, ?_, c3, ?_, fun j hj => ?_, fun hle => ?_⟩
  · show ((reportAfter ssrc (hist ops) ref b).ssrc : Int) = ssrc
    unfold reportAfter; rw [c1, Rfc8888.exec_ssrc]
  · show (((reportAfter ssrc (hist ops) ref b).metrics.map toGoM).length : Int) = _
    rw [List.length_map]; exact c2
  · show ((reportAfter ssrc (hist ops) ref b).begin : Int) = _
    unfold reportAfter; rw [c4]; exact FnStreamLog.u16_cast _
  · show ((reportAfter ssrc (hist ops) ref b).metrics.map toGoM)[j]? = _
    unfold reportAfter
    -- the `j`-th number of the range is not below the cursor, so its stored record is its first arrival
    rw [List.getElem?_map, c5 j hj, Option.map_some, toGoM_mkMetric,
      hfirst (rangeBegin (exec ssrc (hist ops)) b + j)
        (Int.le_trans (Int.le_max_left _ _) (Int.le_add_of_nonneg_right (Int.natCast_nonneg j)))]
  · rw [← hfirst _ hle]; exact c6 hle

/-- ★ C08 clause "a packet is marked received exactly if it arrived (and has not yet been acknowledged …), with an
arrival-time offset … of the first copy" (T2 `received_iff`), on the code: the block the generated
`metricsAfter(ref, b)` returns after any call list lists exactly the numbers `goBegin … last`, none of them
acknowledged yet (`next ≤ goBegin`), and describes number `n` by `specMetric ref (firstArrival (hist ops) n)`:
received iff a copy of `n` arrived, with the ECN mark and the arrival time offset of the FIRST copy — a duplicate
does not replace them — and a number never received is reported as not received. -/
theorem received_iff_src (ssrc : Nat) (ops : List Op) (hok : ∀ o ∈ ops, o.ok) (hlen : ops.length < 70368744177664)
    (hadd : hasAdd ops) (ref b : Int) (hb : 0 ≤ b ∧ b < 4611686018427387904) :
    ∃ g blk g', srcReport ssrc ops ref b = some (g, blk, g') ∧
      g.nextSequenceNumberToReport ≤ goBegin g b ∧
      ∀ n : Int, goReportedAs blk (goBegin g b) n =
        if goBegin g b ≤ n ∧ n ≤ g.lastSequenceNumberReceived
        then some (specMetric ref (firstArrival (hist ops) n)) else none := by
  obtain ⟨g, g', e, hn, f2, f3, _, _, hgb⟩ := srcReport_model ssrc ops hok hlen ref b hb
  have hr := Rfc8888.received_iff ssrc _ hn ref b hb.1 (hist_init ssrc ops hadd)
  refine ⟨g, _, g', e, by rw [f2, hgb]; exact (hr 0).1, fun n => ?_⟩
  rw [goReportedAs_toGoB, hgb, f3, (hr n).2]
  split
  · rw [Option.map_some, toGoM_mkMetric]
  · rfl

/-- T2 on the code, read off for one metric block: received ⇔ some copy arrived; ECN and offset are those of the
first copy, the offset being `⌊1024·(ref − arrival)⌋` with the two saturation codes (`atoSpec`). -/
theorem received_iff_first_src (ssrc : Nat) (ops : List Op) (hok : ∀ o ∈ ops, o.ok)
    (hlen : ops.length < 70368744177664) (hadd : hasAdd ops) (ref b : Int) (hb : 0 ≤ b ∧ b < 4611686018427387904) :
    ∃ g blk g', srcReport ssrc ops ref b = some (g, blk, g') ∧
      ∀ (n : Int) (mb : S_rtcp_CCFeedbackMetricBlock), goReportedAs blk (goBegin g b) n = some mb →
        (mb.Received = true ↔ firstArrival (hist ops) n ≠ none) ∧
        (firstArrival (hist ops) n = none → mb.ECN = 0 ∧ mb.ArrivalTimeOffset = 0) ∧
        (∀ e, firstArrival (hist ops) n = some e →
          mb.ECN = (e.ecn : Int) ∧ mb.ArrivalTimeOffset = (atoSpec ref e.arrival : Int)) := by
  obtain ⟨g, blk, g', e, _, h⟩ := received_iff_src ssrc ops hok hlen hadd ref b hb
  refine ⟨g, blk, g', e, fun n mb hm => ?_⟩
  rw [h n] at hm
  split at hm
  · cases hm; exact specMetric_spec ref _
  · cases hm

/-- ★ C08 clause "a packet once reported received is never later reported lost" (T3 `never_unreceive`), on the
code: if the generated `metricsAfter(ref1, b1)` after the calls `ops1` reports `n` received, then the generated
`metricsAfter(ref2, b2)` after any longer call list `ops1 ++ ops2` (which may contain that first report), whenever
it still lists `n`, reports it received with the record of the same first copy. -/
theorem never_unreceive_src (ssrc : Nat) (ops1 ops2 : List Op) (hok : ∀ o ∈ ops1 ++ ops2, o.ok)
    (hlen : (ops1 ++ ops2).length < 70368744177664) (hadd : hasAdd ops1)
    (ref1 b1 ref2 b2 : Int) (hb1 : 0 ≤ b1 ∧ b1 < 4611686018427387904) (hb2 : 0 ≤ b2 ∧ b2 < 4611686018427387904) :
    ∃ g1 blk1 g1' g2 blk2 g2', srcReport ssrc ops1 ref1 b1 = some (g1, blk1, g1') ∧
      srcReport ssrc (ops1 ++ ops2) ref2 b2 = some (g2, blk2, g2') ∧
      ∀ (n : Int) (m1 m2 : S_rtcp_CCFeedbackMetricBlock),
        goReportedAs blk1 (goBegin g1 b1) n = some m1 → m1.Received = true →
        goReportedAs blk2 (goBegin g2 b2) n = some m2 →
        m2.Received = true ∧ ∃ e, firstArrival (hist ops1) n = some e ∧ m2 = specMetric ref2 (some e) := by
  have hok1 : ∀ o ∈ ops1, o.ok := fun o ho => hok o (by simp [ho])
  have hlen1 : ops1.length < 70368744177664 := by simp only [List.length_append] at hlen; omega
  have hadd2 : hasAdd (ops1 ++ ops2) := by
    obtain ⟨a, b, c, h⟩ := hadd; exact ⟨a, b, c, by simp [h]⟩
  obtain ⟨g1, blk1, g1', e1, _, r1⟩ := received_iff_src ssrc ops1 hok1 hlen1 hadd ref1 b1 hb1
  obtain ⟨g2, blk2, g2', e2, _, r2⟩ := received_iff_src ssrc (ops1 ++ ops2) hok hlen hadd2 ref2 b2 hb2
  obtain ⟨h2, hh⟩ := hist_append ops1 ops2
  refine ⟨g1, blk1, g1', g2, blk2, g2', e1, e2, fun n m1 m2 q1 hrec q2 => ?_⟩
  rw [r1 n] at q1
  rw [r2 n, hh] at q2
  split at q1
  · cases q1
    obtain ⟨e, hf⟩ := Option.ne_none_iff_exists'.mp ((specMetric_spec ref1 _).1.1 hrec)
    -- the first copy stays the first copy in every longer history
    rw [Rfc8888.firstArrival_mono _ h2 n e hf] at q2
    split at q2
    · cases q2; exact ⟨rfl, e, hf, rfl⟩
    · cases q2
  · cases q1

/-- T3 on the code, the mechanism: the generated `metricsAfter` never moves the report cursor
`nextSequenceNumberToReport` backwards, and leaves `lastSequenceNumberReceived` alone. -/
theorem cursor_monotone_src (ssrc : Nat) (ops : List Op) (hok : ∀ o ∈ ops, o.ok) (hlen : ops.length < 70368744177664)
    (ref b : Int) (hb : 0 ≤ b ∧ b < 4611686018427387904) :
    ∃ g blk g', srcReport ssrc ops ref b = some (g, blk, g') ∧
      g.nextSequenceNumberToReport ≤ g'.nextSequenceNumberToReport ∧
      g'.lastSequenceNumberReceived = g.lastSequenceNumberReceived := by
  obtain ⟨g, g', e, hn, f2, f3, f4, f5, _⟩ := srcReport_model ssrc ops hok hlen ref b hb
  exact ⟨g, _, g', e, by rw [f2, f4]; exact Rfc8888.cursor_monotone _ ref b, f5⟩

/-- ★ C08 clause "every packet that arrived for the first time since the last report appears in the next one unless
pushed out by the size limit (newest kept)" (T4 `next_report_complete`), on the code: every number whose first copy
has arrived and that is not yet acknowledged (`next ≤ n`) appears, marked received with the ECN mark and the arrival
time offset of its first copy, in the block the generated `metricsAfter(ref, b)` returns — unless it is older than
the newest `b` numbers. -/
theorem next_report_complete_src (ssrc : Nat) (ops : List Op) (hok : ∀ o ∈ ops, o.ok)
    (hlen : ops.length < 70368744177664) (hadd : hasAdd ops) (ref b : Int) (hb : 0 ≤ b ∧ b < 4611686018427387904) :
    ∃ g blk g', srcReport ssrc ops ref b = some (g, blk, g') ∧
      ∀ (n : Int) (e : Entry), firstArrival (hist ops) n = some e → g.nextSequenceNumberToReport ≤ n →
        g.lastSequenceNumberReceived - b < n →
        goReportedAs blk (goBegin g b) n =
          some { Received := true, ECN := (e.ecn : Int), ArrivalTimeOffset := (atoSpec ref e.arrival : Int) } := by
  obtain ⟨g, g', e, hn, f2, f3, _, _, hgb⟩ := srcReport_model ssrc ops hok hlen ref b hb
  refine ⟨g, _, g', e, fun n en hf hc hnew => ?_⟩
  rw [f2] at hc
  rw [f3] at hnew
  rw [goReportedAs_toGoB, hgb,
    Rfc8888.next_report_complete ssrc _ hn ref b hb.1 (hist_init ssrc ops hadd) n en hf hc hnew]
  simp only [Option.map_some, toGoM, Rfc8888.ato_encoding]

/-- ★ C08 clause "(… not yet acknowledged in a gap-free prefix of an earlier report)": packets are consumed exactly
up to the first gap, on the code.  The generated `metricsAfter(ref, b)` moves the cursor
`nextSequenceNumberToReport` to a number `c` with `goBegin ≤ c ≤ last + 1`; every number of the listed range below
`c` did arrive (so was listed as received in this very block: `received_iff_src`), and `c` itself, when still in the
range, never arrived: the cursor stops at the first gap.  (The first half is `metricsAfter_passed`, the second
`metricsAfter_cursor`, both of Proofs/Rfc8888.) -/
theorem cursor_stops_at_first_gap_src (ssrc : Nat) (ops : List Op) (hok : ∀ o ∈ ops, o.ok)
    (hlen : ops.length < 70368744177664) (hadd : hasAdd ops) (ref b : Int) (hb : 0 ≤ b ∧ b < 4611686018427387904) :
    ∃ g blk g', srcReport ssrc ops ref b = some (g, blk, g') ∧
      goBegin g b ≤ g'.nextSequenceNumberToReport ∧
      g'.nextSequenceNumberToReport ≤ g.lastSequenceNumberReceived + 1 ∧
      (∀ n, goBegin g b ≤ n → n < g'.nextSequenceNumberToReport → firstArrival (hist ops) n ≠ none) ∧
      (g'.nextSequenceNumberToReport ≤ g.lastSequenceNumberReceived →
        firstArrival (hist ops) g'.nextSequenceNumberToReport = none) := by
  obtain ⟨g, g', e, hn, f2, f3, f4, f5, hgb⟩ := srcReport_model ssrc ops hok hlen ref b hb
  obtain ⟨c1, c2, c4⟩ := Rfc8888.metricsAfter_cursor (exec ssrc (hist ops)) ref b (Rfc8888.inv_exec ssrc _ hn)
    (hist_init ssrc ops hadd) hb.1
  have hfirst := Rfc8888.exec_first ssrc (hist ops)
  refine ⟨g, _, g', e, ?_⟩
  rw [hgb, f4, f3]
  refine ⟨c1, c2, fun n h1 h2 => ?_, fun h => ?_⟩
  · rw [← hfirst n (Int.le_trans (Int.le_max_left _ _) h1)]
    exact Rfc8888.metricsAfter_passed _ ref b n h1 h2
  · rw [← hfirst _ (Rfc8888.cursor_monotone _ ref b)]
    exact c4 h

/-- T4 on the code, the other half (`cursor_passes_only`): the generated `metricsAfter` moves the cursor past a number
only if that number arrived and is listed in this very block, or if the size limit pushed it out (`n ≤ last − b`). -/
theorem cursor_passes_only_src (ssrc : Nat) (ops : List Op) (hok : ∀ o ∈ ops, o.ok)
    (hlen : ops.length < 70368744177664) (ref b : Int) (hb : 0 ≤ b ∧ b < 4611686018427387904) :
    ∃ g blk g', srcReport ssrc ops ref b = some (g, blk, g') ∧
      ∀ n, g.nextSequenceNumberToReport ≤ n → n < g'.nextSequenceNumberToReport →
        n ≤ g.lastSequenceNumberReceived - b ∨ (goBegin g b ≤ n ∧ firstArrival (hist ops) n ≠ none) := by
  obtain ⟨g, g', e, hn, f2, f3, f4, f5, hgb⟩ := srcReport_model ssrc ops hok hlen ref b hb
  refine ⟨g, _, g', e, fun n h1 h2 => ?_⟩
  rw [f2] at h1
  rw [f4] at h2
  rw [f3, hgb, ← Rfc8888.exec_first ssrc (hist ops) n h1]
  exact Rfc8888.cursor_passes_only (exec ssrc (hist ops)) ref b n h1 h2

/-- ★ C08 clause "the marshalled report never exceeds the configured maximum size", the per-stream part (the lemma
`metricsAfter_len_le` under T5 `size_bound`), on the code: the generated `metricsAfter(ref, b)` never returns more
than `b` metric blocks, and for an even budget (what the fixed `BuildReport` passes: `budget_nonneg_even`) not more
than `b` after pion/rtcp's padding of the count to an even number either. -/
theorem block_count_le_budget_src (ssrc : Nat) (ops : List Op) (hok : ∀ o ∈ ops, o.ok)
    (hlen : ops.length < 70368744177664) (ref b : Int) (hb : 0 ≤ b ∧ b < 4611686018427387904) :
    ∃ g blk g', srcReport ssrc ops ref b = some (g, blk, g') ∧
      (blk.MetricBlocks.length : Int) ≤ b ∧
      (b % 2 = 0 → ((blk.MetricBlocks.length + blk.MetricBlocks.length % 2 : Nat) : Int) ≤ b) := by
  obtain ⟨g, g', e, _⟩ := srcReport_model ssrc ops hok hlen ref b hb
  have h : ((toGoB (reportAfter ssrc (hist ops) ref b)).MetricBlocks.length : Int) ≤ b := by
    show (((reportAfter ssrc (hist ops) ref b).metrics.map toGoM).length : Int) ≤ b
    rw [List.length_map]; exact Rfc8888.metricsAfter_len_le (exec ssrc (hist ops)) ref b hb.1
  exact ⟨g, _, g', e, h, Rfc8888.padded_le _ b h⟩

/-- ★ C08 clause "arrival-time offset equal to floor(1024 × (report time − arrival time)) seconds, using 0x1FFE for
offsets too large and 0x1FFF for arrivals after the report time" (T6 `ato_encoding`), on the code: the generated
`getArrivalTimeOffset` — `uint16(base.Sub(arrival).Seconds() * 1024.0)` in binary64 after the saturation test —
equals the exact encoding `atoSpec` for ALL pairs of times. -/
theorem ato_encoding_src (ref arr : Int) : rfc8888_getArrivalTimeOffset ref arr = (atoSpec ref arr : Int) := by
  rw [FnRfc8888.getATO_src_eq_model, Rfc8888.ato_encoding]

/-- T6 on the code, spelled out in nanoseconds: units of 1/1024 s, and the two saturation codes. -/
theorem ato_encoding_cases_src (ref arr : Int) :
    (ref < arr → rfc8888_getArrivalTimeOffset ref arr = 0x1FFF) ∧
    (arr ≤ ref → 1024 * (ref - arr) < 8190 * 1000000000 →
      rfc8888_getArrivalTimeOffset ref arr = 1024 * (ref - arr) / 1000000000) ∧
    (arr ≤ ref → 8190 * 1000000000 ≤ 1024 * (ref - arr) → rfc8888_getArrivalTimeOffset ref arr = 0x1FFE) := by
  obtain ⟨h1, h2, h3⟩ := Rfc8888.ato_encoding_cases ref arr
  rw [FnRfc8888.getATO_src_eq_model]
  exact ⟨fun h => by rw [h1 h]; rfl, fun h h' => h2 h h', fun h h' => by rw [h3 h h']; rfl⟩

/-! ## non-vacuity: the generated code evaluated on a concrete run

`demo1`: first packet 65534 (ECN 1, at 1 s), then 1 (the 2^16 wrap: unwrapped 65537; 65535 and 0 missing), then a
duplicate of 65534 (later, other ECN).  `demo2`: a report at 2 s (budget 10), then the late packet 0 (unwrapped
65536) at 2.1 s.  The final call is `metricsAfter(3 s, b)`. -/

def demo1 : List Op := [.add 1000000000 65534 1, .add 1250000000 1 0, .add 1500000000 65534 3]
def demo2 : List Op := [.report 2000000000 10, .add 2100000000 0 0]

theorem demo_ok : ∀ o ∈ demo1 ++ demo2, o.ok := by
  intro o ho
  simp only [demo1, demo2, List.cons_append, List.nil_append, List.mem_cons, List.not_mem_nil, or_false] at ho
  rcases ho with rfl | rfl | rfl | rfl | rfl <;> simp [Op.ok]

theorem demo1_ok : ∀ o ∈ demo1, o.ok := fun o ho => demo_ok o (by simp [ho])

theorem demo1_hasAdd : hasAdd demo1 := ⟨1000000000, 65534, 1, List.Mem.head _⟩

theorem demo_hasAdd : hasAdd (demo1 ++ demo2) := ⟨1000000000, 65534, 1, List.Mem.head _⟩

/-- the hypotheses of the run theorems hold on `demo1 ++ demo2`, and the history it stands for (numbers from the
generated `Unwrap`) has first arrivals 65534 ↦ (1 s, ECN 1) — the first copy —, 65535 ↦ none, 65536 ↦ 2.1 s,
65537 ↦ 1.25 s. -/
example : (∀ o ∈ demo1 ++ demo2, o.ok) ∧ (demo1 ++ demo2).length < 70368744177664 ∧ hasAdd (demo1 ++ demo2) ∧
    firstArrival (hist (demo1 ++ demo2)) 65534 = some ⟨1000000000, 1⟩ ∧
    firstArrival (hist (demo1 ++ demo2)) 65535 = none ∧
    firstArrival (hist (demo1 ++ demo2)) 65536 = some ⟨2100000000, 0⟩ ∧
    firstArrival (hist (demo1 ++ demo2)) 65537 = some ⟨1250000000, 0⟩ :=
  ⟨demo_ok, by decide, demo_hasAdd, by decide +kernel, by decide +kernel, by decide +kernel, by decide +kernel⟩

/-- what the examples below look at in `srcReport 7 ops ref b`: the cursor and the highest number before the final
`metricsAfter(ref, b)`, the block it returns, and the cursor after it. -/
def demoOut (ops : List Op) (ref b : Int) : Option (Int × Int × S_rtcp_CCFeedbackReportBlock × Int) :=
  (srcReport 7 ops ref b).map fun r =>
    (r.1.nextSequenceNumberToReport, r.1.lastSequenceNumberReceived, r.2.1, r.2.2.nextSequenceNumberToReport)

/-- non-vacuity of `srcReport_model` / `block_range_src` / `received_iff_src` / `received_iff_first_src`: after
`demo1` the report lists 65534 … 65537 (BeginSequence 65534) as received (ECN 1 and offset 1024 = 1 s of the FIRST
copy, not the duplicate's ECN 3 / 0.5 s), not received, not received, received (0.75 s → 768). -/
example : demoOut demo1 2000000000 10 = some (65534, 65537,
    { MediaSSRC := 7, BeginSequence := 65534,
      MetricBlocks := [{ Received := true, ECN := 1, ArrivalTimeOffset := 1024 }, { }, { },
                       { Received := true, ECN := 0, ArrivalTimeOffset := 768 }] }, 65535) := by
  decide +kernel

/-- the same block is what the theorems prescribe: `specMetric` of the first arrivals, for the four numbers of the
range, `none` outside. -/
example : (srcReport 7 demo1 2000000000 10).map (fun r =>
      [65533, 65534, 65535, 65536, 65537, 65538].map (goReportedAs r.2.1 (goBegin r.1 10)))
    = some ([65533, 65534, 65535, 65536, 65537, 65538].map fun n =>
        if 65534 ≤ n ∧ n ≤ 65537 then some (specMetric 2000000000 (firstArrival (hist demo1) n)) else none) := by
  decide +kernel

/-- non-vacuity of `never_unreceive_src`, `next_report_complete_src`, `cursor_monotone_src`: 65537 was reported
received by the report after `demo1`; the report at 3 s after `demo1 ++ demo2` (which contains that report) lists
65535 … 65537: still missing, the late packet 0 (0.9 s → 921), and 65537 again received with its first arrival
(1.75 s → 1792); the cursor went 65534 → 65535 and stays there. -/
example : demoOut (demo1 ++ demo2) 3000000000 10 = some (65535, 65537,
    { MediaSSRC := 7, BeginSequence := 65535,
      MetricBlocks := [{ }, { Received := true, ECN := 0, ArrivalTimeOffset := 921 },
                       { Received := true, ECN := 0, ArrivalTimeOffset := 1792 }] }, 65535) := by
  decide +kernel

/-- non-vacuity of `cursor_stops_at_first_gap_src` / `cursor_passes_only_src`: after `demo1` the cursor moves from
65534 over the received 65534 and stops at 65535, which never arrived. -/
example : (demoOut demo1 2000000000 10).map (fun r => (r.1, r.2.2.2)) = some (65534, 65535) ∧
    firstArrival (hist demo1) 65534 ≠ none ∧ firstArrival (hist demo1) 65535 = none := by
  refine ⟨by decide +kernel, by decide +kernel, by decide +kernel⟩

/-- non-vacuity of `block_count_le_budget_src` and of the budget branches of `block_range_src` /
`cursor_passes_only_src`: with budget 2 the block keeps the newest two numbers 65536, 65537
(`BeginSequence = uint16 65536 = 0`), and the cursor passes the missing 65535 because the size limit pushed it out
(65535 ≤ last − 2). -/
example : demoOut (demo1 ++ demo2) 3000000000 2 = some (65535, 65537,
    { MediaSSRC := 7, BeginSequence := 0,
      MetricBlocks := [{ Received := true, ECN := 0, ArrivalTimeOffset := 921 },
                       { Received := true, ECN := 0, ArrivalTimeOffset := 1792 }] }, 65538) := by
  decide +kernel

/-- non-vacuity of `run_block_is_srcReport`: the block the report inside `demo1 ++ demo2` returned. -/
example : (goRun (rfc8888_newStreamLog (7 : Nat)) (demo1 ++ demo2)).map (·.2)
    = (srcReport 7 demo1 2000000000 10).map (fun r => [r.2.1]) := by
  decide +kernel

/-- the run theorems instantiated on the demo (their hypotheses are the facts above). -/
example := block_range_src 7 (demo1 ++ demo2) demo_ok (by decide) demo_hasAdd 3000000000 10 (by decide)
example := received_iff_src 7 (demo1 ++ demo2) demo_ok (by decide) demo_hasAdd 3000000000 10 (by decide)
example := received_iff_first_src 7 (demo1 ++ demo2) demo_ok (by decide) demo_hasAdd 3000000000 10 (by decide)
example := never_unreceive_src 7 demo1 demo2 demo_ok (by decide) demo1_hasAdd 2000000000 10 3000000000 10
  (by decide) (by decide)
example := cursor_monotone_src 7 (demo1 ++ demo2) demo_ok (by decide) 3000000000 10 (by decide)
example := next_report_complete_src 7 (demo1 ++ demo2) demo_ok (by decide) demo_hasAdd 3000000000 10 (by decide)
example := cursor_stops_at_first_gap_src 7 demo1 demo1_ok (by decide) demo1_hasAdd 2000000000 10 (by decide)
example := cursor_passes_only_src 7 (demo1 ++ demo2) demo_ok (by decide) 3000000000 2 (by decide)
example := block_count_le_budget_src 7 (demo1 ++ demo2) demo_ok (by decide) 3000000000 2 (by decide)

/-- non-vacuity of `ato_encoding_src` / `ato_encoding_cases_src`: the generated `getArrivalTimeOffset` at the
boundaries of the encoding (1 s → 1024; just below / at 8190/1024 s; 65 s → 0x1FFE; an arrival after the report
time → 0x1FFF; just below / at 1/1024 s). -/
example : rfc8888_getArrivalTimeOffset 1000000000 0 = 1024 ∧ rfc8888_getArrivalTimeOffset 7998046874 0 = 8189 ∧
    rfc8888_getArrivalTimeOffset 7998046875 0 = 8190 ∧ rfc8888_getArrivalTimeOffset 65000000000 0 = 8190 ∧
    rfc8888_getArrivalTimeOffset 0 1 = 8191 ∧ rfc8888_getArrivalTimeOffset 976562 0 = 0 ∧
    rfc8888_getArrivalTimeOffset 976563 0 = 1 := by
  decide +kernel

end Interceptor.C08Src
