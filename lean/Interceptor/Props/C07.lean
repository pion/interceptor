/-
C07 — sender reports count what was sent and map RTP time to wall time.
Model: Model/SenderReport.lean (the code with the F-09 repair).
Forced hypothesis (named where used): a history shorter than 2^32 packets — `packetCount == 0` is
the code's first-packet test and the uint32 wraps.
-/
import Interceptor.Proofs.SenderReport
import Mathlib.Data.List.Induction
set_option linter.unusedVariables false
namespace Interceptor.SenderReport
open Interceptor Interceptor.F64 Interceptor.GoTime Interceptor.SenderReport.Spec

/-- ★ T1 `counts_eq_recount`: after any send history the counters are the number of packets and
the sum of the payload lengths, both modulo 2^32 (any start state with in-range counters). -/
theorem counts_eq_recount (s : Stream) (ps : List Pkt)
    (h1 : s.packetCount < M32) (h2 : s.octetCount < M32) :
    (run s ps).packetCount = (s.packetCount + ps.length) % M32 ∧
    (run s ps).octetCount = (s.octetCount + (ps.map (·.len)).sum) % M32 := by
  induction ps generalizing s with
  | nil => simp only [run, List.foldl_nil, List.length_nil, List.map_nil, List.sum_nil, M32] at *; omega
  | cons p ps ih =>
    obtain ⟨ts, t, sn, e, _⟩ := processRTP_frame s p
    have := ih (processRTP s p) (by rw [e]; exact Nat.mod_lt _ (by decide)) (by rw [e]; exact Nat.mod_lt _ (by decide))
    simp only [run, List.foldl_cons, List.length_cons, List.map_cons, List.sum_cons] at this ⊢
    rw [this.1, this.2, e]
    dsimp only
    exact ⟨by rw [Nat.mod_add_mod, Nat.add_assoc, Nat.add_comm 1], by rw [Nat.mod_add_mod, Nat.add_assoc]⟩

/-- past the first packet of a history shorter than 2^32 the packet counter is not 0, the value the code's
first-packet test looks for. -/
theorem run_packetCount_ne_zero (ssrc rate : Nat) (l : Bool) (ps : List Pkt) (hne : ps ≠ []) (hlen : ps.length < M32) :
    (run (new ssrc rate l) ps).packetCount ≠ 0 := by
  rw [(counts_eq_recount (new ssrc rate l) ps (Nat.zero_lt_succ _) (Nat.zero_lt_succ _)).1]
  show (0 + ps.length) % M32 ≠ 0
  rw [Nat.zero_add, Nat.mod_eq_of_lt hlen]
  exact Nat.ne_of_gt (List.length_pos_iff.mpr hne)

/-- ★ T1 at the observable: the report of a freshly bound stream after a history carries the
recount of that history. -/
theorem report_counts_eq_recount (ssrc rate : Nat) (l : Bool) (ps : List Pkt) (now : Int) :
    (generateReport (run (new ssrc rate l) ps) now).packetCount = Spec.packetCount ps ∧
    (generateReport (run (new ssrc rate l) ps) now).octetCount = Spec.octetCount ps := by
  obtain ⟨a, b⟩ := counts_eq_recount (new ssrc rate l) ps (Nat.zero_lt_succ _) (Nat.zero_lt_succ _)
  simp only [generateReport, Spec.packetCount, Spec.octetCount]
  rw [a, b]; simp [new]

/-- ★ T2 `reference_monotone` (step form, any state past the first packet): without
use-latest-packet the reference sequence number either stays or moves forward in half-range
order, and a packet that is not newer leaves the whole reference (sequence number, RTP
timestamp, wall time) untouched. -/
theorem reference_monotone (s : Stream) (p : Pkt) (hl : s.useLatest = false) (hc : s.packetCount ≠ 0) :
    let s' := processRTP s p
    (isNewer16 p.seq s.lastSN = true ∧ s'.lastSN = p.seq) ∨
    (isNewer16 p.seq s.lastSN = false ∧ s'.lastSN = s.lastSN ∧ s'.lastTs = s.lastTs ∧ s'.lastTime = s.lastTime) := by
  unfold processRTP
  rw [accepts_eq_newer s p.seq hc, hl, Bool.false_or]
  cases isNewer16 p.seq s.lastSN
  · right; simp
  · refine Or.inl ⟨rfl, ?_⟩
    rw [if_pos rfl]
    split <;> rfl

/-- ★ T2, use-latest-packet: the reference sequence number is the last one written. -/
theorem reference_latest (s : Stream) (p : Pkt) (hl : s.useLatest = true) :
    (processRTP s p).lastSN = p.seq := by
  unfold processRTP accepts
  simp only [hl, Bool.true_or, if_true]
  split <;> rfl

/-- ★ T2 over histories: on a stream bound without use-latest-packet, every packet after the
first (history shorter than 2^32) moves the reference sequence number forward or not at all. -/
theorem reference_monotone_trace (ssrc rate : Nat) (ps : List Pkt) (p : Pkt)
    (hne : ps ≠ []) (hlen : ps.length < M32) :
    let s := run (new ssrc rate false) ps
    (processRTP s p).lastSN = s.lastSN ∨ isNewer16 (processRTP s p).lastSN s.lastSN = true := by
  intro s
  have hl : s.useLatest = false := run_useLatest _ _
  rcases reference_monotone s p hl (run_packetCount_ne_zero ssrc rate false ps hne hlen) with ⟨h1, h2⟩ | ⟨_, h2, _⟩
  · right; rw [h2]; exact h1
  · left; exact h2

/-- ★ T2 over histories, use-latest-packet: the reference is the last packet written. -/
theorem reference_latest_trace (ssrc rate : Nat) (ps : List Pkt) (p : Pkt) :
    (run (new ssrc rate true) (ps ++ [p])).lastSN = p.seq := by
  simp only [run, List.foldl_append, List.foldl_cons, List.foldl_nil]
  exact reference_latest _ p (run_useLatest _ _)

/-- ★ T3 `first_of_frame`: after any non-empty history shorter than 2^32 packets on a freshly
bound stream, the reference candidates (first packet; then every packet with use-latest-packet,
else every packet newer in half-range order than the newest candidate) split as
`pre ++ q :: rest` where `rest` all carry `q`'s timestamp and the candidate before `q` does not;
the stream's reference is `q`: its RTP timestamp and *its* wall-clock time (the first packet of
the frame, not a later one), and the reference sequence number is the last candidate's.
(False on the unrepaired code when the first packet has RTP timestamp 0: F-09.) -/
theorem first_of_frame (ssrc rate : Nat) (l : Bool) (ps : List Pkt)
    (hne : ps ≠ []) (hlen : ps.length < M32) :
    let s := run (new ssrc rate l) ps
    ∃ pre q rest, accepted l ps = pre ++ q :: rest ∧ (∀ r ∈ rest, r.ts = q.ts) ∧
      (∀ x, pre.getLast? = some x → x.ts ≠ q.ts) ∧
      s.lastTs = q.ts ∧ s.lastTime = some q.now ∧ s.lastSN = lastSeq 0 (accepted l ps) := by
  intro s
  show FrameInv (run (new ssrc rate l) ps) (accepted l ps)
  induction ps using List.reverseRecOn with
  | nil => exact absurd rfl hne
  | append_singleton qs p ih =>
    cases qs with
    | nil =>
      refine ⟨[], p, [], rfl, by simp, by simp, ?_, ?_, ?_⟩ <;>
        simp [run, processRTP, accepts, new, lastSeq, accepted, acceptedFrom]
    | cons q0 qs =>
      have hlen' : (q0 :: qs).length < M32 := by simp only [List.length_append, List.length_cons, List.length_nil, M32] at hlen ⊢; omega
      have hstep := frameInv_step _ _ p (run_packetCount_ne_zero ssrc rate l _ (List.cons_ne_nil _ _) hlen')
        (ih (by simp) hlen')
      rw [run_useLatest] at hstep
      have hacc : accepted l (q0 :: qs ++ [p]) = accepted l (q0 :: qs) ++
          (if l || isNewer16 p.seq (lastSeq 0 (accepted l (q0 :: qs))) then [p] else []) := by
        simp only [accepted, List.cons_append]
        rw [acceptedFrom_snoc]
        simp only [lastSeq_cons]
      have hrun : run (new ssrc rate l) (q0 :: qs ++ [p]) = processRTP (run (new ssrc rate l) (q0 :: qs)) p := by
        simp only [run, List.foldl_append, List.foldl_cons, List.foldl_nil]
      rw [hacc, hrun]; exact hstep

/-- F-09: on the code before the repair `first_of_frame` fails — after a first packet with RTP
timestamp 0 the reference time is still the zero `time.Time` (witness: corpus/C07/F-09.ops). -/
theorem first_of_frame_unrepaired_false :
    ¬ (∀ (ps : List Pkt), ps ≠ [] → ∃ q, (ps.foldl processRTPUnrepaired (new 1 90000 false)).lastTime = some q) := by
  intro h
  obtain ⟨q, hq⟩ := h [⟨946684800000000000, 100, 0, 100⟩] (by simp)
  have hn : (([⟨946684800000000000, 100, 0, 100⟩] : List Pkt).foldl processRTPUnrepaired
      (new 1 90000 false)).lastTime = none := by decide
  rw [hn] at hq; cases hq

/-- ★ T4 `rtptime_formula` (F64-exact): the report's RTP timestamp is the reference timestamp
advanced, modulo 2^32, by `uint32(float64(elapsed seconds) * float64(rate))`, each float
operation being the exact rational one rounded to nearest-even binary64. -/
theorem rtptime_formula (s : Stream) (t now : Int) (h : s.lastTime = some t) :
    (generateReport s now).rtp =
      (s.lastTs + toUint32 (rne (seconds (now - t) * rne (s.rate : Int)))) % M32 := by
  simp only [generateReport, elapsedTicks, GoTime.sub, h, mul, ofInt]

/-- ★ T5 `ntp_field`: the NTP field is `ToNTP` of the report instant (C20 covers `ToNTP`). -/
theorem ntp_field (s : Stream) (now : Int) : (generateReport s now).ntp = Ntp.toNTP now := rfl

/-- non-vacuity (T1–T3): a three-packet history with a two-packet frame and a late packet. -/
example :
    let ps : List Pkt := [⟨10, 7, 0, 100⟩, ⟨20, 8, 0, 50⟩, ⟨30, 6, 9000, 1⟩, ⟨40, 9, 3000, 7⟩]
    let s := run (new 1 90000 false) ps
    s.packetCount = 4 ∧ s.octetCount = 158 ∧ s.lastSN = 9 ∧ s.lastTs = 3000 ∧ s.lastTime = some 40 ∧
    (run (new 1 90000 false) (ps.take 3)).lastTime = some 10 := by decide

end Interceptor.SenderReport
