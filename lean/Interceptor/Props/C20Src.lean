/-
C20 — the property theorems restated on the code itself: on the Lean definitions that
extract/fn.go regenerates from internal/sequencenumber/unwrapper.go and internal/ntp/ntp.go on every run
(Gen/Fn_sequencenumber.lean, Gen/Fn_ntp.lean).  Each statement follows from the model theorem and the
source-equals-model theorem of Facts/Fn*.lean.  The hand-written model occurs in a statement only as the definition
of "the true value" where the property itself does, and in `srcRun_eq_model`, which equates a run of the generated
`Unwrap` with `Unwrapper.unwrapAll`.
-/
import Interceptor.Facts.FnUnwrapper
import Interceptor.Facts.FnNtpTime
import Interceptor.Props.C20
import Interceptor.Props.C20Ntp
import Interceptor.Props.C20NtpRoundTrip
set_option linter.unusedVariables false
namespace Interceptor.C20Src
open Interceptor.Gen.Fn Interceptor.GoSem Interceptor.Facts.FnUnwrapper

/-- run the translated `Unwrap` over a list of 16-bit numbers, collecting the results. -/
def srcRun : S_sequencenumber_Unwrapper → List Nat → List Int
  | _, [] => []
  | u, i :: is => let r := sequencenumber_Unwrapper_Unwrap u i; r.1 :: srcRun r.2 is

/-- the state bound under which int64 cannot overflow during `n` further calls. -/
def Room (u : S_sequencenumber_Unwrapper) (n : Nat) : Prop :=
  -4611686018427387904 + 65536 * (n : Int) ≤ u.lastUnwrapped ∧
    u.lastUnwrapped ≤ 4611686018427387904 - 65536 * (n : Int)

/-- one translated call keeps the room for the remaining calls. -/
theorem room_step (u : S_sequencenumber_Unwrapper) (i : Nat) (hi : i < 65536) (n : Nat) (h : Room u (n + 1))
    (hinit : u.init = false → u.lastUnwrapped = 0) :
    Room (sequencenumber_Unwrapper_Unwrap u i).2 n ∧ (sequencenumber_Unwrapper_Unwrap u i).2.init = true := by
  obtain ⟨ini, last⟩ := u
  simp only [Room] at h
  cases ini
  · have h0 : last = 0 := hinit rfl
    simp only [Unwrap_fresh, Room, and_true]
    omega
  · have hs := Unwrapper.step_near last i
    simp only [Unwrap_init last i hi (by omega), Room, and_true]
    omega

/-- ★ the translated code, run from a fresh unwrapper over any list of 16-bit numbers short enough for
int64 (2^45 calls), returns exactly what the model returns. -/
theorem srcRun_eq_model (is : List Nat) (hi : ∀ i ∈ is, i < 65536) (hlen : is.length ≤ 35184372088832) :
    srcRun {} is = Unwrapper.unwrapAll none is := by
  have key : ∀ (is : List Nat) (u : S_sequencenumber_Unwrapper), (∀ i ∈ is, i < 65536) → Room u is.length →
      (u.init = false → u.lastUnwrapped = 0) → srcRun u is = Unwrapper.unwrapAll (absU u) is := by
    intro is
    induction is with
    | nil => intros; rfl
    | cons i is ih =>
      intro u hi hr hinit
      have hi0 : i < 65536 := hi i (by simp)
      have hb : -4611686018427387904 ≤ u.lastUnwrapped ∧ u.lastUnwrapped ≤ 4611686018427387904 := by
        unfold Room at hr; simp only [List.length_cons] at hr; omega
      have e := unwrap_src_eq_model u i hi0 hb
      simp only at e
      obtain ⟨r1, r2⟩ := room_step u i hi0 is.length (by simpa using hr) hinit
      simp only [srcRun, Unwrapper.unwrapAll]
      rw [← e]
      simp only
      congr 1
      exact ih _ (fun j hj => hi j (by simp [hj])) r1 (by intro h; rw [r2] at h; exact absurd h (by decide))
  have := key is {} hi (by unfold Room; simp; omega) (by intro _; rfl)
  simpa [absU] using this

/-- ★ T4 on the code: the translated `Unwrap`, started fresh, reconstructs exactly (relative to the first
value's epoch) any stream whose consecutive true values differ by less than 2^15 and which stays above that
epoch. -/
theorem unwrap_exact_src (v0 : Int) (vs : List Int) (h0 : 0 ≤ v0)
    (hstep : Unwrapper.Chain (fun a b => b - a < 32768 ∧ a - b < 32768) v0 vs)
    (hfloor : ∀ v ∈ vs, v0 - v0 % 65536 ≤ v) (hlen : vs.length < 35184372088832) :
    srcRun {} ((v0 :: vs).map fun v => (v % 65536).toNat)
      = (v0 :: vs).map (fun v => v - (v0 - v0 % 65536)) := by
  rw [srcRun_eq_model _ (by intro i hi; simp only [List.mem_map] at hi; obtain ⟨v, _, rfl⟩ := hi; omega)
    (by simp; omega)]
  exact Unwrapper.unwrap_exact v0 vs h0 hstep hfloor

/-- ★ T1/T2 on the code: every result of the translated `Unwrap` (on a state within the int64 margin) is
congruent to its input modulo 2^16, and non-negative when the previous result was. -/
theorem unwrap_mod_nonneg_src (u : S_sequencenumber_Unwrapper) (i : Nat) (hi : i < 65536)
    (hb : -4611686018427387904 ≤ u.lastUnwrapped ∧ u.lastUnwrapped ≤ 4611686018427387904) :
    (sequencenumber_Unwrapper_Unwrap u i).1 % 65536 = (i : Int) ∧
    (0 ≤ u.lastUnwrapped → 0 ≤ (sequencenumber_Unwrapper_Unwrap u i).1) := by
  obtain ⟨ini, last⟩ := u
  cases ini
  · simp only [Unwrap_fresh]; omega
  · simp only [Unwrap_init last i hi hb]
    exact ⟨Unwrapper.unwrap_mod last i hi, fun h => Unwrapper.unwrap_nonneg last i h hi⟩

open Interceptor.Ntp Interceptor.Facts.FnNtp in
/-- ★ T5 on the code: the translated `ToNTP` is monotone non-decreasing on 1970 … 2036-02-07 06:28:15. -/
theorem toNTP_mono_src (a b : Int) (h0 : 0 ≤ a) (hab : a ≤ b) (hb : b ≤ maxNs) : ntp_ToNTP a ≤ ntp_ToNTP b := by
  rw [toNTP_src_eq_model, toNTP_src_eq_model]
  exact_mod_cast toNTP_mono a b h0 hab hb

open Interceptor.Ntp Interceptor.Facts.FnNtp in
/-- ★ T6 on the code: `ToTime(ToNTP(t))` as translated is within one microsecond of `t`. -/
theorem roundtrip_1us_src (t : Int) (h0 : 0 ≤ t) (h : t ≤ maxNs) :
    ntp_ToTime (ntp_ToNTP t) - t ≤ 1000 ∧ t - ntp_ToTime (ntp_ToNTP t) ≤ 1000 := by
  rw [toNTP_src_eq_model, toTime_src_eq_model _ (toNTP_lt t)]
  exact roundtrip_1us t h0 h

open Interceptor.Ntp Interceptor.Facts.FnNtp in
/-- ★ T7 on the code: the 32-bit middle form round-trips against a reference in the same 2^16-second window. -/
theorem ntp32_roundtrip_src (t r : Int) (h0 : 0 ≤ t) (h : t ≤ maxNs) (hr0 : 0 ≤ r) (hr : r ≤ maxNs)
    (hw : ntp_ToNTP t / 281474976710656 = ntp_ToNTP r / 281474976710656) :
    ntp_ToTime32 (ntp_ToNTP32 t) r - t ≤ 1000 ∧ t - ntp_ToTime32 (ntp_ToNTP32 t) r ≤ 16259 + 1000 := by
  rw [toNTP_src_eq_model, toNTP_src_eq_model] at hw
  have hw' : toNTP t / 281474976710656 = toNTP r / 281474976710656 := by exact_mod_cast hw
  rw [toNTP32_src_eq_model]
  rw [toTime32_src_eq_model _ (by unfold toNTP32; omega)]
  exact ntp32_roundtrip t r h0 h hr0 hr hw'

/-- non-vacuity: the translated code on a concrete stream across the wrap. -/
example : srcRun {} [65534, 65535, 1, 0, 4464] = [65534, 65535, 65537, 65536, 70000] := by decide

end Interceptor.C20Src
