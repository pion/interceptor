/-
C03, generator level — what one reporting tick requests, the NACK limit, independence of streams.
Helpers: Proofs/NackGen.lean, Proofs/NackLimit.lean, Proofs/NackGenIndep.lean.
-/
import Interceptor.Props.C03
import Interceptor.Proofs.NackGen
import Interceptor.Proofs.NackGenIndep
import Interceptor.Proofs.NackLimit
namespace Interceptor.ReceiveLog
open Interceptor

/-- ★ T2 at a tick, no limit configured: for a bound stream with ANY arrival history the tick writes
one NACK listing exactly the specification's missing numbers — and nothing when none is missing. -/
theorem tick_requests_exactly_missing (cfg : Cfg) (hs : SizeOK cfg.size) (hmax : cfg.max = 0)
    (qs : List Nat) (hq : ∀ x ∈ qs, x < 65536) (c : Counts) :
    (tickStream cfg { log := runLog cfg.size qs, counts := c }).2 =
      (if NackSpec.missing cfg.size (runSpec cfg.size qs) cfg.skip = [] then none
       else some (NackSpec.missing cfg.size (runSpec cfg.size qs) cfg.skip)) := by
  rw [tickStream_unlimited cfg hmax, missing_eq_spec cfg.size hs qs hq cfg.skip]

/-- T2 at a tick, with a limit: whatever is requested is one of the specification's missing numbers
(so: received in the window / ahead of the highest / at or before the first ⇒ never requested). -/
theorem tick_requests_subset_missing (cfg : Cfg) (hs : SizeOK cfg.size)
    (qs : List Nat) (hq : ∀ x ∈ qs, x < 65536) (c : Counts) (out : List Nat)
    (h : (tickStream cfg { log := runLog cfg.size qs, counts := c }).2 = some out) :
    ∀ y ∈ out, y ∈ NackSpec.missing cfg.size (runSpec cfg.size qs) cfg.skip := by
  have hsub := tickStream_subset cfg ⟨runLog cfg.size qs, c⟩
  rw [h] at hsub
  rw [← missing_eq_spec cfg.size hs qs hq cfg.skip]
  exact hsub

/-! ### the NACK limit -/

/-- T4 on 16-bit numbers (the counter argument on its own; `nack_limit` below is about packets and does not go
through this statement): with `maxNacksPerPacket = max > 0`, over ANY interleaving of arrivals and ticks, a number
that is missing at every tick of the run is requested at most `max − counter` times. -/
theorem nack_limit_while_missing (cfg : Cfg) (h0 : 0 < cfg.max) (hmax : cfg.max < 65536) (y : Nat)
    (ops : List SOp) (st : Stream) (hc : cnt st.counts y ≤ cfg.max)
    (hm : missingAtEveryTick cfg y st ops) :
    reqCount cfg y st ops + cnt st.counts y ≤ cfg.max := by
  induction ops generalizing st with
  | nil => simpa [reqCount] using hc
  | cons op ops ih =>
    cases op with
    | arrive q =>
      simp only [reqCount, sstep, Option.getD_none, List.not_mem_nil, if_false, Nat.zero_add]
      exact ih { st with log := add st.log q } hc hm
    | tick =>
      obtain ⟨hy, hm'⟩ := hm
      obtain ⟨t1, t2⟩ := tickStream_limit cfg h0 hmax st y hy hc
      have := ih (tickStream cfg st).1 t2 hm'
      show (if y ∈ ((tickStream cfg st).2).getD [] then 1 else 0) + reqCount cfg y (tickStream cfg st).1 ops
        + cnt st.counts y ≤ cfg.max
      omega

/-- non-vacuity of `nack_limit_while_missing`: size 64, max 2, arrivals 10 and 12, then ticks: 11 is missing at
every tick and the counter starts at 0, so the hypotheses are met. -/
example :
    let cfg : Cfg := { size := 64, skip := 0, max := 2 }
    let st : Stream := { log := runLog 64 [10, 12], counts := ∅ }
    missingAtEveryTick cfg 11 st [.tick, .tick, .tick] ∧ cnt st.counts 11 ≤ cfg.max ∧ 0 < cfg.max := by
  refine ⟨⟨by decide, by decide, by decide, trivial⟩, ?_, by decide⟩
  show cnt (∅ : Counts) 11 ≤ 2
  rw [cnt_empty]; omega

/-- spec side of T4: under every arrival `first` is fixed, `hi` only moves forward, and a packet that is
gone for good (`Gone`: at or before the first packet, behind the window floor `hi − size`, or received)
stays gone — it can never become missing again. -/
theorem gone_for_good (size skip : Nat) (a a' : NackSpec.Stream) (q : Nat)
    (h : NackSpec.arrive size (some a) q = some a') (x : Int) (hg : Gone size a x) :
    Gone size a' x ∧ ¬ MissingU size skip a' x :=
  ⟨(arrive_mono size a a' q h).2.2 x hg, fun hm => missingU_not_gone hm ((arrive_mono size a a' q h).2.2 x hg)⟩

/-- ★ T4 (NACK limit, per PACKET): with `maxNacksPerPacket = max > 0`, over ANY interleaving of arrivals
(any 16-bit numbers) and ticks (any number of them) on a freshly bound stream, every packet — identified
by its UNWRAPPED number `x` under the specification's unwrapping, counted while it is inside the window
`(hi − size, hi]` — is requested at most `max` times in total.  (Aliasing across a 2^16 cycle is covered:
the window is at most 2^15 wide, so inside the window the 16-bit value determines the packet.) -/
theorem nack_limit (cfg : Cfg) (hs : SizeOK cfg.size) (h0 : 0 < cfg.max) (hmax : cfg.max < 65536)
    (ops : List SOp) (hq : ∀ q, SOp.arrive q ∈ ops → q < 65536) (x : Int) :
    reqCountU cfg x { log := new cfg.size, counts := ∅ } none ops ≤ cfg.max :=
  reqCountU_fresh cfg hs h0 hmax x ops hq _ rfl (fun y => by rw [cnt_empty]; omega)

/-- T4, refined: from any state related to the specification (`R`) with counters within the limit, a packet
that is gone for good is never requested again, and a missing packet at most `max − counter` more times. -/
theorem nack_limit_from (cfg : Cfg) (hs : SizeOK cfg.size) (h0 : 0 < cfg.max) (hmax : cfg.max < 65536)
    (ops : List SOp) (hq : ∀ q, SOp.arrive q ∈ ops → q < 65536) (x : Int)
    (st : Stream) (a : NackSpec.Stream) (lcU : Int) (h : R cfg.size st.log a lcU)
    (hC : ∀ y, cnt st.counts y ≤ cfg.max) :
    (Gone cfg.size a x → reqCountU cfg x st (some a) ops = 0) ∧
    (MissingU cfg.size cfg.skip a x → reqCountU cfg x st (some a) ops + cnt st.counts (sq x) ≤ cfg.max) ∧
    reqCountU cfg x st (some a) ops ≤ cfg.max :=
  reqCountU_started cfg hs h0 hmax x ops hq st a lcU h hC

/-- non-vacuity of `nack_limit`: size 64, max 2, arrivals 10 and 12 (11 is missing), five ticks, then 11
arrives, more ticks, then the same 16-bit number is lost again one full cycle later. -/
example :
    reqCountU { size := 64, skip := 0, max := 2 } 11 { log := new 64, counts := ∅ } none
      [.arrive 10, .arrive 12, .tick, .tick, .tick, .tick, .tick, .arrive 11, .tick,
       .arrive 30000, .arrive 60000, .arrive 10, .arrive 12, .tick, .tick, .tick] ≤ 2 :=
  nack_limit { size := 64, skip := 0, max := 2 } ⟨by decide, by decide, by decide⟩ (by decide) (by decide) _
    (by intro q hq; simp at hq; omega) 11

/-! ### independence of streams -/

/-- ★ T3: the NACKs for SSRC `a` over any run of the interceptor (binds, unbinds, packets, ticks on any
SSRCs) are exactly the NACKs produced by running only the operations that concern `a` on only
`a`'s part of the state: the output for a stream is a function of that stream's own sub-history. -/
theorem streams_independent (a : Nat) (ops : List GOp) (g : Gen) :
    (grun g ops).map (only a) = (grun (restrict g a) (ops.filter (GOp.concerns a))).map (only a) := by
  have key : ∀ (ops : List GOp) (g1 g2 : Gen), g1.cfg = g2.cfg → only a g1.streams = only a g2.streams →
      (grun g1 ops).map (only a) = (grun g2 (ops.filter (GOp.concerns a))).map (only a) := by
    intro ops
    induction ops with
    | nil => intros; rfl
    | cons op ops ih =>
      intro g1 g2 hc hs
      by_cases hop : op.concerns a = true
      · obtain ⟨s1, s2, s3⟩ := gstep_concerns g1 g2 a hc hs op hop
        simp only [List.filter_cons, hop, if_true]
        by_cases ht : op = .tick
        · subst ht
          simp only [grun, List.map_cons]
          rw [show only a (tick g1).2 = only a (tick g2).2 from s3]
          congr 1
          exact ih _ _ s1 s2
        · rw [grun_cons_of_ne_tick g1 ops ht, grun_cons_of_ne_tick g2 _ ht]
          exact ih _ _ s1 s2
      · have hop' : op.concerns a = false := by simpa using hop
        obtain ⟨s1, s2⟩ := gstep_other g1 a op hop'
        simp only [List.filter_cons, hop']
        have ht : op ≠ .tick := by rintro rfl; simp [GOp.concerns] at hop'
        rw [grun_cons_of_ne_tick g1 ops ht]
        exact ih _ _ (s1.trans hc) (s2.trans hs)
  exact key ops g (restrict g a) rfl (by simp [restrict, only_only])

/-- non-vacuity of `streams_independent`: two streams, the NACK for SSRC 5 is the same with and without
the traffic of SSRC 9. -/
example :
    let g : Gen := { cfg := { size := 64, skip := 0, max := 0 }, streams := [] }
    (grun g [.bind 5, .bind 9, .rtp 5 10, .rtp 9 100, .rtp 5 12, .rtp 9 103, .tick]).map (only 5) = [[(5, [11])]] := by
  decide

end Interceptor.ReceiveLog
