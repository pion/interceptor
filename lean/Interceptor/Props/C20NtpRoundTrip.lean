/-
C20 — NTP conversion round trips (over the exact binary64 model, Base/F64.lean; the model is
compared bit for bit with the Go code by the `ntp` correspondence stream).
-/
import Interceptor.Proofs.NtpRoundTrip
set_option linter.unusedVariables false
namespace Interceptor.Ntp
open Interceptor.F64

/-- ★ T6: converting a Unix-nanosecond instant between 1970-01-01 and 2036-02-07 06:28:15 UTC
(`maxNs`) to the 64-bit NTP format and back returns it to within one microsecond.  (The error
budget gives 486 ns late / 487 ns early: `roundtrip_tight`.) -/
theorem roundtrip_1us (t : Int) (h0 : 0 ≤ t) (h : t ≤ maxNs) :
    toTime (toNTP t) - t ≤ 1000 ∧ t - toTime (toNTP t) ≤ 1000 := by
  obtain ⟨a, b⟩ := roundtrip_tight t h0 h
  constructor <;> omega

/-- ★ T7: the 32-bit middle form (`ToNTP32`, 16.16 fixed point) expanded against a reference
instant `r` in the same 2^16-second NTP window (`hw`) returns the instant to within the dropped
low 16 bits (2^-16 s ≈ 15258.8 ns, only ever downwards) plus the microsecond of T6.  (The error
budget gives 486 ns late / 15746 ns early: `ntp32_roundtrip_tight`.) -/
theorem ntp32_roundtrip (t r : Int) (h0 : 0 ≤ t) (h : t ≤ maxNs) (hr0 : 0 ≤ r) (hr : r ≤ maxNs)
    (hw : toNTP t / 281474976710656 = toNTP r / 281474976710656) :
    toTime32 (toNTP32 t) r - t ≤ 1000 ∧ t - toTime32 (toNTP32 t) r ≤ 16259 + 1000 := by
  obtain ⟨a, b⟩ := ntp32_roundtrip_tight t r h0 h hw
  constructor <;> omega

/-- non-vacuity / sanity: a concrete instant (2026-09-21) satisfies the hypotheses of T6, and
together with a reference 30 s later those of T7 (the window hypothesis by kernel evaluation of
the model). -/
example : toTime (toNTP 1790000000123456789) - 1790000000123456789 ≤ 1000 ∧
    1790000000123456789 - toTime (toNTP 1790000000123456789) ≤ 1000 := by
  apply roundtrip_1us <;> (try unfold maxNs) <;> decide

example : toTime32 (toNTP32 1790000000123456789) 1790000030000000000 - 1790000000123456789 ≤ 1000 ∧
    1790000000123456789 - toTime32 (toNTP32 1790000000123456789) 1790000030000000000
      ≤ 16259 + 1000 := by
  have hw : toNTP 1790000000123456789 / 281474976710656
      = toNTP 1790000030000000000 / 281474976710656 := by decide +kernel
  apply ntp32_roundtrip _ _ _ _ _ _ hw <;> (try unfold maxNs) <;> decide

end Interceptor.Ntp

#print axioms Interceptor.Ntp.roundtrip_1us
#print axioms Interceptor.Ntp.ntp32_roundtrip
