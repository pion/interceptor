/-
C18 — the jitter buffer emits pushed packets in sequence order, at most once.
Property theorems, the definition `WF` they speak of, and the decidability of `Rec.Quiet` for the examples.

Structure.  `Model/JitterBuffer.lean` is the Go code: the PriorityQueue at heap level
(`heapImpl`) and the JitterBuffer written over an abstract queue implementation.
`Spec/JitterBuffer.lean` is the list-level queue (`listImpl`) and the notion `Refines I`
("implementation `I` acts on the buffered entries exactly as the list operations do on every
state it can reach").  The theorems about the JitterBuffer below hold for *every* queue
implementation with a refinement `R : Refines I`; `Proofs/JitterBufferHeap.lean` gives the
refinement of the heap-level queue (`heapRefines`).
-/
import Interceptor.Proofs.JitterBufferList
import Interceptor.Proofs.JitterBufferSim
import Interceptor.Proofs.JitterBufferHeap
set_option linter.unusedVariables false
namespace Interceptor.JitterBuffer

/-- WF: the nodes reachable from the head form an acyclic chain (`Seg … none` over a duplicate-free
index list) of nodes that all carry a packet, the cached `length` is the number of reachable
nodes (mod 2^16, the field is a uint16), and the priorities are sorted.  (`HRep q l` is this
together with the abstraction "the entries are `l`".) -/
def WF (q : PQ) : Prop := ∃ l, HRep q l ∧ SortedL l

/-- what WF says in terms of pointers: a duplicate-free chain ending in nil whose length is the
cached length; the driver's `chain` walk terminates within fuel and returns exactly it. -/
theorem wf_meaning {q : PQ} (h : WF q) :
    ∃ is : List Nat, Seg q.nodes q.head is none ∧ is.Nodup ∧ q.length = is.length % 65536 ∧
      PQ.walk q.nodes (PQ.fuel q.nodes) q.head = some is := by
  obtain ⟨l, ⟨is, hseg, hnd, _, _, hlen, hsz⟩, _⟩ := h
  exact ⟨is, hseg, hnd, hlen, walk_spec q.nodes is q.head _ hseg (by unfold PQ.fuel; omega)⟩

/-- ★ T1 `wf_new`: the empty queue is well-formed. -/
theorem wf_new : WF {} := ⟨[], heapRefines.empty, List.Pairwise.nil⟩

/-- ★ T1 `wf_push`: Push succeeds and preserves WF (false on the unfixed code for a duplicate
of the head, F-21: the list became cyclic). -/
theorem wf_push {q : PQ} (h : WF q) (v : Pkt) (prio : Nat) : ∃ q', q.push v prio = .ok q' ∧ WF q' := by
  obtain ⟨l, hr, hs⟩ := h
  obtain ⟨q', hp, hr'⟩ := heap_push hr v prio
  exact ⟨q', hp, _, hr', insertL_sorted _ hs⟩

/-- T1 (shared step): a successful removing operation that refines `popByL` on a sorted,
represented list leaves a well-formed queue. -/
theorem wf_of_popRel {l : List Entry} {r : Res (Option Pkt × PQ)} {pred : Entry → Bool}
    (hs : SortedL l) (h : PopRel HRep r (popByL l pred)) : ∀ v q', r = .ok (v, q') → WF q' := by
  intro v q' hr
  subst hr
  cases hp : popByL l pred with
  | ok x => rw [hp] at h; exact ⟨_, h.2, popByL_sorted (v := x.1) (l' := x.2) hp hs⟩
  | err e => rw [hp] at h; exact h.elim
  | panic e => rw [hp] at h; exact h.elim

/-- ★ T1 `wf_popAt`: a successful PopAtSequence preserves WF. -/
theorem wf_popAt {q : PQ} (h : WF q) (sq : Nat) : ∀ v q', q.popAt sq = .ok (v, q') → WF q' := by
  obtain ⟨l, hr, hs⟩ := h
  exact wf_of_popRel hs (heap_popAt hr sq)

/-- ★ T1 `wf_popAtTimestamp`: a successful PopAtTimestamp preserves WF. -/
theorem wf_popAtTimestamp {q : PQ} (h : WF q) (ts : Nat) : ∀ v q', q.popAtTs ts = .ok (v, q') → WF q' := by
  obtain ⟨l, hr, hs⟩ := h
  exact wf_of_popRel hs (heap_popAtTs hr ts)

/-- ★ T1 `wf_pop`: a successful Pop (removal of the head) preserves WF. -/
theorem wf_pop {q : PQ} (h : WF q) : ∀ v q', q.pop = .ok (v, q') → WF q' := by
  obtain ⟨l, hr, hs⟩ := h
  intro v q' hq
  have := heap_pop hr
  rw [hq] at this
  cases l with
  | nil => exact this.elim
  | cons e t => exact ⟨t, this.2, (List.pairwise_cons.mp hs).2⟩

/-- ★ T1 `wf_clear`: Clear succeeds and yields the well-formed EMPTY queue (false on the unfixed
code, F-22a: the nodes stayed reachable and `length` then underflowed). -/
theorem wf_clear {q : PQ} (h : WF q) : ∃ q', q.clear = .ok q' ∧ HRep q' [] ∧ WF q' := by
  obtain ⟨l, hr, _⟩ := h
  obtain ⟨q', hc, hr'⟩ := heap_clear hr
  exact ⟨q', hc, hr', [], hr', List.Pairwise.nil⟩

/-- ★ T2 (heap level) `refines_multiset`: on well-formed states every operation of the heap-level
queue acts on the represented entry list exactly as the list-level operation: this is the
record `heapRefines`; its fields restated. -/
theorem refines_multiset_heap {q : PQ} {l : List Entry} (h : HRep q l) (v : Pkt) (k : Nat) :
    (∃ q', q.push v k = .ok q' ∧ HRep q' (insertL l (k, v))) ∧
    q.find k = findL l k ∧
    PopRel HRep (q.popAt k) (popByL l (fun e => e.1 == k)) ∧
    PopRel HRep (q.popAtTs k) (popByL l (fun e => e.2.ts == k)) ∧
    PopRel HRep q.pop (popL l) ∧
    (∃ q', q.clear = .ok q' ∧ HRep q' []) ∧
    q.length = l.length % 65536 :=
  ⟨heap_push h v k, heap_find h k, heap_popAt h k, heap_popAtTs h k, heap_pop h, heap_clear h,
    heapRefines.length h⟩

/-- ★ T2a `refines_multiset` (Push): the entry is added, nothing else changes (as a multiset),
and a sorted queue stays sorted. -/
theorem refines_multiset_push (l : List Entry) (e : Entry) :
    (insertL l e).Perm (e :: l) ∧ (SortedL l → SortedL (insertL l e)) :=
  ⟨insertL_perm l e, insertL_sorted e⟩

/-- ★ T2b `refines_multiset` (PopAt / PopAtTimestamp succeed): exactly one entry is removed,
it satisfies the key, it is the very entry that was buffered (first match in queue order),
the rest is unchanged and stays sorted. -/
theorem refines_multiset_pop {l l' : List Entry} {pred : Entry → Bool} {v : Option Pkt}
    (h : popByL l pred = .ok (v, l')) :
    ∃ e, v = some e.2 ∧ e ∈ l ∧ pred e = true ∧ l.find? pred = some e ∧ l.Perm (e :: l') ∧
      (SortedL l → SortedL l') := by
  obtain ⟨e, hv, hf, hm, hp, _, hperm⟩ := popByL_ok h
  exact ⟨e, hv, hm, hp, hf, hperm, popByL_sorted h⟩

/-- ★ T2c: a pop for a key that is not buffered fails; a failing call returns no new queue
(the type of `err` carries none), i.e. the buffer is not disturbed. -/
theorem refines_multiset_absent (l : List Entry) (pred : Entry → Bool)
    (h : ∀ e ∈ l, pred e = false) : ∃ x, popByL l pred = .err x := by
  unfold popByL
  split
  · exact ⟨_, rfl⟩
  · have : l.find? pred = none := List.find?_eq_none.mpr (fun e he => by simp [h e he])
    rw [this]
    exact ⟨_, rfl⟩

/-- ★ T2d: Find returns a buffered entry with the requested key, or fails if there is none. -/
theorem refines_multiset_find (l : List Entry) (sq : Nat) :
    (∀ v, findL l sq = .ok v → ∃ e, v = some e.2 ∧ e ∈ l ∧ e.1 = sq) ∧
    (∀ x, findL l sq = .err x → ∀ e ∈ l, e.1 ≠ sq) :=
  ⟨fun v h => findL_ok h, fun x h => findL_err h⟩

/-- ★ T3a `pops_consecutive`: start from a fresh buffer (any minimum start count), push a
first packet `p0`, then run ANY history of exported calls.  The successful pops at the playout
head return the sequence numbers `p0.seq, p0.seq+1, p0.seq+2, …` (mod 2^16) — provided the
history contains no call that moves the head by other means (`Rec.Quiet`: no SetPlayoutHead,
no Clear(true), no Clear(false) before playback started, no successful PopAtSequence for a
number other than the head).  Holds over every queue implementation refining the list queue. -/
theorem pops_consecutive {I : QImpl} (R : Refines I) (m : Option Nat) (hm : m.getD 50 < 65536)
    (p0 : Pkt) (ops : List Op)
    (hq : ∀ r ∈ ((JB.new I m).run (.push p0 :: ops)).2, r.Quiet) :
    Consec p0.seq (headPops ((JB.new I m).run (.push p0 :: ops)).2) := by
  have hsim := (sim_run R (jrep_new R m) (.push p0 :: ops)).1
  rw [hsim] at hq ⊢
  rw [run_cons] at hq ⊢
  obtain ⟨hinv, hhead⟩ := inv_first_push (JB.new listImpl m) rfl rfl rfl hm p0
  have := consec_run hinv ops (fun r hr => hq r (List.mem_cons_of_mem _ hr))
  simp only [JB.step, headPops, Op.atHead]
  rw [hhead] at this
  simpa using this

/-- ★ T3b: each successful Pop returns the packet whose sequence number is the playout head
and advances the head by one (mod 2^16); in every other quiet call the head stays. (One step,
from any state satisfying the invariant `Inv`, which `pops_consecutive` shows is reachable.) -/
theorem pop_returns_head {I : QImpl} (R : Refines I) {jb : JB I} {js : LJB} (h : JRep R jb js)
    (hi : Inv js) (p : Pkt) (hp : (jb.pop).2.ret = .ok (some p)) :
    p.seq = jb.head ∧ (jb.pop).1.head = (jb.head + 1) % 65536 := by
  have hs := sim_step R h .pop
  simp only [JB.step] at hs
  rw [hs.1] at hp
  rw [hs.2.head, h.head]
  have := (inv_step hi .pop (by simp [Rec.Quiet])).2
  simp only [JB.step] at this
  rcases this with ⟨_, p', hp', hseq, hh⟩ | ⟨hno, _⟩
  · rw [hp] at hp'; injection hp' with hp'; injection hp' with hp'; subst hp'
    exact ⟨hseq, hh⟩
  · rcases hno with h' | h'
    · cases h'
    · exact absurd hp (h' p)

/-- ★ T3c `at most once`: over a whole history from a fresh buffer, every object is handed
out by the removing calls (Pop, PopAtSequence, PopAtTimestamp) at most as often as it was
pushed; in particular, if the pushed objects are pairwise distinct, no object is returned twice. -/
theorem pops_at_most_once {I : QImpl} (R : Refines I) (m : Option Nat) (ops : List Op) :
    (∀ o, (objs (poppedOf ((JB.new I m).run ops).2)).count o ≤ (objs (pushedOf ops)).count o) ∧
    ((objs (pushedOf ops)).Nodup → (objs (poppedOf ((JB.new I m).run ops).2)).Nodup) := by
  have hsim := (sim_run R (jrep_new R m) ops).1
  rw [hsim]
  have hc : ∀ o, (objs (poppedOf ((JB.new listImpl m).run ops).2)).count o ≤ (objs (pushedOf ops)).count o := by
    intro o
    have := run_count (JB.new listImpl m) ops o
    have h0 : (objs (pkts (JB.new listImpl m).q)).count o = 0 := rfl
    omega
  refine ⟨hc, fun hnd => ?_⟩
  rw [List.nodup_iff_count] at hnd ⊢
  exact fun o => Nat.le_trans (hc o) (hnd o)

/-- The full-strength reading of clause 3 (ALL interleavings, including PopAtSequence) is
false of the code: `PopAtSequence(sq)` advances the playout head even when `sq` is not the
head, so the packet at the head is skipped by the following `Pop`s.  Witness (min = 1): push
10..13; Pop → 10; PopAtSequence(13) → 13 and the head becomes 12; Pop → 12: number 11 stays
buffered and is never popped. -/
theorem pops_consecutive_false :
    ¬ (∀ (m : Option Nat) (p0 : Pkt) (ops : List Op),
        (∀ op ∈ ops, (∀ h, op ≠ .setHead h) ∧ (∀ r, op ≠ .clear r)) →
        Consec p0.seq (headPops ((JB.new listImpl m).run (.push p0 :: ops)).2)) := by
  intro h
  have := h (some 1) { seq := 10, ts := 0, obj := 1 }
    [.push { seq := 11, ts := 0, obj := 2 }, .push { seq := 12, ts := 0, obj := 3 },
     .push { seq := 13, ts := 0, obj := 4 }, .pop, .popSeq 13, .pop]
    (by intro op hop; simp at hop; rcases hop with rfl | rfl | rfl | rfl | rfl | rfl <;> simp)
  -- the head pops return 10, 13, 12: the second one is not 11
  exact absurd this.2.1 (by decide)

/-- ★ T3a for the Go code's queue (heap-level model): instance of `pops_consecutive`. -/
theorem pops_consecutive_heap (m : Option Nat) (hm : m.getD 50 < 65536) (p0 : Pkt) (ops : List Op)
    (hq : ∀ r ∈ ((JB.new heapImpl m).run (.push p0 :: ops)).2, r.Quiet) :
    Consec p0.seq (headPops ((JB.new heapImpl m).run (.push p0 :: ops)).2) :=
  pops_consecutive heapRefines m hm p0 ops hq

/-- ★ T3c for the heap-level model. -/
theorem pops_at_most_once_heap (m : Option Nat) (ops : List Op)
    (h : (objs (pushedOf ops)).Nodup) : (objs (poppedOf ((JB.new heapImpl m).run ops).2)).Nodup :=
  (pops_at_most_once heapRefines m ops).2 h

/-- every state of the heap-level JitterBuffer reachable from `New` by any history is in the
simulation relation with the list-level one (so `clear_forgets`, `rebind_fresh`,
`pop_returns_head` apply to it). -/
theorem reachable_jrep (m : Option Nat) (ops : List Op) :
    JRep heapRefines ((JB.new heapImpl m).run ops).1 ((JB.new listImpl m).run ops).1 :=
  (sim_run heapRefines (jrep_new heapRefines m) ops).2

/-- the driver runs histories that buffer a full sequence-number cycle on the list queue with a
cached count (`fastImpl`) instead of the heap-level queue: both refine the list queue, so every
history yields exactly the same records (results, events, playout head). -/
theorem fast_equals_heap (m : Option Nat) (ops : List Op) :
    ((JB.new fastImpl m).run ops).2 = ((JB.new heapImpl m).run ops).2 := by
  rw [(sim_run fastRefines (jrep_new fastRefines m) ops).1, (sim_run heapRefines (jrep_new heapRefines m) ops).1]

/-- ★ T4 `buffering_refuses`: while Buffering, Pop, PopAtSequence and PopAtTimestamp return
ErrPopWhileBuffering and leave the buffer untouched (any queue implementation, any state). -/
theorem buffering_refuses {I : QImpl} (jb : JB I) (h : jb.state = .buffering) (sq ts : Nat) :
    (jb.pop = (jb, { ret := .err "buffering" })) ∧
    (jb.popAtSequence sq = (jb, { ret := .err "buffering" })) ∧
    (jb.popAtTimestamp ts = (jb, { ret := .err "buffering" })) := by
  simp [JB.pop, JB.popAtSequence, JB.popAtTimestamp, h]

/-- ★ T5 `clear_forgets`: after `Clear` (with either flag), whatever any later pop, peek or
find returns was pushed after the Clear. -/
theorem clear_forgets {I : QImpl} (R : Refines I) {jb : JB I} {js : LJB} (h : JRep R jb js)
    (reset : Bool) (ops : List Op) :
    ∀ r ∈ ((jb.clear reset).1.run ops).2, ∀ p, r.pkt? = some p → p ∈ pushedOf ops := by
  have hc := (sim_step R h (.clear reset)).2
  simp only [JB.step] at hc
  rw [(sim_run R hc ops).1]
  intro r hr p hp
  have hq : (js.clear reset).1.q = [] := by cases reset <;> rfl
  rcases (run_prov (js.clear reset).1 ops).1 r hr p hp with h' | h'
  · rw [hq] at h'; cases h'
  · exact h'

/-- ★ T5b: immediately after `Clear` the queue is empty: every find / peek fails. -/
theorem clear_empties {I : QImpl} (R : Refines I) {jb : JB I} {js : LJB} (h : JRep R jb js)
    (reset : Bool) (sq : Nat) (b : Bool) :
    ((jb.clear reset).1.peekAtSequence sq).ret = .err "notfound" ∧
    ((jb.clear reset).1.peek b).ret = .err "underrun" := by
  have hc := (sim_step R h (.clear reset)).2
  simp only [JB.step] at hc
  have h1 := (sim_step R hc (.peekSeq sq)).1
  have h2 := (sim_step R hc (.peek b)).1
  simp only [JB.step] at h1 h2
  rw [h1, h2]
  cases reset <;> exact ⟨rfl, rfl⟩

/-- ★ T6 `rebind_fresh`: after `Clear(true)` (what the interceptor does on Unbind/Close) the
next push sets the playout head to its own sequence number and playback restarts after 50
packets (false on the unfixed code, F-22b: `playoutReady` stayed set). -/
theorem rebind_fresh {I : QImpl} (R : Refines I) {jb : JB I} {js : LJB} (h : JRep R jb js) (p : Pkt) :
    ((jb.clear true).1.push p).1.head = p.seq ∧ (jb.clear true).1.state = .buffering ∧
    (jb.clear true).1.ready = false ∧ (jb.clear true).1.minStart = 50 := by
  have hc := (sim_step R h (.clear true)).2
  simp only [JB.step] at hc
  have hp := (sim_step R hc (.push p)).2
  simp only [JB.step] at hp
  rw [hp.head, hc.state, hc.ready, hc.minStart]
  have := (inv_first_push (js.clear true).1 rfl rfl rfl (by show 50 < 65536; omega) p).2
  exact ⟨this, rfl, rfl, rfl⟩

instance (r : Rec) : Decidable r.Quiet := by
  unfold Rec.Quiet; split <;> infer_instance

/-- `pops_consecutive`: a history satisfying the hypothesis (out-of-order arrival across the
wrap, a duplicate, a failed pop, Clear(false) after playback started) with four successful pops. -/
example :
    let ops : List Op := [.push { seq := 0, ts := 2, obj := 2 }, .push { seq := 65535, ts := 1, obj := 3 },
      .pop, .pop, .pop, .popSeq 7, .peek true, .push { seq := 1, ts := 3, obj := 4 }, .pop, .clear false,
      .push { seq := 2, ts := 4, obj := 5 }, .popSeq 2]
    (∀ r ∈ ((JB.new heapImpl (some 2)).run (.push { seq := 65535, ts := 1, obj := 1 } :: ops)).2, r.Quiet) ∧
    headPops ((JB.new heapImpl (some 2)).run (.push { seq := 65535, ts := 1, obj := 1 } :: ops)).2 = [65535, 0, 1, 2] := by
  decide

/-- `WF` is inhabited by non-trivial queues (three pushes incl. a duplicate of the head): the
duplicate is found first, the length is 3. -/
example : ∃ q, WF q ∧ q.length = 3 ∧ q.find 5 = .ok (some { seq := 5, ts := 0, obj := 3 }) := by
  obtain ⟨q1, _, r1⟩ := heap_push heapRefines.empty { seq := 5, ts := 0, obj := 1 } 5
  obtain ⟨q2, _, r2⟩ := heap_push r1 { seq := 6, ts := 0, obj := 2 } 6
  obtain ⟨q3, _, r3⟩ := heap_push r2 { seq := 5, ts := 0, obj := 3 } 5
  refine ⟨q3, ⟨_, r3, insertL_sorted _ (insertL_sorted _ (insertL_sorted _ List.Pairwise.nil))⟩, ?_, ?_⟩
  · exact (heapRefines.length r3).trans rfl
  · rw [heap_find r3]; rfl

end Interceptor.JitterBuffer
