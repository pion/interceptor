/-
C06 — receiver reports follow RFC 3550 for the observed reception history.
Model: Model/ReceiverReport.lean (the code with the F-07 repair); spec: Spec/ReceiverReport.lean
(recounts over the event history: extended sequence numbers, received set, saturating sums, the
A.8 jitter recurrence, last SR).  Each theorem equates what the model's reports carry over an
arbitrary history of RTP packets, sender reports and report ticks (`runEv`) with the spec's recount.
The simulation invariants are in Proofs/Receiver*.lean; the F-08 witness and its one-state argument (`f08_alias`) are here.
-/
import Interceptor.Proofs.ReceiverLoss
set_option linter.unusedVariables false
namespace Interceptor.ReceiverReport
open Interceptor Interceptor.F64 Interceptor.GoTime Interceptor.ReceiverReport.Spec

/-- ★ T1 `ext_highest`: over any history (any number of sequence-number cycles; the 16-bit cycle
counter wraps with the 32-bit field) every report's `LastSequenceNumber` is the extended highest
sequence number received — cycles in the upper 16 bits — modulo 2^32, and 0 before any packet. -/
theorem ext_highest (ssrc rate : Nat) (evs : List Ev) (hwf : ∀ e ∈ evs, e.wf) :
    (runEv (new ssrc rate) evs).map (·.ext) = extReports none evs :=
  ext_run (new ssrc rate) none evs hwf ⟨rfl, rfl, rfl⟩

/-- ★ T1, step form: a packet ahead of the highest by `d < 2^15` advances the extended highest by
exactly `d`; any other packet leaves it. -/
theorem ext_highest_step (h seq : Nat) (hs : seq < 65536) :
    highest (some h) seq = (if ahead h seq then h + sub16 seq (h % 65536) else h) := by
  simp only [highest, extend]; split <;> simp_all

/-- T2 ★ `loss_eq_spec` under the explicit hypothesis `H8192` (every packet ahead of the highest
keeps the open report interval within 8192 numbers; every other packet is less than 8192 behind
the highest): every report's fraction-lost is `⌊256·lost/expected⌋` with `expected = h₁ − h₀` and
`lost` = the numbers of `(h₀, h₁]` not received so far (0 for an empty interval), and its
cumulative-lost is the saturating sum of the interval losses.  Without `H8192` the statement is
false: `loss_eq_spec_unrestricted_false` (F-08). -/
theorem loss_eq_spec (ssrc rate : Nat) (evs : List Ev) (hwf : ∀ e ∈ evs, e.wf)
    (hH : H8192 none evs) :
    (runEv (new ssrc rate) evs).map lossObs = (lossReports none evs).map specObs :=
  loss_run0 (new ssrc rate) evs hwf hH ⟨rfl, rfl, rfl, rfl, rfl⟩

/-- the F-08 witness: 10001 is lost, then a packet 8193 behind the highest arrives and lands on
10001's bitmap position. -/
def f08Witness : List Ev := [.rtp 0 10000 0, .report 0, .rtp 0 10002 0, .rtp 0 1809 0, .report 0]

/-- on a state that tracks highest 10002 (extended 75538) with the last report at 10000 and 10001
missing, the late packet 1809 is not ahead, so it only sets its bitmap position, which is that of
10001: the next report counts no loss. -/
theorem f08_alias (s : Stream) (now now' : Int) (r : RelLoss s ⟨75538, 75536, [75538, 75536], 0⟩) :
    (generateReport (processRTP s now 1809 0) now').1.totalLost = 0 := by
  have hold : ¬ adv s 1809 := by rw [adv, r.last]; decide
  have hb : getBit (setBit s.bits 1809 true) 10001 = true := by
    rw [getBit_setBit _ _ _ _ r.size]; exact if_pos (by decide)
  rw [report_total _ _ (by rw [processRTP_totalLost, r.total]; decide), processRTP_totalLost, r.total,
    lostInterval_eq, expectedInterval, processRTP_old s now 1809 0 r.started hold]
  dsimp only
  rw [r.last, r.lastReport]
  show min _ (0 + ((if getBit _ 10001 then 0 else 1) + 0)) = 0
  rw [hb]
  rfl

/-- F-08: the unrestricted statement is false — on `f08Witness` the code reports cumulative lost 0
where one packet of the interval was never received (corpus/C06/F-08.ops). -/
theorem loss_eq_spec_unrestricted_false :
    ¬ (∀ (evs : List Ev), (∀ e ∈ evs, e.wf) →
        (runEv (new 1 90000) evs).map lossObs = (lossReports none evs).map specObs) := by
  intro h
  have h1 := h f08Witness (by
    intro e he
    simp only [f08Witness, List.mem_cons, List.not_mem_nil, or_false] at he
    rcases he with rfl | rfl | rfl | rfl | rfl
    exacts [⟨by decide, by decide⟩, trivial, ⟨by decide, by decide⟩, ⟨by decide, by decide⟩, trivial])
  rw [show (lossReports none f08Witness).map specObs = [(0, 0), (128, 1)] by decide] at h1
  simp only [f08Witness, runEv, stepEv, List.map_cons, List.map_nil, List.cons.injEq, lossObs, Prod.mk.injEq] at h1
  -- the model side by argument: `decide` on it would make the kernel build the 8192-position
  -- array.  The first three events satisfy `H8192`, so the state still tracks the history.
  have r3 : RelLoss (processRTP (generateReport (processRTP (new 1 90000) 0 10000 0) 0).2 0 10002 0)
      ⟨75538, 75536, [75538, 75536], 0⟩ :=
    relLoss_rtp _ _ 0 10002 0 (by decide)
      (relLoss_report _ _ 0 (relLoss_first (new 1 90000) 0 10000 0 (by decide) ⟨rfl, rfl, rfl, rfl, rfl⟩)).2.2
      (by decide)
  rw [f08_alias _ 0 0 r3] at h1
  exact absurd h1.2.1.2 (by decide)

/-- ★ T3 `fraction_floor`: the float expression `uint8(float64(l·256)/float64(e))` (binary64,
round-to-nearest-even, truncating conversion) equals `⌊256·l/e⌋` for `0 ≤ l < e ≤ 65535`. -/
theorem fraction_floor (l e : Nat) (hl : l < e) (he : e ≤ 65535) :
    fractionLost l e = l * 256 / e :=
  fractionLost_eq_floor l e hl (by omega) (by omega)

/-- ★ T4 `cumulative_sat`: over any history (no hypothesis on the bitmap) the cumulative-lost of
the k-th report is `min(2^24−1, Σ_{i≤k} interval loss_i)` for the interval losses the stream
computed at its reports. -/
theorem cumulative_sat (ssrc rate : Nat) (evs : List Ev) :
    (runEv (new ssrc rate) evs).map (·.totalLost) =
      ((intervalLosses (new ssrc rate) evs).scanl (· + ·) 0).tail.map (min 16777215) := by
  rw [cumulative_run (new ssrc rate) evs (Nat.zero_le _), List.map_tail, satSums_scanl _ _ 0 rfl]
  rfl

/-- ★ T5 `jitter_rec`: over any history the jitter field of every report is `uint32` of the
RFC 3550 A.8 recurrence `J += (|D| − J)/16` run in binary64 over the packets so far, with
`D = Δarrival·rate − (ts − ts')`; the first packet only sets the reference. -/
theorem jitter_rec (ssrc rate : Nat) (evs : List Ev) :
    (runEv (new ssrc rate) evs).map (·.jitter) = jitterReports rate none 0 evs :=
  jitter_run (new ssrc rate) none 0 evs ⟨rfl, rfl⟩

/-- ★ T5 `jitter_wrap_safe`: for unwrapped (true) timestamps `a`, `b` within ±2^31 of each other
the jitter sample computed from their 32-bit wrapped values is the one computed from the true
difference — so it is invariant under adding 2^32·k to any timestamp.  (False on the unrepaired
code, which took `float64(ts) − float64(lastTs)`: F-07, corpus/C06/F-07.ops.) -/
theorem jitter_wrap_safe (rate : Nat) (elapsed a b : Int)
    (h1 : -2147483648 ≤ a - b) (h2 : a - b < 2147483648) :
    jitterD rate elapsed (a % 4294967296).toNat (b % 4294967296).toNat =
      (let d := F64.sub (mul (seconds elapsed) (ofInt rate)) (ofInt (a - b)); if d < 0 then -d else d) := by
  simp only [jitterD, sdiff32_exact a b h1 h2]

/-- ★ T5 corollary: adding multiples of 2^32 to either unwrapped timestamp changes nothing. -/
theorem jitter_wrap_invariant (rate : Nat) (elapsed a b k1 k2 : Int) :
    jitterD rate elapsed ((a + k1 * 4294967296) % 4294967296).toNat ((b + k2 * 4294967296) % 4294967296).toNat =
      jitterD rate elapsed (a % 4294967296).toNat (b % 4294967296).toNat := by
  rw [Int.add_mul_emod_self_right, Int.add_mul_emod_self_right]

/-- ★ T6 `lsr_dlsr`: over any history every report carries, for the most recent sender report
`(ntp, t)` delivered to the stream, `LSR = (ntp >> 16) mod 2^32` and
`DLSR = uint32(float64 seconds(max(now − t, 0)) · 65536)` (binary64-exact; 0 for a sender report stamped after the report instant: F-43), and `(0, 0)` before any. -/
theorem lsr_dlsr (ssrc rate : Nat) (evs : List Ev) :
    (runEv (new ssrc rate) evs).map (fun r => (r.lsr, r.delay)) = lsrReports none evs :=
  lsr_run (new ssrc rate) none evs ⟨rfl, rfl⟩

/-- ★ T6 `dlsr_early_zero` (F-43): a sender report stamped AFTER the instant the report is generated for (the tick
took its time before it walked the streams; the sender report was read meanwhile) arrived "just now": the delay is 0,
not `uint32` of a negative number of seconds (18 hours on amd64 in the code without the F-43 repair). -/
theorem dlsr_early_zero (ntp : Nat) (t now : Int) (h : now ≤ t) (es : List Ev) :
    lsrReports (some (ntp, t)) (.report now :: es) = ((ntp / 65536) % M32, 0) :: lsrReports (some (ntp, t)) es := by
  have hm : max (now - t) 0 = 0 := by omega
  simp only [lsrReports, hm]
  have : toUint32 (mul (seconds 0) 65536) = 0 := by decide +kernel
  rw [this]

/-- ★ T6 `dlsr_late_unchanged`: for a sender report stamped before the report instant the clamp changes nothing. -/
theorem dlsr_late_unchanged (ntp : Nat) (t now : Int) (h : t ≤ now) (es : List Ev) :
    lsrReports (some (ntp, t)) (.report now :: es) =
      ((ntp / 65536) % M32, toUint32 (mul (seconds (now - t)) 65536)) :: lsrReports (some (ntp, t)) es := by
  have hm : max (now - t) 0 = now - t := by omega
  simp only [lsrReports, hm]

/-- T6, dispatch: a sender report is applied only to the stream bound for its SSRC. -/
theorem sr_foreign_ignored (ss : Streams) (ssrc : Nat) (f : Stream → Stream) (s : Stream)
    (hs : s ∈ ss) (hne : s.ssrc ≠ ssrc) : s ∈ update ss ssrc f := by
  simp only [update, List.mem_map]
  exact ⟨s, hs, by simp [hne]⟩

/-- non-vacuity of `loss_eq_spec`: a history with loss, a late arrival, a sequence wrap and two
reports satisfies `H8192`, and both reports carry fraction 85 = ⌊256·1/3⌋ (cumulative lost 1, then 2). -/
example :
    let evs : List Ev := [.rtp 0 65534 0, .rtp 1 0 10, .report 2, .rtp 3 3 20, .rtp 4 2 30, .report 5]
    (∀ e ∈ evs, e.wf) ∧ H8192 none evs ∧ (lossReports none evs).map specObs = [(85, 1), (85, 2)] := by
  refine ⟨?_, ?_, by decide⟩
  · intro e he
    simp only [List.mem_cons, List.not_mem_nil, or_false] at he
    rcases he with rfl | rfl | rfl | rfl | rfl | rfl
    exacts [⟨by decide, by decide⟩, ⟨by decide, by decide⟩, trivial, ⟨by decide, by decide⟩, ⟨by decide, by decide⟩,
      trivial]
  · simp [H8192, lossRtp, ahead, extend, highest, sub16, lostIn]

end Interceptor.ReceiverReport
