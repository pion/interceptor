/-
C16 — GCC target bitrate stays finite, within bounds, and consistent.
Model: Interceptor/Model/Gcc.lean (control skeleton; every floating-point stage is an oracle, so
each theorem holds for ALL values those stages can produce, including int(NaN) and int(±Inf)).

One case principle for a step (`execG_cases`) and one invariant (`Inv c`, kept by every event: `exec_step`, `inv_run`)
give the bounds (`target_in_bounds`; `_unfixed_partial` / `_unfixed_false` for the code before the repair).  Then: pacer and
callback are told the same values and the getter returns the last of them (`publish_consistent_run`), nothing moves
after `Close`, a write is never stuck.  `Rel` relates a run to the values it published, and through it the trace acceptor of the harness accepts
every run of the skeleton (`acceptor_sound_trace`).  Last, the rate calculator is total on every ack sequence.
-/
import Interceptor.Model.Gcc
import Interceptor.Model.RateCalc
set_option linter.unusedVariables false
namespace Interceptor.Gcc

theorem clampInt_bounds (b lo hi : Int) (h : lo ≤ hi) : lo ≤ clampInt b lo hi ∧ clampInt b lo hi ≤ hi := by
  unfold clampInt; omega

/-- what `onDelayUpdate` does, in one equation per field. -/
theorem publish_spec (fixed : Bool) (c : Cfg) (st : St) (wanted : Int) (u : Usage) (s : State) :
    (publish fixed c st wanted u s).latest = combine fixed c wanted (lossEstimate st.lossBitrate wanted) ∧
    (publish fixed c st wanted u s).lossBitrate = lossEstimate st.lossBitrate wanted ∧
    (publish fixed c st wanted u s).pacer = st.pacer ++
      (if combine fixed c wanted (lossEstimate st.lossBitrate wanted) ≠ st.latest
        then [combine fixed c wanted (lossEstimate st.lossBitrate wanted)] else []) ∧
    (publish fixed c st wanted u s).cbs = st.cbs ++
      (if combine fixed c wanted (lossEstimate st.lossBitrate wanted) ≠ st.latest
        then [combine fixed c wanted (lossEstimate st.lossBitrate wanted)] else []) ∧
    (publish fixed c st wanted u s).closed = st.closed ∧
    (publish fixed c st wanted u s).receivers = st.receivers ∧
    (publish fixed c st wanted u s).stats = some ⟨lossEstimate st.lossBitrate wanted, wanted, u, s⟩ := by
  unfold publish
  simp only []
  generalize lossEstimate st.lossBitrate wanted = lb
  generalize combine fixed c wanted lb = b
  by_cases h : b = st.latest <;> simp [h]

/-- every step is one of: nothing, the first delay update (which only initialises), a loss update, `Close`, or
an `onDelayUpdate` with a clamped target on an open estimator whose new state is not `hold`. -/
theorem execG_cases (fixed : Bool) (c : Cfg) (st : St) (e : Ev) (P : St → Prop)
    (hst : P st) (hinit : P { st with rcInit := true })
    (hloss : ∀ r, P { st with lossBitrate := clampInt r lossMin lossMax })
    (hclose : P { st with closed := true, receivers := false })
    (hpub : ∀ u raw, st.closed = false → State.increase.transition u ≠ .hold →
      P (publish fixed c { st with rcTarget := clampInt raw c.min c.max } (clampInt raw c.min c.max) u
        (State.increase.transition u))) :
    P (execG fixed c st e) := by
  cases e with
  | lossUpdate raw =>
    cases raw with
    | none => exact hst
    | some r => simp only [execG]; split; exact hst; exact hloss r
  | close => exact hclose
  | delayStats u raw =>
    simp only [execG]
    split
    · exact hst
    · split
      · exact hinit
      · split
        · exact hst
        · rename_i hc _ hh; exact hpub u raw (by simpa using hc) hh

/-- what the stats say about the published target (they are set by every `onDelayUpdate`). -/
def StatsOk (c : Cfg) (latest : Int) : Option Stats → Prop
  | none => True
  | some s => c.min ≤ s.delayT ∧ s.delayT ≤ c.max ∧ s.lossT ≤ s.delayT ∧
      latest = clampInt (min s.delayT s.lossT) c.min c.max ∧
      ((s.usage = .over ∧ s.state = .decrease) ∨ (s.usage = .normal ∧ s.state = .increase))

/-- invariant of the reachable states. -/
def Inv (c : Cfg) (st : St) : Prop :=
  c.min ≤ st.latest ∧ st.latest ≤ c.max ∧ StatsOk c st.latest st.stats

/-- one event: the invariant is kept; stats, once set, stay set, and nothing is published without them. -/
theorem exec_step (c : Cfg) (hc : c.min ≤ c.max) (st : St) (e : Ev) (h : Inv c st) :
    Inv c (exec c st e) ∧ ((exec c st e).stats = none → st.stats = none ∧ (exec c st e).latest = st.latest) := by
  have quiet : Inv c st ∧ (st.stats = none → st.stats = none ∧ st.latest = st.latest) := ⟨h, fun hn => ⟨hn, rfl⟩⟩
  refine execG_cases true c st e (fun s => Inv c s ∧ (s.stats = none → st.stats = none ∧ s.latest = st.latest))
    quiet quiet (fun _ => quiet) quiet fun u raw _ hhold => ?_
  obtain ⟨hl, -, -, -, -, -, hs⟩ := publish_spec true c { st with rcTarget := clampInt raw c.min c.max }
    (clampInt raw c.min c.max) u (State.increase.transition u)
  have hb := clampInt_bounds raw c.min c.max hc
  refine ⟨⟨?_, ?_, ?_⟩, ?_⟩
  · rw [hl]; exact (clampInt_bounds _ _ _ hc).1
  · rw [hl]; exact (clampInt_bounds _ _ _ hc).2
  · rw [hl, hs]
    refine ⟨hb.1, hb.2, ?_, rfl, ?_⟩
    · simp only [lossEstimate]; omega
    · show (u = .over ∧ State.increase.transition u = .decrease) ∨ (u = .normal ∧ State.increase.transition u = .increase)
      revert hhold; cases u <;> decide
  · intro hn; rw [hs] at hn; cases hn

/-- `Inv c` is an invariant of the skeleton, from any state. -/
theorem inv_run (c : Cfg) (hc : c.min ≤ c.max) (st : St) (h : Inv c st) (evs : List Ev) : Inv c (run c st evs) :=
  List.foldlRecOn evs (exec c) (motive := Inv c) h fun st h e _ => (exec_step c hc st e h).1

theorem inv_reachable (c : Cfg) (h1 : c.min ≤ c.init) (h2 : c.init ≤ c.max) (evs : List Ev) :
    Inv c (run c (St.init c) evs) :=
  inv_run c (Int.le_trans h1 h2) (St.init c) ⟨h1, h2, trivial⟩ evs

/-- ★ T1 `target_in_bounds`: for every configuration `0 < min ≤ init ≤ max`, every sequence of
events and every oracle behaviour (any `raw` values, any usages), the published target — what
`GetTargetBitrate` returns — is within `[min, max]` and positive, in every reachable state. -/
theorem target_in_bounds (c : Cfg) (h0 : 0 < c.min) (h1 : c.min ≤ c.init) (h2 : c.init ≤ c.max)
    (evs : List Ev) :
    c.min ≤ (run c (St.init c) evs).latest ∧ (run c (St.init c) evs).latest ≤ c.max ∧
      0 < (run c (St.init c) evs).latest := by
  have := inv_reachable c h1 h2 evs
  exact ⟨this.1, this.2.1, Int.lt_of_lt_of_le h0 this.1⟩

/-- T1 on the code BEFORE the fix (`execG false`), `_partial`: the bounds hold only under the
extra hypothesis `min ≤ 100 000` (the loss estimator's own floor).  Missing: configurations
with `min > 100 000` — see `target_in_bounds_unfixed_false`. -/
theorem target_in_bounds_unfixed_partial (c : Cfg) (h0 : 0 < c.min) (h1 : c.min ≤ c.init)
    (h2 : c.init ≤ c.max) (hf : c.min ≤ 100000) (evs : List Ev) :
    c.min ≤ (runG false c (St.init c) evs).latest ∧ (runG false c (St.init c) evs).latest ≤ c.max := by
  -- the loss estimate stays at or above the configured minimum, so the unclamped minimum of the two does
  have key := List.foldlRecOn evs (execG false c) (b := St.init c)
    (motive := fun s => c.min ≤ s.latest ∧ s.latest ≤ c.max ∧ c.min ≤ s.lossBitrate) ⟨h1, h2, h1⟩ fun st h e _ => by
      refine execG_cases false c st e (fun s => c.min ≤ s.latest ∧ s.latest ≤ c.max ∧ c.min ≤ s.lossBitrate)
        h h (fun r => ⟨h.1, h.2.1, ?_⟩) h fun u raw _ _ => ?_
      · simp only [clampInt, lossMin, lossMax]; omega
      · obtain ⟨hl, hlb, -⟩ := publish_spec false c { st with rcTarget := clampInt raw c.min c.max }
          (clampInt raw c.min c.max) u (State.increase.transition u)
        have hb := clampInt_bounds raw c.min c.max (Int.le_trans h1 h2)
        generalize clampInt raw c.min c.max = w at hb hl hlb
        have hpos : ¬ st.lossBitrate ≤ 0 := by omega
        simp only [combine, lossEstimate, hpos, if_false, Bool.false_eq_true] at hl hlb
        rw [hl, hlb]
        have hm : c.min ≤ min w st.lossBitrate := Int.le_min.mpr ⟨hb.1, h.2.2⟩
        exact ⟨Int.le_min.mpr ⟨hb.1, hm⟩, Int.le_trans (Int.min_le_left _ _) hb.2, hm⟩
  exact ⟨key.1, key.2.1⟩

/-- ★ F-20 `target_in_bounds_unfixed_false`: on the code before the fix the full statement is
false.  Witness (reproduced on the implementation): min 1 000 000, init 2 000 000,
max 5 000 000; heavy loss drives the loss estimate to 617 346 (≥ its own floor of 100 000); the
next delay update publishes min(delay, loss) = 617 346 < min. -/
theorem target_in_bounds_unfixed_false :
    ¬ (∀ (c : Cfg) (evs : List Ev), 0 < c.min → c.min ≤ c.init → c.init ≤ c.max →
        c.min ≤ (runG false c (St.init c) evs).latest) := by
  intro h
  have := h ⟨1000000, 5000000, 2000000⟩
    [.delayStats .normal 2000000, .lossUpdate (some 617346), .delayStats .normal 2347202]
    (by decide) (by decide) (by decide)
  revert this
  decide

/-- non-vacuity of T1 and the fix at work: the same events on the fixed code publish the minimum. -/
example : (run ⟨1000000, 5000000, 2000000⟩ (St.init ⟨1000000, 5000000, 2000000⟩)
    [.delayStats .normal 2000000, .lossUpdate (some 617346), .delayStats .normal 2347202]).latest = 1000000 := by
  decide

/-- ★ T2 `publish_consistent` (one step): the values handed to the pacer and to the callback by a
step are the same list, it is empty when the target did not change and otherwise consists of
exactly the new target — the value the getter returns afterwards.  (Callback issued iff changed.) -/
theorem publish_consistent (c : Cfg) (st : St) (e : Ev) :
    (exec c st e).pacer = st.pacer ++ (if (exec c st e).latest ≠ st.latest then [(exec c st e).latest] else []) ∧
    (exec c st e).cbs = st.cbs ++ (if (exec c st e).latest ≠ st.latest then [(exec c st e).latest] else []) := by
  refine execG_cases true c st e
    (fun s => s.pacer = st.pacer ++ (if s.latest ≠ st.latest then [s.latest] else []) ∧
      s.cbs = st.cbs ++ (if s.latest ≠ st.latest then [s.latest] else []))
    (by simp) (by simp) (fun _ => by simp) (by simp) fun u raw _ _ => ?_
  obtain ⟨hl, -, hp, hcb, -⟩ := publish_spec true c { st with rcTarget := clampInt raw c.min c.max }
    (clampInt raw c.min c.max) u (State.increase.transition u)
  rw [hl, hp, hcb]
  exact ⟨rfl, rfl⟩

/-- T2 along a run: pacer and callback have been told the same sequence, and the getter returns
the last value told (or the initial bitrate if nothing was published yet). -/
theorem publish_consistent_run (c : Cfg) (evs : List Ev) :
    (run c (St.init c) evs).pacer = (run c (St.init c) evs).cbs ∧
    (run c (St.init c) evs).pacer.getLast?.getD c.init = (run c (St.init c) evs).latest := by
  refine List.foldlRecOn evs (exec c) (b := St.init c)
    (motive := fun s => s.pacer = s.cbs ∧ s.pacer.getLast?.getD c.init = s.latest) ⟨rfl, rfl⟩ fun st h e _ => ?_
  have hp := publish_consistent c st e
  refine ⟨by rw [hp.1, hp.2, h.1], ?_⟩
  rw [hp.1]
  split
  · simp
  · rename_i heq
    simp only [ne_eq, Decidable.not_not] at heq
    simp [heq, h.2]

theorem closed_stays (c : Cfg) (evs : List Ev) (st : St) (h : st.closed = true) : (run c st evs).closed = true :=
  List.foldlRecOn evs (exec c) (motive := fun s => s.closed = true) h fun st h e _ =>
    execG_cases true c st e (fun s => s.closed = true) h h (fun _ => h) rfl
      fun _ _ hc _ => absurd (hc.symm.trans h) Bool.false_ne_true

/-- ★ T3 `after_close`: once `Close` has happened — after any history before it and whatever
happened since — `WriteRTCP` returns ErrSendSideBWEClosed, for every feedback. -/
theorem after_close (c : Cfg) (before after fb : List Ev) :
    writeRTCP c (run c (St.init c) (before ++ .close :: after)) fb = .error .closed := by
  have h : (run c (St.init c) (before ++ .close :: after)).closed = true := by
    simp only [run, List.foldl_append, List.foldl_cons]
    exact closed_stays c after _ rfl
  simp [writeRTCP, h]

/-- T3 `write_never_stuck`: while not closed the two goroutines that receive from `ackPipe` and
`ackRatePipe` are alive, so both sends of `updateDelayEstimate` find a receiver (WriteRTCP holds
`closeLock.RLock` from the closed check to the sends, `Close` needs the write lock, so the check
and the sends are one atomic step of this model). -/
theorem write_never_stuck (c : Cfg) (evs : List Ev) :
    (run c (St.init c) evs).closed = false → (run c (St.init c) evs).receivers = true := by
  refine List.foldlRecOn evs (exec c) (b := St.init c) (motive := fun s => s.closed = false → s.receivers = true)
    (fun _ => rfl) fun st h e _ => ?_
  refine execG_cases true c st e (fun s => s.closed = false → s.receivers = true) h h (fun _ => h)
    (fun hc => nomatch hc) fun u raw _ _ => ?_
  obtain ⟨-, -, -, -, hcl, hrc, -⟩ := publish_spec true c { st with rcTarget := clampInt raw c.min c.max }
    (clampInt raw c.min c.max) u (State.increase.transition u)
  rw [hcl, hrc]
  exact h

/-- after `Close` nothing is published any more. -/
theorem closed_is_frozen (c : Cfg) (st : St) (h : st.closed = true) (e : Ev) :
    (exec c st e).latest = st.latest ∧ (exec c st e).pacer = st.pacer ∧ (exec c st e).cbs = st.cbs := by
  have same : st.latest = st.latest ∧ st.pacer = st.pacer ∧ st.cbs = st.cbs := ⟨rfl, rfl, rfl⟩
  exact execG_cases true c st e (fun s => s.latest = st.latest ∧ s.pacer = st.pacer ∧ s.cbs = st.cbs)
    same same (fun _ => same) same fun _ _ hc _ => absurd (hc.symm.trans h) Bool.false_ne_true

/-! ## the acceptor accepts everything the skeleton can do -/

theorem lastD_snoc (prev b : Int) (np : List Int) : lastD prev (np ++ [b]) = b := by
  induction np generalizing prev with
  | nil => rfl
  | cons x xs ih => simp only [List.cons_append, lastD, ih]

theorem chainDistinct_snoc (prev b : Int) (np : List Int) :
    chainDistinct prev (np ++ [b]) = (chainDistinct prev np && decide (b ≠ lastD prev np)) := by
  induction np generalizing prev with
  | nil => by_cases h : b = prev <;> simp [chainDistinct, lastD, h]
  | cons x xs ih =>
    show (decide (x ≠ prev) && chainDistinct x (xs ++ [b])) = _
    rw [ih x]
    show _ = ((decide (x ≠ prev) && chainDistinct x xs) && decide (b ≠ lastD x xs))
    rw [Bool.and_assoc]

/-- `st'` is reachable from `st` by events that published exactly `np`. -/
def Rel (c : Cfg) (st : St) (np : List Int) (st' : St) : Prop :=
  st'.pacer = st.pacer ++ np ∧ st'.cbs = st.cbs ++ np ∧ chainDistinct st.latest np = true ∧
  lastD st.latest np = st'.latest ∧ (∀ p ∈ np, c.min ≤ p ∧ p ≤ c.max) ∧ Inv c st' ∧
  (st'.stats = none → st.stats = none ∧ np = [])

theorem rel_step (c : Cfg) (hc : c.min ≤ c.max) (st st' : St) (np : List Int) (e : Ev)
    (h : Rel c st np st') : ∃ np', Rel c st np' (exec c st' e) := by
  obtain ⟨hp, hcb, hch, hl, hbd, hinv, hn⟩ := h
  have hstep := exec_step c hc st' e hinv
  have hpc := publish_consistent c st' e
  by_cases hne : (exec c st' e).latest = st'.latest
  · refine ⟨np, ?_, ?_, hch, ?_, hbd, hstep.1, fun hnone => hn (hstep.2 hnone).1⟩
    · rw [hpc.1, hp]; simp [hne]
    · rw [hpc.2, hcb]; simp [hne]
    · rw [hl, hne]
  · refine ⟨np ++ [(exec c st' e).latest], ?_, ?_, ?_, ?_, ?_, hstep.1, ?_⟩
    · rw [hpc.1, hp]; simp [hne]
    · rw [hpc.2, hcb]; simp [hne]
    · rw [chainDistinct_snoc, hch, hl]; simp [hne]
    · exact lastD_snoc _ _ _
    · intro p hp'
      simp only [List.mem_append, List.mem_singleton] at hp'
      cases hp' with
      | inl hp' => exact hbd p hp'
      | inr hp' => rw [hp']; exact ⟨hstep.1.1, hstep.1.2.1⟩
    · intro hnone
      exact absurd (hstep.2 hnone).2 hne

theorem rel_run (c : Cfg) (hc : c.min ≤ c.max) (st : St) (evs : List Ev) (st' : St) (np : List Int)
    (h : Rel c st np st') : ∃ np', Rel c st np' (run c st' evs) :=
  List.foldlRecOn evs (exec c) (motive := fun s => ∃ np', Rel c st np' s) ⟨np, h⟩
    fun s ⟨np', h'⟩ e _ => rel_step c hc st s np' e h'

theorem rel_refl (c : Cfg) (st : St) (h : Inv c st) : Rel c st [] st :=
  ⟨by simp, by simp, rfl, rfl, by simp, h, fun hn => ⟨hn, rfl⟩⟩

/-- everything the pacer and the callback are ever told is within bounds as well. -/
theorem published_in_bounds (c : Cfg) (h1 : c.min ≤ c.init) (h2 : c.init ≤ c.max) (evs : List Ev) :
    ∀ p ∈ (run c (St.init c) evs).pacer, c.min ≤ p ∧ p ≤ c.max := by
  obtain ⟨np, hp, -, -, -, hbd, -⟩ :=
    rel_run c (Int.le_trans h1 h2) (St.init c) evs _ [] (rel_refl c (St.init c) ⟨h1, h2, trivial⟩)
  rw [hp]
  exact hbd

theorem accepts_of_rel (c : Cfg) (h0 : 0 < c.min) (st st' : St) (np : List Int) (h : Rel c st np st') :
    accepts c st.latest st.stats.isSome (observe st st') = none := by
  obtain ⟨hp, hcb, hch, hl, hbd, hinv, hn⟩ := h
  have e1 : (observe st st').pacer = np := by simp [observe, hp]
  have e2 : (observe st st').cbs = sortInts np := by simp [observe, hcb]
  have e3 : (observe st st').target = st'.latest := rfl
  have e4 : (observe st st').stats = st'.stats := rfl
  have hany : np.any (fun p => decide (p < c.min) || decide (p > c.max)) = false := by
    rw [List.any_eq_false]
    intro p hp'
    have := hbd p hp'
    simp; omega
  unfold accepts
  rw [e1, e2, e3, e4]
  have h1 : ¬ st'.latest < c.min := by have := hinv.1; omega
  have h2 : ¬ st'.latest > c.max := by have := hinv.2.1; omega
  have h3 : ¬ st'.latest ≤ 0 := by have := hinv.1; omega
  simp only [h1, h2, h3, if_false, hl, ne_eq, not_true_eq_false, hch, Bool.not_true, Bool.false_eq_true, hany]
  cases hst : st'.stats with
  | none =>
    obtain ⟨hsn, hnp⟩ := hn hst
    simp [hsn, hnp]
  | some s =>
    have hok := hinv.2.2
    rw [hst] at hok
    obtain ⟨a, b, d, e, f⟩ := hok
    have g1 : ¬ (s.delayT < c.min ∨ s.delayT > c.max) := by omega
    simp only [Bool.or_eq_true, decide_eq_true_eq, g1, if_false]
    have g2 : ¬ s.lossT > s.delayT := by omega
    simp only [g2, if_false, ← e, not_true_eq_false]
    cases f with
    | inl f => simp [f.1, f.2]
    | inr f => simp [f.1, f.2]

/-- ★ `acceptor_sound`: whatever the control skeleton can do during one feedback — any list of
events, any oracle values (`raw` of the rate controller and of the loss estimator, any usages) —
starting from any state satisfying the invariant of the reachable states, the observation the
harness would make of it (getter, pacer calls and sorted callback values since the previous
observation, stats) is ACCEPTED by the acceptor the driver runs (`accepts … = none`).
Hence a `reject` printed by the driver on a trace of the real code means the code left the
skeleton. -/
theorem acceptor_sound (c : Cfg) (h0 : 0 < c.min) (hc : c.min ≤ c.max) (st : St) (hinv : Inv c st)
    (evs : List Ev) :
    accepts c st.latest st.stats.isSome (observe st (run c st evs)) = none := by
  obtain ⟨np, h⟩ := rel_run c hc st evs st [] (rel_refl c st hinv)
  exact accepts_of_rel c h0 st _ np h

/-- `acceptor_sound` for a single event. -/
theorem acceptor_sound_step (c : Cfg) (h0 : 0 < c.min) (hc : c.min ≤ c.max) (st : St) (hinv : Inv c st)
    (e : Ev) : accepts c st.latest st.stats.isSome (observe st (exec c st e)) = none :=
  acceptor_sound c h0 hc st hinv [e]

/-- ★ `acceptor_sound` along a whole session: for every configuration `0 < min ≤ init ≤ max`,
after any history `before`, the step produced by any further events is accepted with the
bookkeeping the driver keeps (previous target, "stats were set"). -/
theorem acceptor_sound_trace (c : Cfg) (h0 : 0 < c.min) (h1 : c.min ≤ c.init) (h2 : c.init ≤ c.max)
    (before evs : List Ev) :
    accepts c (run c (St.init c) before).latest (run c (St.init c) before).stats.isSome
      (observe (run c (St.init c) before) (run c (run c (St.init c) before) evs)) = none :=
  acceptor_sound c h0 (by omega) _ (inv_reachable c h1 h2 before) evs

/-- non-vacuity: a publish step observed and accepted; the same observation with the getter
off by one is rejected. -/
example : accepts ⟨1000000, 5000000, 2000000⟩ 2000000 false
    (observe (St.init ⟨1000000, 5000000, 2000000⟩) (run ⟨1000000, 5000000, 2000000⟩ (St.init ⟨1000000, 5000000, 2000000⟩)
      [.delayStats .normal 2000000, .lossUpdate (some 617346), .delayStats .normal 2347202])) = none := by decide
example : accepts ⟨1000000, 5000000, 2000000⟩ 2000000 false
    { target := 1000001, pacer := [1000000], cbs := [1000000],
      stats := some ⟨617346, 2347202, .normal, .increase⟩ } = some "getter-differs-from-last-pacer-rate" := by decide

end Interceptor.Gcc

/-! ## rate calculator (rate_calculator.go) -/

namespace Interceptor.RateCalc

theorem delCount_le (deadline : Int) (xs : List (Int × Int)) : (delCount deadline xs).1 ≤ xs.length := by
  induction xs with
  | nil => simp [delCount]
  | cons x rest ih =>
    obtain ⟨a, sz⟩ := x
    simp only [delCount]
    split
    · simp only [List.length_cons]; omega
    · simp

/-- the newest packet is never deleted when it is not older than the deadline. -/
theorem delCount_lt (deadline arr sz : Int) (h : ¬ arr < deadline) (xs : List (Int × Int)) :
    (delCount deadline (xs ++ [(arr, sz)])).1 < (xs ++ [(arr, sz)]).length := by
  induction xs with
  | nil => simp [delCount, h]
  | cons x rest ih =>
    obtain ⟨a, s⟩ := x
    simp only [List.cons_append, delCount]
    split
    · simp only [List.length_cons]; omega
    · simp

theorem step_total (window : Int) (f : Int → Int → Int) (st : St) (a : Ack) :
    ∃ r, step window f st a = .ok r := by
  unfold step
  cases a.arrival with
  | none => exact ⟨_, rfl⟩
  | some arr =>
    simp only []
    split
    · exact ⟨_, rfl⟩
    · have hle := delCount_le (arr - window) (st.history ++ [(arr, a.size)])
      simp only [sliceFrom, hle, if_true]
      split
      · exact ⟨_, rfl⟩
      · rename_i hne
        cases hd : List.drop (delCount (arr - window) (st.history ++ [(arr, a.size)])).1 (st.history ++ [(arr, a.size)]) with
        | nil => simp [hd] at hne
        | cons h0 t => simp only [idx, List.getElem?_cons_zero]; exact ⟨_, rfl⟩

theorem run_total (window : Int) (f : Int → Int → Int) (acks : List Ack) :
    ∀ st, ∃ r, run window f st acks = .ok r := by
  induction acks with
  | nil => intro st; exact ⟨_, rfl⟩
  | cons a as ih =>
    intro st
    obtain ⟨⟨st', out⟩, h⟩ := step_total window f st a
    obtain ⟨⟨st'', out'⟩, h'⟩ := ih st'
    exact ⟨(st'', out ++ out'), by simp only [run, h, h']⟩

/-- ★ T4 `rate_calculator_total`: `rateCalculator.run` never panics — for every sequence of
acknowledgments (lost ones, identical arrival times, decreasing arrival times, any sizes), every
window and every value the float expression `int(float64(bits)/dt.Seconds())` can yield
(the oracle `f`, also at `dt = 0` and `dt < 0`): the slice `history[del:]` is always in range,
`history[0]` always exists, and the division is a float division (±Inf/NaN, no crash). -/
theorem rate_calculator_total (window : Int) (f : Int → Int → Int) (acks : List Ack) :
    ∃ r, run window f St.start acks = .ok r :=
  run_total window f acks St.start

/-- non-vacuity / the interesting inputs: three packets with identical arrival times and one with
an earlier one (window 500 ms); the oracle is asked at `dt = 0`, `dt = 0` and `dt = -1 ms`
(here it just returns `dt`), and nothing panics. -/
example : (match run 500000000 (fun _ dt => dt) St.start
      [⟨some 7000000, 1200⟩, ⟨none, 1200⟩, ⟨some 7000000, 1200⟩, ⟨some 7000000, 100⟩, ⟨some 6000000, 100⟩] with
    | .ok r => r.2
    | _ => []) = [9600, 0, 0, -1000000] := by decide

end Interceptor.RateCalc
