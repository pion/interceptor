/-
C02 — no untrusted packet can crash or wedge an interceptor.  This module states, under the
property's name, the reader-length and pacer clauses as instances of C01 and C17; the decoders' own
theorems live in Props/C02Feedback.lean (TWCC / CCFB decoders
and the rtpfb history: no panic for EVERY parsed input), Props/C02Queue.lean (jitter-buffer queue:
every traversal terminates, no cycle is ever created; the interceptor never reports more bytes
than the buffer holds) and Props/C17.lean (`leaky_total`: no out-of-range slice in the pacer).
-/
import Interceptor.Props.C02Feedback
import Interceptor.Props.C02Queue
import Interceptor.Props.C17
import Interceptor.Props.C01
namespace Interceptor.C02
open Interceptor.Chain Interceptor.Pacing

/-- ★ pass-through readers never report more bytes than the wrapped reader returned: through any chain
of read-transparent members a successful read hands the application the same `n` and the same
bytes, and a failed read stays a failed read (instance of C01's reader transparency). -/
theorem reader_len_passthrough {ω ε β : Type} (G : β → Prop) (ms : List (RWrapper ω β ε))
    (hms : ∀ m ∈ ms, ReadTransparent G m) (w : ω) :
    (∀ n b, G b → ∃ w', readVia ms w (.ok n b) = (w', .ok n b)) ∧
    (∀ n e, ∃ n', readVia ms w (.err n e) = (w, .err n' e)) :=
  chain_read_transparent G ms hms w

/-- ★ the leaky-bucket pacer never slices beyond its buffer, for outgoing packets of every size and
every event sequence (writes, ticks, rate changes). -/
theorem pacer_total {H : Type} (hsz : H → Nat) (evs : List (LEv H)) (st : LSt H)
    (h : ∀ it ∈ st.queue, ItemOk it) : ∃ st', lrun hsz lItem st evs = .ok st' :=
  leaky_total hsz evs st h

end Interceptor.C02
