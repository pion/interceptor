/-
C04 — NACK responder retransmits exactly what was sent.
Models in Model/RtpBuffer.lean, Model/RefMachine.lean, specs in
Spec/RtpBuffer.lean, Spec/Rtx.lean, helper lemmas in Proofs/{RtpBuffer,SpecChar,RtpBufferInv,NewPacket,
Responder,ResponderClear,AddConserve,RefMachine}.lean.  The model is the code *after* the fixes F-04, F-05, F-36 and (made under C11) F-06.
An `example` without a comment, right after a theorem, shows that the theorem's hypotheses can be met.
-/
import Interceptor.Proofs.ResponderClear
import Interceptor.Proofs.RefMachine
import Interceptor.Proofs.AddConserve
set_option linter.unusedVariables false

namespace Interceptor.RtpBuffer
open Interceptor

/-- ★ T1 `get_eq_spec` (one state): under the ring invariant ("slot i holds the newest in-window
packet whose number maps to i, or nothing") `Get x` is the spec's retransmittable packet for `x`:
the last packet sent with number `x`, provided `x` is within the most recent `size` numbers up to
the highest one sent. -/
theorem get_eq_spec {α : Type} (seqOf : α → Nat) (b : Buf α) (s : SBuf α) (h : Inv seqOf b s)
    (x : Nat) (hx : x < 65536) : get seqOf b x = s.get seqOf x :=
  get_eq_of_inv h x hx

/-- ★ T1 for all add orders: any list of `Add`s (in-order, gaps, late, duplicates, wrap-around: no
hypothesis on the order) on a fresh buffer of any accepted size; every `x`. -/
theorem get_eq_spec_all_orders {α : Type} (seqOf : α → Nat) (n : Nat) (b : Buf α)
    (hb : Buf.new n = some b) (ps : List α) (hps : ∀ p ∈ ps, seqOf p < 65536) (x : Nat) (hx : x < 65536) :
    get seqOf (addAll seqOf b ps) x = ((SBuf.new n).sendAll seqOf ps).get seqOf x :=
  get_eq_of_inv (inv_addAll (inv_new hb) ps hps) x hx

example : ∃ b : Buf Nat, Buf.new 8 = some b := ⟨_, rfl⟩

/-- the invariant is established by `NewRTPBuffer` and kept by `Add` and `Clear`. -/
theorem ring_invariant {α : Type} (seqOf : α → Nat) :
    (∀ n (b : Buf α), Buf.new n = some b → Inv seqOf b (SBuf.new n)) ∧
    (∀ (b : Buf α) s p, Inv seqOf b s → seqOf p < 65536 → Inv seqOf (add seqOf b p).1 (s.send seqOf p)) ∧
    (∀ (b : Buf α) s, Inv seqOf b s → Inv seqOf (clear b).1 s.clear) :=
  ⟨fun _ _ h => inv_new h, fun _ _ p h hp => inv_add h p hp, fun _ _ h => inv_clear h⟩

/-- what the spec returns was sent, with the requested number (so: never sent ⇒ nothing). -/
theorem spec_get_was_sent {α : Type} (seqOf : α → Nat) (n : Nat) (ps : List α) (x : Nat) (p : α)
    (h : ((SBuf.new n).sendAll seqOf ps).get seqOf x = some p) : p ∈ ps ∧ seqOf p = x := by
  unfold SBuf.get at h
  split at h
  · have hm := List.mem_of_find?_eq_some h
    have hp := List.find?_some h
    rcases SBuf.sendAll_m_subset _ ps p hm with h1 | h1
    · exact ⟨h1, by simpa using hp⟩
    · simp [SBuf.new] at h1
  · cases h

/-- a number outside the most recent `size` numbers up to the highest gives nothing. -/
theorem spec_outside_window {α : Type} (seqOf : α → Nat) (s : SBuf α) (x : Nat)
    (h : ¬ sub16 s.hi x < s.size) : s.get seqOf x = none := by
  unfold SBuf.get inWin; simp [h]

example : ¬ sub16 20 4 < 8 := by decide

/-- ★ T2 `resend_exact`: after any history of bind / write / unbind / close operations on a fresh
responder, a NACK leaves the state unchanged and
* if the responder has been closed: writes nothing (also for streams bound after `Close`);
* otherwise, for a bound SSRC: writes exactly `[retransmittable x | x ∈ expand nack,
  retransmittable x ≠ none]` to that stream's writer — one per request, in request order, where
  `retransmittable` is the spec of what was written to the stream since it was bound;
* for an SSRC that is not bound: writes nothing. -/
theorem resend_exact (n k : Nat) (r0 : Resp) (h0 : Resp.new n k = some r0) (ops : List Op)
    (hok : ∀ op ∈ ops, op.ok) (ssrc : Nat) (pairs : List (Nat × Nat)) (hp : ∀ pr ∈ pairs, pr.1 < 65536) :
    let r := (runOps r0 (fun _ => emptySpec) ops).1
    let sp := (runOps r0 (fun _ => emptySpec) ops).2
    r.hold = false →
    r.nack ssrc pairs =
      (r, if r.closed = true then []
          else match lookupBound r.bound ssrc with
            | none => []
            | some w => ((expand pairs).filterMap ((sp w).get Pkt.seq)).map (fun p => (w, p))) := by
  intro r sp hh
  have hi : RespInv r sp := respInv_run (respInv_new h0) ops hok
  unfold Resp.nack
  by_cases hc : r.closed = true
  · rw [if_pos hc, if_pos hc]
  · rw [if_neg hc, if_neg hc]
    cases hl : lookupBound r.bound ssrc with
    | none => rfl
    | some w =>
      simp only [hh]
      rw [resendAll_eq hi w _ (expand_lt pairs hp)]
      rfl

example : ∃ r, Resp.new 8 0 = some r := ⟨_, rfl⟩

/-- T2, unbound clause on its own: whatever the state. -/
theorem resend_unbound (r : Resp) (ssrc : Nat) (pairs : List (Nat × Nat))
    (h : lookupBound r.bound ssrc = none) : (r.nack ssrc pairs).2 = [] := by
  rw [nack_unbound r ssrc pairs h]

example : lookupBound ([] : List (Nat × Nat)) 5 = none := rfl

/-- T2 while the downstream writer is slow (a resend goroutine sits inside `Write`): the packet it
holds is the retransmittable one of the moment it was requested, and when it goes on it serves the
rest of its requests from the buffer as it is then. -/
theorem resend_inflight (r : Resp) (sp : Specs) (hi : RespInv r sp) (pd : Pending)
    (hp : r.pending = some pd) (hr : ∀ x ∈ pd.rest, x < 65536) :
    r.resume.2 = (pd.w, pd.held) :: ((pd.rest.filterMap ((sp pd.w).get Pkt.seq)).map (fun p => (pd.w, p))) := by
  unfold Resp.resume
  rw [hp]
  simp only [resendAll_eq hi pd.w pd.rest hr]

/-- ★ T3 `rtx_form`: with RTX negotiated, a payload of at most 1460 bytes (everything
`NewPacket` accepts) and, in the legacy padding form, a padding count that fits in the payload,
the stored packet is the RFC 4588 form: RTX SSRC and payload type, fresh RTX sequence number,
padding flag and size cleared, payload = original sequence number (2 bytes, big endian) ++
original payload without padding.  No truncation (F-05 fixed); the prefix is never mistaken for
padding, in particular not for a padding-only packet with an empty payload (F-36 fixed). -/
theorem rtx_form (h : Hdr) (pl : List Nat) (rs rp k : Nat) (hon : rtxOn rs rp = true)
    (hlen : pl.length ≤ 1460) (hfit : PaddingFits h pl) :
    newPacket h pl rs rp k = (.ok (rtxForm h pl rs rp k), true) := by
  rw [newPacket_rtx h pl rs rp k hon hlen, if_neg]
  exact fun ⟨hp, hps, hover⟩ => Nat.not_le.2 hover (hfit hp hps)

example : rtxOn 2000 97 = true ∧ PaddingFits default [1, 2, 3] := by
  refine ⟨by decide, ?_⟩; intro h; cases h

/-- T3, the complement of `PaddingFits`: a legacy padding count larger than the payload it sits
in is refused with `errPaddingOverflow` (the RTX sequencer has been advanced). Together with
`rtx_form` and `newPacket_too_long` this describes `NewPacket` with RTX on every input. -/
theorem rtx_padding_overflow (h : Hdr) (pl : List Nat) (rs rp k : Nat) (hon : rtxOn rs rp = true)
    (hlen : pl.length ≤ 1460) (hp : h.padding = true) (hps : h.paddingSize = 0)
    (hover : pl.getLastD 0 > pl.length) :
    newPacket h pl rs rp k = (.error .padding, true) := by
  rw [newPacket_rtx h pl rs rp k hon hlen, if_pos ⟨hp, hps, hover⟩]

example : ([0, 1, 200] : List Nat).getLastD 0 > ([0, 1, 200] : List Nat).length := by decide

/-- T3 (F-36): a padding-only packet in the legacy form
(padding flag, `PaddingSize` 0, empty payload) is stored as exactly the original-sequence-number
prefix, whatever the sequence number's low byte is. -/
theorem rtx_form_padding_only (h : Hdr) (rs rp k : Nat) (hon : rtxOn rs rp = true)
    (hp : h.padding = true) (hps : h.paddingSize = 0) :
    newPacket h [] rs rp k =
      (.ok { seq := h.seq,
             hdr := { h with ssrc := rs, pt := rp, seq := k, padding := false, paddingSize := 0 },
             payload := be16 h.seq }, true) := by
  have := rtx_form h [] rs rp k hon (by simp) (by intro _ _; simp)
  rw [this]
  simp [rtxForm, dropPadding, hp, hps]

/-- ★ T3 `copy_form`: without RTX the stored packet is the packet (equal header and payload
values; that the storage is disjoint from the caller's is C13's statement and is checked by the
correspondence, which scribbles over the caller's buffers after every call). -/
theorem copy_form (h : Hdr) (pl : List Nat) (rs rp k : Nat) (hoff : rtxOn rs rp = false)
    (hlen : pl.length ≤ 1460) :
    newPacket h pl rs rp k = (.ok { seq := h.seq, hdr := h, payload := pl }, false) :=
  newPacket_copy h pl rs rp k hoff hlen

example : rtxOn 0 97 = false := by decide

/-- payloads above 1460 bytes are refused (and, in the responder, not forwarded). -/
theorem newPacket_too_long (h : Hdr) (pl : List Nat) (rs rp k : Nat) (hlen : pl.length > 1460) :
    newPacket h pl rs rp k = (.error .short, false) :=
  newPacket_long h pl rs rp k hlen

/-- T5 `unbind_clears`: after `UnbindLocalStream` a NACK for that SSRC produces nothing … -/
theorem unbind_clears (r : Resp) (ssrc : Nat) (pairs : List (Nat × Nat)) :
    ((r.unbind ssrc).nack ssrc pairs).2 = [] := by
  apply resend_unbound
  unfold Resp.unbind
  cases h : lookupBound r.bound ssrc with
  | none => exact h
  | some w => simp only [clearStream_bound]; exact lookupBound_filter_self _ _

/-- … and every slot of the stream's ring is empty. -/
theorem unbind_empties (r : Resp) (ssrc w : Nat) (st : Stream) (b : Buf Pkt)
    (hl : lookupBound r.bound ssrc = some w) (hs : (r.unbind ssrc).streams[w]? = some st)
    (hb : st.buf = some b) (i : Nat) : slot b.slots i = none := by
  unfold Resp.unbind at hs
  rw [hl] at hs
  exact clearStream_allEmpty_self _ w st b hs hb i

/-- T5 for `Close`: every later NACK produces nothing. -/
theorem close_clears (r : Resp) (ssrc : Nat) (pairs : List (Nat × Nat)) :
    (r.close.nack ssrc pairs).2 = [] := by
  rw [nack_closed _ _ _ (close_closed r)]

/-- T5 for `Close`, for good: whatever is bound, written, unbound or closed afterwards, a NACK
produces nothing (the code's `closed` flag is never reset). -/
theorem close_is_final (r : Resp) (sp : Specs) (ops : List Op) (ssrc : Nat) (pairs : List (Nat × Nat)) :
    ((runOps r.close sp ops).1.nack ssrc pairs) = ((runOps r.close sp ops).1, []) :=
  nack_closed _ _ _ ((runOps_frame _ _ _).2 (close_closed r))

/-- `Close` does not cancel or outrun a retransmission in flight: the resend goroutine held in
the downstream `Write` is still there, and `Close` is waiting for it (it returns at `resume`). -/
theorem close_waits_for_inflight (r : Resp) (pd : Pending) (h : r.pending = some pd) :
    r.close.pending = some pd ∧ r.close.closeWaiting = true := by
  refine ⟨by rw [close_pending, h], ?_⟩
  rw [close_closeWaiting, h]; simp

example : ∃ r : Resp, ∃ pd, r.pending = some pd :=
  ⟨{ size := 1, streams := #[], bound := [], rtxNext := 0, hold := true,
     pending := some { w := 0, held := default, rest := [] }, closed := false, closeWaiting := false }, _, rfl⟩

/-- nothing is written after `Close` has returned: once the pending resend (if any) has finished —
the latest point at which `Close` returns — no operation history makes a NACK or a resumed
goroutine write anything. -/
theorem nothing_after_close_returns (r : Resp) (sp : Specs) (ops : List Op) (ssrc : Nat)
    (pairs : List (Nat × Nat)) :
    let r3 := (runOps r.close.resume.1 sp ops).1
    r3.nack ssrc pairs = (r3, []) ∧ r3.resume.2 = [] := by
  intro r3
  have hc : r.close.resume.1.closed = true := by rw [resume_closed, close_closed]
  refine ⟨nack_closed _ _ _ ((runOps_frame _ _ _).2 hc), ?_⟩
  apply resume_idle
  show (runOps r.close.resume.1 sp ops).1.pending = none
  rw [(runOps_frame _ _ _).1, resume_pending]

/-- T5 for `Close`, slots: every stream that was bound has an all-empty ring afterwards. -/
theorem close_empties (r : Resp) (e : Nat × Nat) (he : e ∈ r.bound) (st : Stream) (b : Buf Pkt)
    (hs : r.close.streams[e.2]? = some st) (hb : st.buf = some b) (i : Nat) : slot b.slots i = none := by
  unfold Resp.close at hs
  exact clearList_allEmpty r.bound _ e.2 (Or.inl ⟨e, he, rfl⟩) st b hs hb i

/-- T4 link, `Add`: for every packet `a`, "in the ring afterwards" + "released by this Add" =
"in the ring before" + "is the new packet" (a count equation; it is the balance of the machine's `evict*` then
`store` | `drop`, which is not stated as a run of the machine); the one exception is a repeat of the highest
number, which is neither stored nor released (the machine's packet that stays in the writer's hand). -/
theorem add_releases_exactly {α : Type} [DecidableEq α] (seqOf : α → Nat) (b : Buf α) (s : SBuf α)
    (h : Inv seqOf b s) (p a : α) :
    if b.started = true ∧ sub16 (seqOf p) b.highest = 0 then add seqOf b p = (b, [])
    else (occ (add seqOf b p).1.slots).count a + (add seqOf b p).2.count a
           = (occ b.slots).count a + [p].count a := by
  have hix : ∀ x, ix b.size x < b.size := ix_lt h.valid
  -- storing `p` over whatever is in its slot
  have hset := fun (sl : Array (Option α)) (hsl : sl.size = b.size) =>
    count_occ_set a sl (ix b.size (seqOf p)) (by rw [hsl]; exact hix _) (some p)
  by_cases hst : b.started = false
  · rw [if_neg (by simp [hst]), add_first p hst]
    have hslot : slot b.slots (ix b.size (seqOf p)) = none := by
      rw [h.slots _ (hix _), h.fresh (by rw [← h.started_eq]; exact hst)]; rfl
    have := hset b.slots h.ssize
    rw [hslot] at this
    simpa using this
  · have hs : b.started = true := by simpa using hst
    by_cases hd0 : sub16 (seqOf p) b.highest = 0
    · rw [if_pos ⟨hs, hd0⟩]; exact add_repeat p hs hd0
    · rw [if_neg (fun c => hd0 c.2)]
      by_cases hd : sub16 (seqOf p) b.highest < 32768
      · rw [add_newer p hs hd0 hd]
        simp only [List.count_append]
        have h1 := count_clear a b.size hix b.slots h.ssize (add16 b.highest 1) (sub16 (seqOf p) b.highest - 1)
        have h2 := hset (clearSlots b.size b.slots (add16 b.highest 1) (sub16 (seqOf p) b.highest - 1))
          ((clearSlots_size ..).trans h.ssize)
        simp only [Option.toList_some] at h2
        omega
      · by_cases hw : sub16 b.highest (seqOf p) < b.size
        · rw [add_late p hs hd0 hd hw]
          simpa using hset b.slots h.ssize
        · rw [add_old p hs hd0 hd hw]

/-- T4 link, `Clear`: releases exactly the ring's contents and leaves the ring empty. -/
theorem clear_releases_exactly {α : Type} [DecidableEq α] (b : Buf α) (a : α) :
    (clear b).2.count a = (occ b.slots).count a ∧ occ (clear b).1.slots = [] := by
  constructor
  · rfl
  · unfold clear occ
    simp only [Array.toList_replicate]
    induction b.slots.size with
    | zero => rfl
    | succ n ih => simp [List.replicate_succ, ih]

/-- meaning of the spec, S1: a packet the spec accepts (anything but a repeat of the highest number
or a late send outside the window) is the retransmittable packet for its number. -/
theorem spec_last_sent_wins {α : Type} (seqOf : α → Nat) (s : SBuf α) (h : SBuf.WF seqOf s) (p : α)
    (hp : seqOf p < 65536) (ha : s.accepts seqOf p) : (s.send seqOf p).get seqOf (seqOf p) = some p := by
  have hself : sub16 (seqOf p) (seqOf p) < s.size := by rw [sub16_self _ hp]; exact h.pos
  refine SBuf.send_cases (motive := fun s' => s'.get seqOf (seqOf p) = some p) s p ?_ ?_ ?_ ?_ ?_
  · intro _; rw [SBuf.get_cons, if_pos ⟨hself, rfl⟩]
  · intro hs h0; rcases ha with ha | ha
    · rw [hs] at ha; cases ha
    · exact absurd h0 ha.1
  · intro _ _ _; rw [SBuf.get_cons, if_pos ⟨hself, rfl⟩]
  · intro _ _ _ hw; rw [SBuf.get_cons, if_pos ⟨hw, rfl⟩]
  · intro hs _ hd hw; rcases ha with ha | ⟨_, ha | ha⟩
    · rw [hs] at ha; cases ha
    · exact absurd ha hd
    · exact absurd ha hw

/-- meaning of the spec, S2: a send does not change the retransmittable packet of any other number
that is still within the most recent `size` numbers. -/
theorem spec_others_kept {α : Type} (seqOf : α → Nat) (s : SBuf α) (h : SBuf.WF seqOf s) (p : α)
    (hp : seqOf p < 65536) (x : Nat) (hx : x < 65536) (hne : x ≠ seqOf p)
    (hw : sub16 (s.send seqOf p).hi x < s.size) : (s.send seqOf p).get seqOf x = s.get seqOf x := by
  have hne' : ∀ hi, ¬ (sub16 hi x < s.size ∧ seqOf p = x) := fun _ c => hne c.2.symm
  revert hw
  refine SBuf.send_cases (motive := fun s' => sub16 s'.hi x < s.size → s'.get seqOf x = s.get seqOf x)
    s p ?_ (fun _ _ _ => rfl) ?_ ?_ (fun _ _ _ _ _ => rfl)
  · intro hst _
    rw [SBuf.get_cons, if_neg (hne' _), SBuf.get_nil rfl, SBuf.get_nil (h.fresh hst)]
  · intro _ _ _ hw
    rw [SBuf.get_cons, if_neg (hne' _)]
    unfold SBuf.get
    have hw' : inWin s.size (seqOf p) x = true := decide_eq_true hw
    simp only [hw', if_true]
    -- inside the new window the filter does not matter for packets numbered x
    rw [find?_filter_of_imp (fun a _ ea => by rw [of_decide_eq_true ea]; exact hw')]
    split
    · rfl
    · -- x was above the old highest: nothing remembered carries it
      rename_i hold
      apply List.find?_eq_none.2
      intro a ha c
      rw [decide_eq_true_eq] at c
      have := (h.inwin a ha).2
      rw [c] at this
      exact hold (decide_eq_true this)
  · intro _ _ _ _ _
    rw [SBuf.get_cons, if_neg (hne' _)]

/-- the spec's well-formedness is established by `new` (for a positive size) and kept by `send`. -/
theorem spec_wf {α : Type} (seqOf : α → Nat) :
    (∀ n, 0 < n → SBuf.WF seqOf (SBuf.new n : SBuf α)) ∧
    (∀ (s : SBuf α) p, SBuf.WF seqOf s → seqOf p < 65536 → SBuf.WF seqOf (s.send seqOf p)) :=
  ⟨fun n hn => ⟨hn, by simp [SBuf.new], by simp [SBuf.new], fun _ => rfl⟩, fun s p h hp => SBuf.wf_send h p hp⟩

example : SBuf.accepts id (SBuf.new 8 : SBuf Nat) 5 := Or.inl rfl

end Interceptor.RtpBuffer

namespace Interceptor.RefMachine

/-- ★ T4 `refcount_safe` (all schedules of the abstract machine): a packet that a resend
goroutine holds between `Get` and `Release`, or that is still in the ring, has not been handed
back to the pool (`freed id = false`).  The machine carries no packet contents; for the Go code,
where a buffer is recycled only by the `Release` that reaches count 0, this is what keeps the
bytes a resend writes equal to the bytes that were stored. -/
theorem refcount_safe (s : St) (hr : Reachable s) (id : Nat)
    (h : id ∈ s.inflight ∨ id ∈ s.ring) : s.freed id = false := by
  have hi := inv_reachable hr
  cases hf : s.freed id with
  | false => rfl
  | true =>
    have h0 := hi.freed id hf
    have hc := hi.count id
    rcases h with h | h
    · have := count_pos' h; omega
    · have := count_pos' h; omega

/-- T4, the counting invariant: `count = [in ring] + [held by a writer] + #in-flight`. -/
theorem refcount_count (s : St) (hr : Reachable s) (id : Nat) :
    s.cnt id = s.ring.count id + s.hand.count id + s.inflight.count id :=
  (inv_reachable hr).count id

/-- T4: storage is in the pool only at count 0, when nothing references the packet any more (so it
is handed back at most once and never used afterwards). -/
theorem pool_only_at_zero (s : St) (hr : Reachable s) (id : Nat) (hf : s.freed id = true) :
    s.cnt id = 0 ∧ id ∉ s.ring ∧ id ∉ s.inflight ∧ id ∉ s.hand := by
  have hi := inv_reachable hr
  have h0 := hi.freed id hf
  have hc := hi.count id
  refine ⟨h0, ?_, ?_, ?_⟩ <;> intro hm <;> have := count_pos' hm <;> omega

/-- non-vacuity: a schedule in which a packet is evicted while a resend holds it is reachable, and
the packet is still live there. -/
example : ∃ s, Reachable s ∧ 0 ∈ s.inflight ∧ 0 ∉ s.ring ∧ s.freed 0 = false ∧ s.cnt 0 = 1 := by
  have s1 := Reachable.step Reachable.init (Step.new init)
  have s2 := Reachable.step s1 (Step.store _ 0 (by simp [init]))
  have s3 := Reachable.step s2 (Step.get _ 0 (by simp [init]) (by simp [init]))
  have s4 := Reachable.step s3 (Step.evict _ 0 (by simp [init]))
  exact ⟨_, s4, by simp [rel, init], by simp [rel, init], by simp [rel, init], by simp [rel, init]⟩

end Interceptor.RefMachine
