/-
C03 — the receive-log theorems restated on the code itself: on the Lean definitions that extract/fn.go
regenerates from pkg/nack/receive_log.go on every run (Gen/Fn_nack.lean): the generated `add` run over an
arbitrary list of uint16 arrivals from the state `newReceiveLog(size)` builds (`FnNack.newGo`), then the
generated `missingSeqNumbers(skipLastN, make([]uint16, size))` — the call `GeneratorInterceptor.loop` makes
per bound stream per tick.  Each statement follows from the model theorem of Props/C03.lean and the
source-equals-model theorems of Facts/FnNack.lean (`new_rel`, `add_src_eq_model`, `win_new`, `win_add`,
`missingSeqNumbers_src_eq_model_of_window`, chained here over arbitrary arrival lists).  No ★ statement mentions
the hand-written model `ReceiveLog.Log` (only the helpers `srcRun_rel`, `srcMissing_eq_model` do); the right-hand sides are the specification over unwrapped sequence
numbers of Spec/Nack.lean (`runSpec`: first number received, highest number received, numbers received
inside the window) — the definition of "the true value" in the property itself.

Hypotheses: `size` is one `newReceiveLog` accepts (`validSize`: 64, 128, …, 32768), every arrival is a uint16.
Fuel 65536 per call suffices for every loop of the generated code (`srcMissing … = some …` says the Go loops
terminate and no slice index is out of range).
-/
import Interceptor.Facts.FnNack
import Interceptor.Props.C03
namespace Interceptor.C03Src
open Interceptor Interceptor.Gen.Fn Interceptor.GoSem Interceptor.ReceiveLog Interceptor.Facts.FnNack

/-- run the generated `add` over a list of arrivals (`none`: some call ran out of fuel). -/
def srcRun (fuel : Nat) : S_nack_receiveLog → List Nat → Option S_nack_receiveLog
  | g, [] => some g
  | g, q :: qs => match nack_receiveLog_add fuel g (q : Int) with
    | none => none
    | some g' => srcRun fuel g' qs

/-- `newReceiveLog(size)`, the arrivals `qs`, then `missingSeqNumbers(skip, make([]uint16, size))`. -/
def srcMissing (fuel size : Nat) (qs : List Nat) (skip : Nat) : Option (List Int) :=
  match srcRun fuel (newGo size) qs with
  | none => none
  | some g => nack_receiveLog_missingSeqNumbers fuel g (skip : Int) (mkSlice (size : Int))

/-- the step theorems chain: the generated `add` over any uint16 arrivals, from related states with the window
invariant, terminates in related states with the window invariant. -/
theorem srcRun_rel (fuel : Nat) (hf : 65536 ≤ fuel) (qs : List Nat) (hq : ∀ x ∈ qs, x < 65536) :
    ∀ (g : S_nack_receiveLog) (m : Log), Rel g m → Win m →
      ∃ g', srcRun fuel g qs = some g' ∧ Rel g' (qs.foldl ReceiveLog.add m) ∧ Win (qs.foldl ReceiveLog.add m) := by
  induction qs with
  | nil => intro g m r w; exact ⟨g, rfl, r, w⟩
  | cons q qs ih =>
    intro g m r w
    have hq0 : q < 65536 := hq q (by simp)
    obtain ⟨g1, e1, r1⟩ := add_src_eq_model r q hq0 fuel hf
    obtain ⟨g', e', r', w'⟩ := ih (fun x hx => hq x (by simp [hx])) g1 _ r1 (win_add r w q hq0)
    exact ⟨g', by simp only [srcRun, e1, e'], by simpa using r', by simpa using w'⟩

/-- (helper: the composition with the model, before the model theorem is applied) the generated code from the
constructor over any uint16 arrivals terminates, and
`missingSeqNumbers` with the caller's scratch slice `make([]uint16, size)` returns the model's list (so the
scratch slice is always long enough: no index panic). -/
theorem srcMissing_eq_model (fuel : Nat) (hf : 65536 ≤ fuel) (size : Nat) (hv : validSize size = true)
    (qs : List Nat) (hq : ∀ x ∈ qs, x < 65536) (skip : Nat) :
    srcMissing fuel size qs skip = some ((missing (runLog size qs) skip).map fun (x : Nat) => (x : Int)) := by
  obtain ⟨g, e, r, w⟩ := srcRun_rel fuel hf qs hq (newGo size) (ReceiveLog.new size) (new_rel size hv) (win_new size)
  have hsize : (runLog size qs).size = size := by
    cases qs with
    | nil => rfl
    | cons q qs =>
      obtain ⟨a, lcU, _, hR⟩ := inv_run size (validSize_ok size hv) q qs hq
      exact hR.hsize
  have hsz : (qs.foldl ReceiveLog.add (ReceiveLog.new size)).size ≤ (mkSlice (size : Int)).length := by
    have : (qs.foldl ReceiveLog.add (ReceiveLog.new size)).size = size := hsize
    rw [this]; simp [mkSlice]
  unfold srcMissing
  rw [e]
  exact missingSeqNumbers_src_eq_model_of_window r w skip _ hsz fuel hf

/-- membership in the returned `[]uint16`, read on the model's list of `Nat`s: the 16-bit value of `x` is in the
one iff `sq x` is in the other. -/
theorem mem_map_cast (l : List Nat) (x : Int) :
    x % 65536 ∈ l.map (fun (n : Nat) => (n : Int)) ↔ sq x ∈ l := by
  rw [← sq_cast, List.mem_map]
  exact ⟨fun ⟨n, hn, hc⟩ => Int.natCast_inj.mp hc ▸ hn, fun hm => ⟨_, hm, rfl⟩⟩

/-- ★ C03, the main clause on the code ("the set of sequence numbers requested equals exactly those that lie
after the first packet ever received, within the configured window behind the highest sequence number received
(less the configured skip-last-N), and have not been received"): after ANY list of uint16 arrivals (loss,
duplication, reordering, jumps, wrap-around, arbitrarily late packets), for every size the constructor accepts
and every `skipLastN`, the generated `add`s followed by the generated `missingSeqNumbers` terminate and return
exactly the specification's missing list (`NackSpec.missing` over the unwrapped history), in ascending order. -/
theorem missing_eq_spec_src (fuel : Nat) (hf : 65536 ≤ fuel) (size : Nat) (hv : validSize size = true)
    (qs : List Nat) (hq : ∀ x ∈ qs, x < 65536) (skip : Nat) :
    srcMissing fuel size qs skip =
      some ((NackSpec.missing size (runSpec size qs) skip).map fun (x : Nat) => (x : Int)) := by
  rw [srcMissing_eq_model fuel hf size hv qs hq skip, missing_eq_spec size (validSize_ok size hv) qs hq skip]

/-- ★ C03 element-wise on the code (all clauses about one stream in one statement): for the unwrapped
representative `x ∈ (hi − 2^16, hi]` of a 16-bit number, the generated code requests `x mod 2^16` iff `x` lies
after the first packet ever received, inside the window, not beyond `hi − skip`, and has not been received. -/
theorem requested_iff_src (fuel : Nat) (hf : 65536 ≤ fuel) (size : Nat) (hv : validSize size = true)
    (qs : List Nat) (hq : ∀ x ∈ qs, x < 65536) (skip : Nat) (a : NackSpec.Stream) (ha : runSpec size qs = some a)
    (x : Int) (hx1 : a.hi - 65536 < x) (hx2 : x ≤ a.hi) :
    ∃ out, srcMissing fuel size qs skip = some out ∧
      (x % 65536 ∈ out ↔ (a.first < x ∧ a.hi - size < x ∧ x ≤ a.hi - skip ∧ x ∉ a.recv)) := by
  refine ⟨_, srcMissing_eq_model fuel hf size hv qs hq skip, ?_⟩
  rw [mem_map_cast]
  exact requested_iff size (validSize_ok size hv) qs hq skip a ha x hx1 hx2

/-- ★ C03 clause "a sequence number that was received inside the window is never requested", on the code. -/
theorem received_never_requested_src (fuel : Nat) (hf : 65536 ≤ fuel) (size : Nat) (hv : validSize size = true)
    (qs : List Nat) (hq : ∀ x ∈ qs, x < 65536) (skip : Nat) (a : NackSpec.Stream) (ha : runSpec size qs = some a)
    (x : Int) (hx : x ∈ a.recv) (hw1 : a.hi - size < x) (hw2 : x ≤ a.hi) :
    ∃ out, srcMissing fuel size qs skip = some out ∧ x % 65536 ∉ out := by
  have hle := (validSize_ok size hv).le
  obtain ⟨out, e, h⟩ := requested_iff_src fuel hf size hv qs hq skip a ha x (by omega) hw2
  exact ⟨out, e, fun hin => (h.mp hin).2.2.2 hx⟩

/-- ★ C03 clause "numbers ahead of the highest received are never requested", on the code: every number the
generated code returns is (the 16-bit value of) an `x` with `hi − size < x ≤ hi − skip`. -/
theorem nothing_ahead_requested_src (fuel : Nat) (hf : 65536 ≤ fuel) (size : Nat) (hv : validSize size = true)
    (qs : List Nat) (hq : ∀ x ∈ qs, x < 65536) (skip : Nat) (a : NackSpec.Stream) (ha : runSpec size qs = some a) :
    ∃ out, srcMissing fuel size qs skip = some out ∧
      ∀ y ∈ out, ∃ x : Int, x % 65536 = y ∧ a.hi - size < x ∧ x ≤ a.hi - skip := by
  refine ⟨_, srcMissing_eq_model fuel hf size hv qs hq skip, ?_⟩
  intro y hy
  obtain ⟨n, hn, rfl⟩ := List.mem_map.mp hy
  obtain ⟨x, rfl, h1, h2⟩ := nothing_ahead_requested size (validSize_ok size hv) qs hq skip a ha n hn
  exact ⟨x, (sq_cast x).symm, h1, h2⟩

/-- ★ C03 clause "after the first packet ever received", on the code: nothing at or before the first packet is
requested. -/
theorem nothing_before_first_requested_src (fuel : Nat) (hf : 65536 ≤ fuel) (size : Nat)
    (hv : validSize size = true) (qs : List Nat) (hq : ∀ x ∈ qs, x < 65536) (skip : Nat) (a : NackSpec.Stream)
    (ha : runSpec size qs = some a) (x : Int) (hx1 : a.hi - 65536 < x) (hx2 : x ≤ a.first) :
    ∃ out, srcMissing fuel size qs skip = some out ∧ x % 65536 ∉ out := by
  refine ⟨_, srcMissing_eq_model fuel hf size hv qs hq skip, ?_⟩
  rw [mem_map_cast]
  exact nothing_before_first_requested size (validSize_ok size hv) qs hq skip a ha x hx1 hx2

/-! ## non-vacuity: the generated code evaluated on concrete histories (small fuel suffices here) -/

/-- size 64, arrivals 65530, 65534, 2, 65533 (wrap-around, a late packet), skip 1: the generated code requests
65531, 65532, 65535, 0, 1 — which is what the specification says (`missing_eq_spec_src`, `requested_iff_src`,
`nothing_ahead_requested_src`: 2 = hi is skipped; `received_never_requested_src`: 65533, 65534 are not in;
`nothing_before_first_requested_src`: 65530 is not in). -/
example : srcMissing 70 64 [65530, 65534, 2, 65533] 1 = some [65531, 65532, 65535, 0, 1] ∧
    NackSpec.missing 64 (runSpec 64 [65530, 65534, 2, 65533]) 1 = [65531, 65532, 65535, 0, 1] ∧
    validSize 64 = true := by
  refine ⟨by decide +kernel, by decide, by decide⟩

/-- the specification state of that history: first 65530, highest 65538 (= 2 after the wrap), received inside
the window 65530, 65533, 65534, 65538. -/
example : (runSpec 64 [65530, 65534, 2, 65533]).map (fun a => (a.first, a.hi, a.recv))
    = some (65530, 65538, [65533, 65538, 65534, 65530]) := by decide

/-- non-vacuity of `requested_iff_src`: x = 65535 (after the first packet, inside the window, ≤ hi − 1, not
received) is requested; x = 65537 = 1 (mod 2^16) likewise. -/
example : (srcMissing 70 64 [65530, 65534, 2, 65533] 1).map (fun out =>
    (decide ((65535 % 65536 : Int) ∈ out), decide ((65537 % 65536 : Int) ∈ out))) = some (true, true) := by
  decide +kernel

/-- non-vacuity of `received_never_requested_src`: 65533 and 65534 were received inside the window. -/
example : (srcMissing 70 64 [65530, 65534, 2, 65533] 1).map (fun out =>
    (decide ((65533 % 65536 : Int) ∈ out), decide ((65534 % 65536 : Int) ∈ out))) = some (false, false) := by
  decide +kernel

/-- non-vacuity of `nothing_ahead_requested_src`: with skip 1 the highest number 65538 (= 2) is not requested,
nor is anything ahead of it (65539 = 3); every requested number is ≥ hi − 63. -/
example : (srcMissing 70 64 [65530, 65534, 2, 65533] 1).map (fun out =>
    (decide ((65538 % 65536 : Int) ∈ out), decide ((65539 % 65536 : Int) ∈ out))) = some (false, false) := by
  decide +kernel

/-- non-vacuity of `nothing_before_first_requested_src`: 65530 (the first packet) and 65529 (before it, inside
the window of 64) are not requested. -/
example : (srcMissing 70 64 [65530, 65534, 2, 65533] 1).map (fun out =>
    (decide ((65530 % 65536 : Int) ∈ out), decide ((65529 % 65536 : Int) ∈ out))) = some (false, false) := by
  decide +kernel

/-- the F-01 pattern: 36 = 100 − 64 arrives when the window is (37, 101]; the generated code ignores it and
keeps requesting 100 (same slot as 36). -/
example : srcMissing 200 64 [0, 99, 101, 36] 0 = some ((List.range 61).map (fun n => ((n + 38 : Nat) : Int)) ++ [100]) := by
  decide +kernel

end Interceptor.C03Src
