/-
C03 — the NACK generator requests exactly the packets that are missing.
Helper lemmas: Proofs/ReceiveLog*.lean.

Model: Model/ReceiveLog.lean (receive_log.go + the tick body of generator_interceptor.go, with the
repairs of F-01, F-02, F-03, F-03b).  Spec: Spec/Nack.lean (unwrapped numbers).
`SizeOK size` = `0 < size ≤ 32768 ∧ size ∣ 65536` (the constructor admits 64 … 32768, powers of two).
-/
import Interceptor.Proofs.ReceiveLogMissing
import Interceptor.Spec.NackRun
namespace Interceptor.ReceiveLog
open Interceptor

/-- every size the Go constructor accepts is admissible for the theorems. -/
theorem validSize_ok (size : Nat) (h : validSize size = true) : SizeOK size :=
  have ⟨h1, h2, _, h4⟩ := validSize_table size h
  ⟨Nat.lt_of_lt_of_le (by decide) h1, h2, h4⟩

/-- T1a: the refinement invariant `R` holds after the first packet, whatever it is. -/
theorem inv_first (size : Nat) (hs : SizeOK size) (q : Nat) (hq : q < 65536) :
    R size (add (new size) q) { first := q, hi := q, recv := [(q : Int)] } q :=
  R_init hs q hq

/-- ★ T1b: the invariant is preserved by `add` for EVERY 16-bit sequence number `q` (in order,
duplicate, any forward jump < 2^15, any late packet inside or outside the window), and the
related specification state is the one `arrive` computes. -/
theorem inv_add (size : Nat) (hs : SizeOK size) (l : Log) (a : NackSpec.Stream) (lcU : Int)
    (h : R size l a lcU) (q : Nat) (hq : q < 65536) :
    ∃ (a' : NackSpec.Stream) (lcU' : Int),
      NackSpec.arrive size (some a) q = some a' ∧ R size (add l q) a' lcU' :=
  R_add hs h q hq

/-- the invariant along any history. -/
theorem inv_run (size : Nat) (hs : SizeOK size) (q : Nat) (qs : List Nat) (hq : ∀ x ∈ q :: qs, x < 65536) :
    ∃ (a : NackSpec.Stream) (lcU : Int), runSpec size (q :: qs) = some a ∧ R size (runLog size (q :: qs)) a lcU :=
  R_foldl hs qs (fun x hx => hq x (List.mem_cons_of_mem _ hx)) (R_init hs q (hq q List.mem_cons_self))

/-- ★ T2: after ANY arrival history (loss, duplication, reordering, jumps, wrap-around, arbitrarily
late packets), for every admissible window size and every `skipLastN`, `missingSeqNumbers`
returns exactly the specification's missing list: the numbers after the first packet ever
received, inside the window behind the highest number, at most `highest − skip`, not received —
in ascending order. -/
theorem missing_eq_spec (size : Nat) (hs : SizeOK size) (qs : List Nat) (hq : ∀ x ∈ qs, x < 65536)
    (skip : Nat) :
    missing (runLog size qs) skip = NackSpec.missing size (runSpec size qs) skip := by
  cases qs with
  | nil =>
    show missing (new size) skip = []
    unfold missing
    rw [show (new size).end_ = 0 from rfl, show (new size).lc = 0 from rfl]
    by_cases h : skip > sub16 0 0
    · rw [if_pos h]
    · rw [if_neg h]
      have : sub16 (sub16 0 skip) 0 = 0 := by unfold sub16 at *; omega
      show List.filter _ (List.map _ (List.range (sub16 (sub16 0 skip) 0))) = []
      rw [this]; rfl
  | cons q qs =>
    obtain ⟨a, lcU, e, h⟩ := inv_run size hs q qs hq
    rw [e]
    exact missing_R hs h skip

/-- ★ T2, element-wise: for the unwrapped representative `x ∈ (hi − 2^16, hi]` of a 16-bit number,
`x` is requested iff it lies after the first packet, inside the window, not beyond `hi − skip`,
and has not been received.  (All clauses of the property about one stream in one statement.) -/
theorem requested_iff (size : Nat) (hs : SizeOK size) (qs : List Nat) (hq : ∀ x ∈ qs, x < 65536)
    (skip : Nat) (a : NackSpec.Stream) (ha : runSpec size qs = some a)
    (x : Int) (hx1 : a.hi - 65536 < x) (hx2 : x ≤ a.hi) :
    sq x ∈ missing (runLog size qs) skip ↔
      (a.first < x ∧ a.hi - size < x ∧ x ≤ a.hi - skip ∧ x ∉ a.recv) := by
  obtain ⟨lcU, hR⟩ := R_of_runSpec hs qs hq ha
  exact requested_iff_R hs hR skip x hx1 hx2

/-- corollary (property clause): a number received inside the window is never requested. -/
theorem received_never_requested (size : Nat) (hs : SizeOK size) (qs : List Nat) (hq : ∀ x ∈ qs, x < 65536)
    (skip : Nat) (a : NackSpec.Stream) (ha : runSpec size qs = some a)
    (x : Int) (hx : x ∈ a.recv) (hw1 : a.hi - size < x) (hw2 : x ≤ a.hi) :
    sq x ∉ missing (runLog size qs) skip := by
  have hle := hs.le
  intro hin
  exact ((requested_iff size hs qs hq skip a ha x (by omega) hw2).mp hin).2.2.2 hx

/-- corollary (property clause): nothing ahead of the highest received number (nor within the last
`skip` numbers) is requested: every requested number is between `skip` and `size − 1` behind `end`. -/
theorem nothing_ahead_requested (size : Nat) (hs : SizeOK size) (qs : List Nat) (hq : ∀ x ∈ qs, x < 65536)
    (skip : Nat) (a : NackSpec.Stream) (ha : runSpec size qs = some a)
    (y : Nat) (hy : y ∈ missing (runLog size qs) skip) :
    ∃ x : Int, sq x = y ∧ a.hi - size < x ∧ x ≤ a.hi - skip := by
  obtain ⟨lcU, hR⟩ := R_of_runSpec hs qs hq ha
  obtain ⟨x, hm, e⟩ := (mem_missing_R hs hR skip y).mp hy
  exact ⟨x, e, hm.2.1, hm.2.2.1⟩

/-- corollary (property clause): nothing at or before the first packet ever received is requested. -/
theorem nothing_before_first_requested (size : Nat) (hs : SizeOK size) (qs : List Nat)
    (hq : ∀ x ∈ qs, x < 65536) (skip : Nat) (a : NackSpec.Stream) (ha : runSpec size qs = some a)
    (x : Int) (hx1 : a.hi - 65536 < x) (hx2 : x ≤ a.first) :
    sq x ∉ missing (runLog size qs) skip := by
  obtain ⟨lcU, hR⟩ := R_of_runSpec hs qs hq ha
  have := hR.hfirst
  have := hR.hle
  intro hin
  have := ((requested_iff_R hs hR skip x hx1 (by omega)).mp hin).1
  omega

/-- non-vacuity (DESIGN §6): size 64, arrivals 65530, 65534, 2, 65533, skip 1: the hypotheses are
met and the requested numbers are 65531, 65532, 65535, 0, 1. -/
example : missing (runLog 64 [65530, 65534, 2, 65533]) 1 = [65531, 65532, 65535, 0, 1] ∧
    NackSpec.missing 64 (runSpec 64 [65530, 65534, 2, 65533]) 1 = [65531, 65532, 65535, 0, 1] ∧
    SizeOK 64 := by
  refine ⟨by decide +kernel, by decide +kernel, by decide, by decide, by decide⟩

set_option maxRecDepth 8000 in
/-- the F-01 pattern on the repaired model: 36 = 100 − 64 arrives when the window is (37, 101]; it is
ignored and the missing number 100 (same slot as 36) stays requested. -/
example : missing (runLog 64 [0, 99, 101, 36]) 0 = (List.range 61).map (· + 38) ++ [100] := by decide +kernel

end Interceptor.ReceiveLog
