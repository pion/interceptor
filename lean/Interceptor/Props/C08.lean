/-
C08 — RFC 8888 reports reflect the reception history and respect the size limit.
Model: Model/Rfc8888.lean (the code with the fixes F-10, F-11, F-12, F-13); spec notions (`firstArrival`,
`exec`, `reportAfter`, `rangeBegin`, `reportedAs`, `atoSpec`): Spec/Rfc8888.lean; helper lemmas:
Proofs/Rfc8888.lean, Proofs/Rfc8888Aux.lean, Proofs/Rfc8888Ato.lean.
Histories are lists of events on unwrapped numbers, newest first; `NonNeg h` says the numbers
are ≥ 0 (what the unwrapper returns: C20 `unwrap_nonneg`) and the budgets are ≥ 0 (what
`BuildReport` passes: `perStream_nonneg`).
-/
import Interceptor.Proofs.Rfc8888Aux
import Interceptor.Proofs.Rfc8888Ato
set_option linter.unusedVariables false
namespace Interceptor.Rfc8888

/-- ★ T1 `block_range`: every emitted block is the contiguous range of numbers ending at `last`
(the highest number received), of length `min(last − next + 1, budget)`; `begin` is the uint16 of
its first number, which is `max(next, last − budget + 1)`; the j-th metric block describes the
j-th number of the range; and `last` itself has a stored record whenever the range is non-empty. -/
theorem block_range (l : StreamLog) (ref b : Int) (hI : Inv l) (hi : l.init = true) (hb : 0 ≤ b) :
    let blk := (metricsAfter l ref b).2
    let len := min (l.last - l.next + 1) b
    blk.ssrc = l.ssrc ∧ (blk.metrics.length : Int) = len ∧ l.last + 1 - len = rangeBegin l b ∧
    blk.begin = u16 (rangeBegin l b) ∧
    (∀ j : Nat, (j : Int) < len →
      blk.metrics[j]? = some (mkMetric ref (lookup l.log (rangeBegin l b + j)))) ∧
    (l.next ≤ l.last → lookup l.log l.last ≠ none) := by
  dsimp only
  have hord := hI.ord hi
  -- the length in terms of the first number listed; everything else is linear in it
  have hl : min (l.last - l.next + 1) b = l.last + 1 - rangeBegin l b ∧ 0 ≤ l.last + 1 - rangeBegin l b := by
    unfold rangeBegin; omega
  rw [hl.1, metricsAfter_block l ref b hI hi hb]
  refine ⟨rfl, ?_, by omega, rfl, fun j hj => emit_get ref _ _ _ j (by omega), hI.top hi⟩
  rw [emit_length]; exact Int.toNat_of_nonneg hl.2

/-- ★ T2 `received_iff`: the report built after history `h` lists exactly the numbers
`rangeBegin … last`, none of them acknowledged yet (`next ≤ rangeBegin`), and describes number `n`
by `mkMetric ref (firstArrival h n)`: marked received iff a copy of `n` arrived, with the ECN mark
and the arrival time offset of the FIRST copy (false on the unfixed code: F-10). -/
theorem received_iff (ssrc : Nat) (h : List Ev) (hn : NonNeg h) (ref b : Int) (hb : 0 ≤ b)
    (hi : (exec ssrc h).init = true) (n : Int) :
    (exec ssrc h).next ≤ rangeBegin (exec ssrc h) b ∧
    reportedAs (reportAfter ssrc h ref b) (rangeBegin (exec ssrc h) b) n =
      if rangeBegin (exec ssrc h) b ≤ n ∧ n ≤ (exec ssrc h).last
      then some (mkMetric ref (firstArrival h n)) else none := by
  have hge : (exec ssrc h).next ≤ rangeBegin (exec ssrc h) b := Int.le_max_left _ _
  refine ⟨hge, ?_⟩
  unfold reportedAs reportAfter
  rw [metricsAfter_block _ ref b (inv_exec ssrc h hn) hi hb]
  simp only []
  generalize rangeBegin (exec ssrc h) b = rb at hge ⊢
  by_cases h1 : rb ≤ n
  · rw [if_pos h1]
    by_cases h2 : n ≤ (exec ssrc h).last
    · rw [if_pos ⟨h1, h2⟩, emit_get _ _ _ _ _ (by omega), show rb + ((n - rb).toNat : Int) = n by omega,
        exec_first ssrc h n (Int.le_trans hge h1)]
    · rw [if_neg (fun h => h2 h.2), emit_get_none _ _ _ _ _ (by omega)]
  · rw [if_neg h1, if_neg (fun h => h1 h.1)]

/-- T2, read off for one metric block: received ⇔ some copy arrived; ECN and offset are those of
the first copy. -/
theorem received_iff_first (ssrc : Nat) (h : List Ev) (hn : NonNeg h) (ref b : Int) (hb : 0 ≤ b)
    (hi : (exec ssrc h).init = true) (n : Int) (m : Metric)
    (hm : reportedAs (reportAfter ssrc h ref b) (rangeBegin (exec ssrc h) b) n = some m) :
    (m.received = true ↔ firstArrival h n ≠ none) ∧
    (∀ e, firstArrival h n = some e → m.ecn = e.ecn ∧ m.ato = getATO ref e.arrival) := by
  have := (received_iff ssrc h hn ref b hb hi n).2
  rw [this] at hm
  split at hm
  · cases hm
    cases firstArrival h n <;> simp [mkMetric]
  · cases hm

/-- ★ T3 `never_unreceive`: a number reported received by the report after `h1` is reported
received by every later report that still lists it, with the same arrival record. -/
theorem never_unreceive (ssrc : Nat) (h1 h2 : List Ev) (hn : NonNeg (h2 ++ h1))
    (ref1 b1 ref2 b2 : Int) (hb1 : 0 ≤ b1) (hb2 : 0 ≤ b2) (hi : (exec ssrc h1).init = true)
    (n : Int) (m1 m2 : Metric)
    (hr1 : reportedAs (reportAfter ssrc h1 ref1 b1) (rangeBegin (exec ssrc h1) b1) n = some m1)
    (hrec : m1.received = true)
    (hr2 : reportedAs (reportAfter ssrc (h2 ++ h1) ref2 b2) (rangeBegin (exec ssrc (h2 ++ h1)) b2) n = some m2) :
    m2.received = true ∧ ∃ e, firstArrival h1 n = some e ∧ m2 = mkMetric ref2 (some e) := by
  have hn1 := nonNeg_append h2 h1 hn
  have r1 := (received_iff_first ssrc h1 hn1 ref1 b1 hb1 hi n m1 hr1).1.1 hrec
  cases hf : firstArrival h1 n with
  | none => exact absurd hf r1
  | some e =>
    have hf2 := firstArrival_mono h1 h2 n e hf
    have hi2 := exec_init_mono ssrc h1 h2 hi
    have r2 := (received_iff ssrc (h2 ++ h1) hn ref2 b2 hb2 hi2 n).2
    rw [r2] at hr2
    split at hr2
    · rw [hf2] at hr2; cases hr2; exact ⟨rfl, e, rfl, rfl⟩
    · cases hr2

/-- T3, the mechanism: the report cursor never moves backwards. -/
theorem cursor_monotone (l : StreamLog) (ref b : Int) : l.next ≤ (metricsAfter l ref b).1.next :=
  metricsAfter_next_ge l ref b

/-- ★ T4 `next_report_complete`: every number whose first copy has arrived and that is not yet
acknowledged (`next ≤ n`) appears, marked received with its first arrival, in the next report —
unless it is older than the newest `b` numbers (pushed out by the size limit). -/
theorem next_report_complete (ssrc : Nat) (h : List Ev) (hn : NonNeg h) (ref b : Int) (hb : 0 ≤ b)
    (hi : (exec ssrc h).init = true) (n : Int) (e : Entry) (hf : firstArrival h n = some e)
    (hc : (exec ssrc h).next ≤ n) (hnew : (exec ssrc h).last - b < n) :
    reportedAs (reportAfter ssrc h ref b) (rangeBegin (exec ssrc h) b) n =
      some ⟨true, e.ecn, getATO ref e.arrival⟩ := by
  have hI := inv_exec ssrc h hn
  have hl : lookup (exec ssrc h).log n ≠ none := by rw [exec_first ssrc h n hc, hf]; simp
  have hk := hI.keys n hl
  rw [(received_iff ssrc h hn ref b hb hi n).2, if_pos ⟨Int.max_le.mpr ⟨hc, by omega⟩, hk.2⟩, hf]
  rfl

/-- T4, the other half: the cursor passes a number only if it was received and listed as received in
this very report (a gap-free prefix), or if the size limit pushed it out (`n ≤ last − b`).  (A number
below the cursor of the very first packet of a stream is never part of any report.) -/
theorem cursor_passes_only (l : StreamLog) (ref b : Int) (n : Int)
    (h1 : l.next ≤ n) (h2 : n < (metricsAfter l ref b).1.next) :
    n ≤ l.last - b ∨ (rangeBegin l b ≤ n ∧ lookup l.log n ≠ none) := by
  by_cases hr : n < rangeBegin l b
  · left; unfold rangeBegin at hr; omega
  · exact Or.inr ⟨by omega, metricsAfter_passed l ref b n (by omega) h2⟩

/-- ★ T5 `size_bound`: when the maximum size can hold the headers (12 bytes + 8 per stream), the
marshalled report (pion/rtcp length: 12 + Σ (8 + 2·n_i, n_i rounded up to even)) does not exceed it
(false on the unfixed code: F-11). -/
theorem size_bound (r : Recorder) (now maxSize : Int)
    (h : 12 + 8 * (r.streams.length : Int) ≤ maxSize) :
    (marshalledLen (buildReport r now maxSize).2 : Int) ≤ maxSize := by
  unfold buildReport
  by_cases he : r.streams.isEmpty = true
  · simp only [he, if_true, marshalledLen, List.map_nil, List.sum_nil]; omega
  · simp only [he, Bool.false_eq_true, if_false]
    obtain ⟨hp0, hpe⟩ := perStream_nonneg maxSize r.streams.length
    exact buildAll_fits now _ maxSize hp0 hpe r.streams _ (perStream_fits maxSize r.streams.length h)

/-- glue to the code path: `streamLog.add` is `addU` on the unwrapped number, which is ≥ 0 as long
as the unwrapper state is (initially empty; kept by this very step) — so the histories the
Recorder produces satisfy `NonNeg` (budgets: `perStream_nonneg`). -/
theorem add_is_addU_nonneg (l : StreamLog) (ts : Int) (sn ecn : Nat) (hsn : sn < 65536)
    (hs : ∀ x, l.seq = some x → 0 ≤ x) :
    ∃ u : Int, 0 ≤ u ∧ add l ts sn ecn = addU { l with seq := some u } ts u ecn ∧
      (add l ts sn ecn).seq = some u :=
  add_unwrapped l ts sn ecn hsn hs

/-- the per-stream budget `BuildReport` passes to `metricsAfter` is ≥ 0 and even. -/
theorem budget_nonneg_even (maxSize : Int) (k : Nat) :
    0 ≤ perStream maxSize k ∧ perStream maxSize k % 2 = 0 := perStream_nonneg maxSize k

/-- ★ T6 `ato_encoding`: the offset computed by the Go expression in binary64
(`uint16(base.Sub(arrival).Seconds() * 1024.0)` after the saturation test, modelled with the exact
binary64 arithmetic of Base/F64) equals the exact encoding `atoSpec` — `⌊1024·age⌋`, `0x1FFE` from
8190/1024 s upwards, `0x1FFF` for arrivals after the report time — for ALL pairs of times,
including ages > 64 s (false on the unfixed code: F-12) and ages beyond the range of
`time.Duration`. -/
theorem ato_encoding (ref arr : Int) : getATO ref arr = atoSpec ref arr := getATO_eq_spec ref arr

/-- T6 spelled out in nanoseconds. -/
theorem ato_encoding_cases (ref arr : Int) :
    (ref < arr → getATO ref arr = 0x1FFF) ∧
    (arr ≤ ref → 1024 * (ref - arr) < 8190 * 1000000000 →
      (getATO ref arr : Int) = 1024 * (ref - arr) / 1000000000) ∧
    (arr ≤ ref → 8190 * 1000000000 ≤ 1024 * (ref - arr) → getATO ref arr = 0x1FFE) := by
  rw [ato_encoding]
  unfold atoSpec
  refine ⟨fun h => if_pos h, fun h h2 => ?_, fun h h2 => ?_⟩
  · -- `1024·d / 10^9 = 2·d / 1953125`: cancel 512
    rw [if_neg (Int.not_lt.mpr h), show (1024 : Int) * (ref - arr) = 512 * (2 * (ref - arr)) by omega,
      show (1000000000 : Int) = 512 * 1953125 by rfl, Int.mul_ediv_mul_of_pos _ _ (by decide)]
    omega
  · rw [if_neg (Int.not_lt.mpr h)]; omega

example : NonNeg exampleHist ∧ (exec 1 exampleHist).init = true ∧ Inv (exec 1 exampleHist) :=
  ⟨exampleHist_nonNeg, by decide, inv_exec 1 exampleHist exampleHist_nonNeg⟩
/-- T2/T3/T4: 10 was acknowledged by the first report, 11 is still missing, 12 and 13 are listed;
the first copy of 10 (time 3, ECN 1) is the one recorded. -/
example : (exec 1 exampleHist).next = 11 ∧ (exec 1 exampleHist).last = 13 ∧
    firstArrival exampleHist 10 = some ⟨3, 1⟩ ∧ firstArrival exampleHist 11 = none ∧
    firstArrival exampleHist 12 = some ⟨9, 0⟩ ∧
    rangeBegin (exec 1 exampleHist) 10 = 11 ∧ rangeBegin (exec 1 exampleHist) 2 = 12 ∧
    ((reportAfter 1 exampleHist 20 10).metrics.map (·.received)) = [false, true, true] ∧
    ((reportAfter 1 [.add 7 10 3, .add 5 13 0, .add 3 10 1] 8 10).metrics.map (·.received))
      = [true, false, false, true] := by decide
/-- T5: the budgets of the two F-11 witnesses (1 stream / 27 bytes, 2 streams / 1200 bytes). -/
example : perStream 27 1 = 2 ∧ perStream 1200 2 = 292 ∧ perStream 1500 1 = 740 ∧ perStream 19 1 = 0 := by decide
/-- T6: boundaries of the encoding. -/
example : atoSpec 1000000000 0 = 1024 ∧ atoSpec 7998046874 0 = 8189 ∧ atoSpec 7998046875 0 = 8190 ∧
    atoSpec 65000000000 0 = 8190 ∧ atoSpec 0 1 = 8191 ∧ atoSpec 976562 0 = 0 ∧ atoSpec 976563 0 = 1 := by decide

end Interceptor.Rfc8888
