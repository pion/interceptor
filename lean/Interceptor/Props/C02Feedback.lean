/-
C02 (clause for the feedback decoders) — no parsed feedback, however inconsistent, makes a
decoder panic.  The models (Model/FeedbackAdapter.lean, Model/Rtpfb.lean) represent every Go
index / slice expression of the decoders by a checked access that yields `Res.panic`; the
theorems quantify over EVERY value of the parsed structures (any run length, status count,
symbol value, delta list, metric list) and every history.
-/
import Interceptor.Proofs.RtpfbSpec
namespace Interceptor.C02Feedback
open Interceptor Interceptor.Feedback

/-- ★ `FeedbackAdapter.OnTransportCCFeedback` never panics (`deltas[deltaIndex]`,
`recvDeltas[n:]`), for every history and every parsed feedback. -/
theorem onTWCC_total (h : FeedbackAdapter.Hist) (fb : Twcc) (site : String) :
    FeedbackAdapter.onTWCC h fb ≠ .panic site :=
  Res.sat_ne_panic (FeedbackAdapter.chunkLoop_sat h fb.chunks fb.base _ fb.deltas) site

/-- ★ `rtpfb.convertTWCC` always returns normally (`feedback.RecvDeltas[recvDeltaIndex]`);
false before the fix of F-16 (witness corpus/C02/F-16.ops). -/
theorem convertTWCC_total (fb : Twcc) : ∃ acks, Rtpfb.convertTWCC fb = .ok acks := by
  unfold Rtpfb.convertTWCC
  rw [Rtpfb.chunkLoop_eq_symLoop, Rtpfb.symLoop_eq]
  generalize Rtpfb.symOut .. = o
  cases o <;> exact ⟨_, rfl⟩

/-- ★ `rtpfb.convertCCFB` / `convertMetricBlock` always return normally (`reports[i]`). -/
theorem convertCCFB_total (fb : Ccfb) : ∃ r, Rtpfb.convertCCFB fb = .ok r := by
  unfold Rtpfb.convertCCFB
  obtain ⟨r, hr⟩ := Rtpfb.blockLoop_ok fb.ref fb.blocks [] 0 false
  rw [hr]
  obtain ⟨res, latest, found⟩ := r
  exact ⟨_, rfl⟩

/-- ★ `Interceptor.processFeedback` (the body of the RTCP reader after parsing) always returns
normally, for every history and every list of parsed TWCC / RFC 8888 / other RTCP packets. -/
theorem processFeedback_total (h : Rtpfb.Hist) (ts : Int) (pkts : List Rtpfb.Pkt) :
    ∃ r, Rtpfb.processFeedback h ts pkts = .ok r := by
  have loop : ∀ (pkts : List Rtpfb.Pkt) (h : Rtpfb.Hist) (sh ad : Int),
      ∃ r, Rtpfb.pktLoop ts pkts h sh ad = .ok r := by
    intro pkts
    induction pkts with
    | nil => intro h sh ad; exact ⟨_, rfl⟩
    | cons p ps ih =>
      intro h sh ad
      cases p with
      | twcc fb =>
        unfold Rtpfb.pktLoop
        obtain ⟨acks, ha⟩ := convertTWCC_total fb
        rw [ha]
        exact ih _ _ _
      | ccfb fb =>
        unfold Rtpfb.pktLoop
        obtain ⟨r, hr⟩ := convertCCFB_total fb
        rw [hr]
        exact ih _ _ _
      | other =>
        unfold Rtpfb.pktLoop
        exact ih _ _ _
  unfold Rtpfb.processFeedback
  obtain ⟨r, hr⟩ := loop pkts h Rtpfb.maxInt64 0
  rw [hr]
  exact ⟨_, rfl⟩

/-- non-vacuity: the inconsistent feedback of F-16 (status count 1, run length 2, one delta) is
ignored, not a panic. -/
example : Rtpfb.convertTWCC ⟨0, 1, 0, [.rl 1 2], [250]⟩ = .ok [⟨0, true, 250000, 0⟩] := by decide

/-- non-vacuity: fewer deltas than received symbols within the count ⇒ feedback ignored. -/
example : Rtpfb.convertTWCC ⟨0, 7, 0, [.sv [1, 2, 1, 0, 0, 0, 0]], [250, -250]⟩ = .ok [] := by decide

/-- non-vacuity: the adapter rejects it with an error. -/
example : FeedbackAdapter.onTWCC [] ⟨0, 1, 0, [.rl 1 2], [250]⟩ = .err "invalid" := by decide

end Interceptor.C02Feedback
